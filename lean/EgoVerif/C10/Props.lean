import EgoVerif.C10.Step
import EgoVerif.C10.Spec
/-
C10 — property theorems over the VM model (VM.lean, Step.lean).  All statements quantify over
arbitrary contexts: the stack above the try marker may hold any number of call frames (dynamic
depth), the try stack any number of spent entries, the defer list any length.
-/
namespace EgoVerif.C10

theorem findLive_spent (spent : List Nat) (a : Nat) (below : List Nat)
    (hs : ∀ x ∈ spent, x = 0) (ha : a > 0) :
    findLive (spent ++ a :: below) = some (spent.length, a, below) := by
  induction spent with
  | nil => simp [findLive, ha]
  | cons x xs ih =>
    obtain ⟨rfl, hs'⟩ := List.forall_mem_cons.1 hs
    simp [findLive, ih hs']

theorem findLive_none (l : List Nat) (hs : ∀ x ∈ l, x = 0) : findLive l = none := by
  induction l with
  | nil => rfl
  | cons x xs ih =>
    obtain ⟨rfl, hs'⟩ := List.forall_mem_cons.1 hs
    simp [findLive, ih hs']

theorem findLive_some {l : List Nat} {n a : Nat} {b : List Nat} (h : findLive l = some (n, a, b)) :
    a > 0 ∧ l = List.replicate n 0 ++ a :: b := by
  induction l generalizing n with
  | nil => cases h
  | cons x xs ih =>
    unfold findLive at h
    split at h
    · cases h; exact ⟨‹_›, rfl⟩
    · split at h
      · cases h
        obtain ⟨ha, rfl⟩ := ih ‹_›
        exact ⟨ha, by rw [show x = 0 by omega]; rfl⟩
      · cases h

/-- the deepest call frame among the items popped (the state the try statement was entered in) -/
def lastFrame : List Item → Option Frame
  | [] => none
  | .tryM :: r => lastFrame r
  | .frame f :: r => match lastFrame r with
    | some g => some g
    | none => some f

theorem lastFrame_cons_frame {α : Type} (g : Frame → α) (f : Frame) (r : List Item) (a : α) :
    ((lastFrame (.frame f :: r)).map g).getD a = ((lastFrame r).map g).getD (g f) := by
  cases h : lastFrame r <;> simp [lastFrame, h]

theorem unwindToTry_spec (above below : List Item) (hno : ∀ it ∈ above, it ≠ Item.tryM) (c : Ctx) :
    ∃ c', unwindToTry c (above ++ Item.tryM :: below) = some c' ∧ c'.stack = below ∧
      c'.unit = ((lastFrame above).map (·.unit)).getD c.unit ∧
      c'.defers = ((lastFrame above).map (·.defers)).getD c.defers ∧
      c'.env = ((lastFrame above).map (·.env)).getD c.env ∧
      c'.panic = c.panic ∧ c'.pend = c.pend ∧ c'.hasPC = c.hasPC := by
  induction above generalizing c with
  | nil => exact ⟨{ c with stack := below }, rfl, rfl, rfl, rfl, rfl, rfl, rfl, rfl⟩
  | cons it r ih =>
    cases it with
    | tryM => exact absurd rfl (hno Item.tryM (by simp))
    | frame f =>
      -- each popped frame is restored into the context; the last one popped is the one that stays
      simp only [lastFrame_cons_frame]
      exact ih (fun it h => hno it (by simp [h])) (restore c f (r ++ Item.tryM :: below))

def live (l : List Nat) : Nat := (l.filter (· > 0)).length

theorem live_spent (l : List Nat) (h : ∀ x ∈ l, x = 0) : live l = 0 := by
  simpa [live, List.filter_eq_nil_iff] using h

theorem live_append (a b : List Nat) : live (a ++ b) = live a + live b := by
  simp [live, List.filter_append]

/-- An error raised while try `t` is the innermost live try — at ANY dynamic depth: `above` may hold
any number of call frames — is transferred to t's catch address; t's entry becomes spent and the
entries of tries nested inside it are discarded; everything above the topmost try marker, frames
included, is popped and the context is back in the frame where the try statement was entered. -/
theorem C10_catch_once (c : Ctx) (e : Err) (spent : List Nat) (a : Nat) (belowT : List Nat)
    (above belowS : List Item)
    (ht : c.tries = spent ++ a :: belowT) (hs : ∀ x ∈ spent, x = 0) (ha : a > 0)
    (hst : c.stack = above ++ Item.tryM :: belowS) (hno : ∀ it ∈ above, it ≠ Item.tryM) :
    ∃ c', handleCatch c e = .inl c' ∧ c'.pc = a ∧ c'.tries = 0 :: belowT ∧ c'.stack = belowS ∧
      c'.unit = ((lastFrame above).map (·.unit)).getD c.unit ∧
      c'.defers = ((lastFrame above).map (·.defers)).getD c.defers ∧
      c'.panic = c.panic := by
  obtain ⟨c1, h1, h2, h3, h4, _, h6, _, _⟩ := unwindToTry_spec above belowS hno c
  refine ⟨{ c1 with pc := a, tries := 0 :: belowT }, ?_, rfl, rfl, h2, h3, h4, h6⟩
  unfold handleCatch
  rw [ht, findLive_spent spent a belowT hs ha]
  simp only
  rw [hst, h1]

/-- non-vacuity: two frames deep, one spent entry above the live one -/
example : ∃ c', handleCatch
    { unit := 5, pc := 9, tries := [0, 7, 3],
      stack := [.frame ⟨4, 2, [8], 2, []⟩, .frame ⟨1, 6, [], 2, []⟩, .tryM, .tryM] } .div = .inl c' ∧
    c'.pc = 7 ∧ c'.tries = [0, 3] ∧ c'.unit = 1 ∧ c'.stack = [.tryM] := by
  exact ⟨_, rfl, rfl, rfl, rfl, rfl⟩

/-- "Exactly once": whatever handleCatch catches, it selected a LIVE entry, left it spent, and the
number of live entries strictly decreased.  Informally, no entry can then catch twice in any history:
entries only become live through a new `Try` instruction, which pushes a new entry. -/
theorem C10_catch_never_twice (c d : Ctx) (e : Err) (h : handleCatch c e = .inl d) :
    ∃ n a below, findLive c.tries = some (n, a, below) ∧ a > 0 ∧ d.pc = a ∧
      d.tries = 0 :: below ∧ live d.tries < live c.tries := by
  unfold handleCatch at h
  split at h
  · cases h
  · rename_i n a below hf
    split at h <;> cases h
    obtain ⟨ha, hl⟩ := findLive_some hf
    refine ⟨n, a, below, hf, ha, rfl, rfl, ?_⟩
    show live (0 :: below) < live c.tries
    rw [hl, live_append, live_spent _ fun _ hx => (List.mem_replicate.1 hx).2]
    simp [live, ha]

theorem runN_halted (m : Machine) (n : Nat) (ms : MState) (st : Status) (h : ms.s.halted = some st) :
    runN m n ms = ms := by
  cases n <;> simp [runN, h]

/-- With no live try (empty try stack or only spent entries) a runtime error ends the context
with that error; for the top-level context the machine halts with the error status, the trace is
what it was, and no number of further steps emits anything. -/
theorem C10_uncaught_stops (m : Machine) (ms : MState) (c : Ctx) (e : Err) (h : ∀ x ∈ c.tries, x = 0) :
    handleCatch c e = .inr e ∧
    (raiseErr ms c [] e).s.halted = some (statusOf (.error e)) ∧
    ∀ n, (runN m n (raiseErr ms c [] e)).s.trace = ms.s.trace ∧
         (runN m n (raiseErr ms c [] e)).s.halted = some (statusOf (.error e)) := by
  have hc : handleCatch c e = .inr e := by simp [handleCatch, findLive_none c.tries h]
  have hr : raiseErr ms c [] e = finish ms [] (.error e) := by simp [raiseErr, hc]
  rw [hr]
  exact ⟨hc, rfl, fun n => by rw [runN_halted m n _ _ rfl]; exact ⟨rfl, rfl⟩⟩

/-- the `raise` instruction is exactly that path -/
example (m : Machine) (ms : MState) (c : Ctx) : exec m ms c [] .raise = raiseErr ms c [] .div := rfl

/-- A child context's whole execution seen from its parent: its Run() returns `o`.  `deliverSeq`
feeds the successive results of the children to the machine (the children's own effects on the
trace are irrelevant to the parent's scheduling and left out). -/
def deliverSeq (m : Machine) (ms : MState) : List Outcome → MState
  | [] => ms
  | o :: os =>
    match ms.s.ctxs with
    | _child :: p :: rest => deliverSeq m (resume m { ms with s := { ms.s with ctxs := p :: rest } } p rest o) os
    | _ => ms

def after (p : Ctx) (rest : List Ctx) (tr : List Tok) (sp : List Nat) (mode : Mode) : MState :=
  { s := { ctxs := p :: rest, trace := tr, spawned := sp, halted := none }, mode := mode, deliver := none }

theorem pend_none_eq {c : Ctx} (h : c.pend = .none) : { c with pend := .none } = c := by
  cases c; cases h; rfl

/-- A defers loop — `mk` is `Pending.normal` (RunDefers) or `Pending.panicking` (unwindPanic), and
`hstep` is what `resume` does in that loop when a call ends normally and more are left.  While the
deferred calls end normally, the next one of the list is started, in order, and nothing else changes;
the first outcome `o` after `k` of them finds the parent still waiting with the rest of the list. -/
theorem deliverSeq_spawn (m : Machine) (mk : List Nat → Pending) (hasPC : Bool)
    (hstep : ∀ ms p rest d ds, p.pend = mk (d :: ds) → resume m ms p rest .ok = spawn m ms p rest d (mk ds) hasPC)
    (k : Nat) (ds : List Nat) (hk : k ≤ ds.length) (o : Outcome) (os : List Outcome)
    (ms : MState) (c : Ctx) (rest : List Ctx) (d : Nat) (hh : ms.s.halted = none) :
    deliverSeq m (spawn m ms c rest d (mk ds) hasPC) (List.replicate k .ok ++ o :: os) =
      deliverSeq m (resume m (after { c with pend := mk (ds.drop k) } rest ms.s.trace
        ((ds.take k).reverse ++ d :: ms.s.spawned) .run) { c with pend := mk (ds.drop k) } rest o) os := by
  induction k generalizing ds ms c d with
  | zero => simp [deliverSeq, spawn, after, hh]
  | succ k ih =>
    cases ds with
    | nil => simp at hk
    | cons d' ds =>
      simp only [List.replicate_succ, List.cons_append, deliverSeq, spawn]
      rw [hstep _ _ rest d' ds rfl]
      simpa only [spawn, List.take_succ_cons, List.drop_succ_cons, List.reverse_cons, List.append_assoc,
        List.cons_append, List.nil_append] using ih ds (Nat.le_of_succ_le_succ hk)
        { ms with s := { ms.s with spawned := d :: ms.s.spawned } } { c with pend := mk (d' :: ds) } d' hh

theorem runDefers_all_ok (m : Machine) (ms : MState) (c : Ctx) (rest : List Ctx)
    (d : Nat) (ds : List Nat) (hd : c.defers = d :: ds) (hpend : c.pend = .none)
    (hh : ms.s.halted = none) (os : List Outcome)
    (hlen : os.length = ds.length + 1) (hok : os.all (· == .ok) = true) :
    deliverSeq m (exec m ms c rest .runDefers) os =
      after c rest ms.s.trace ((d :: ds).reverse ++ ms.s.spawned) .run := by
  simp only [exec, hd]
  rw [List.eq_replicate_iff.2 ⟨hlen, fun o ho => beq_iff_eq.1 (List.all_eq_true.1 hok o ho)⟩, List.replicate_succ',
    deliverSeq_spawn m .normal false (fun _ _ _ _ _ hp => by simp [resume, hp]) ds.length ds
      (Nat.le_refl _) .ok [] ms c rest d hh]
  simp [deliverSeq, resume, cont, after, pend_none_eq hpend]

/-- RunDefers with deferred calls `d :: ds` registered (head = registered LAST).  Excluded class
(explicit, decidable): some deferred call ends with an error (runtime error or unrecovered panic
inside it) — see `C10_defer_abort_counterexample`.  Otherwise exactly these closures are started,
once each, last registered first, and after the last completion the parent continues after
RunDefers, its state untouched.  (Return then restores the caller's defer stack, so they cannot
run again for this activation.) -/
theorem C10_defer_lifo_once_partial (m : Machine) (ms : MState) (c : Ctx) (rest : List Ctx)
    (d : Nat) (ds : List Nat) (hd : c.defers = d :: ds) (hpend : c.pend = .none)
    (hh : ms.s.halted = none) (os : List Outcome)
    (hlen : os.length = ds.length + 1) (hok : os.all (· == .ok) = true) :
    let r := deliverSeq m (exec m ms c rest .runDefers) os
    r.s.spawned = (d :: ds).reverse ++ ms.s.spawned ∧ r.s.ctxs = c :: rest ∧ r.mode = .run ∧
      r.s.trace = ms.s.trace := by
  intro r
  rw [show r = _ from runDefers_all_ok m ms c rest d ds hd hpend hh os hlen hok]
  exact ⟨rfl, rfl, rfl, rfl⟩

/-- General form: if the first `k` deferred calls end normally and the next one ends with error `e`,
exactly `k + 1` closures were started (a prefix of the list, last registered first — never one
twice, never out of order), the remaining ones are NOT started, and the error is raised in the
parent at the RunDefers instruction (where the function's own try statements are still active). -/
theorem C10_defer_lifo_once (m : Machine) (ms : MState) (c : Ctx) (rest : List Ctx)
    (d : Nat) (ds : List Nat) (hd : c.defers = d :: ds) (hpend : c.pend = .none)
    (hh : ms.s.halted = none) (k : Nat) (hk : k ≤ ds.length) (e : Err) :
    ∃ ms' : MState, ms'.s.spawned = (ds.take k).reverse ++ d :: ms.s.spawned ∧ ms'.s.trace = ms.s.trace ∧
      deliverSeq m (exec m ms c rest .runDefers) (List.replicate k .ok ++ [.error e]) =
        raiseErr ms' c rest e := by
  refine ⟨after { c with pend := .normal (ds.drop k) } rest ms.s.trace
    ((ds.take k).reverse ++ d :: ms.s.spawned) .run, rfl, rfl, ?_⟩
  simp only [exec, hd]
  rw [deliverSeq_spawn m .normal false (fun _ _ _ _ _ hp => by simp [resume, hp]) k ds hk (.error e) [] ms c rest d hh]
  simp [deliverSeq, resume, after, raiseErr, finish, pend_none_eq hpend]

/-- the same schedule while a panic unwinds a frame (unwindPanic → invokePanicDefers): every
deferred call of the frame is started once, last registered first, the first one with a panicContext
(`hasPC`), and then the unwind loop goes on to its "recovered?" test. -/
theorem C10_defer_lifo_once_unwind (m : Machine) (ms : MState) (c : Ctx) (rest : List Ctx)
    (d : Nat) (ds : List Nat) (hc : ms.s.ctxs = c :: rest) (hd : c.defers = d :: ds)
    (hpend : c.pend = .none) (hh : ms.s.halted = none) (hdl : ms.deliver = none)
    (hm : ms.mode = .unwindA) :
    (∃ ch r', (step m ms).s.ctxs = ch :: r' ∧ ch.hasPC = true ∧ ch.unit = d) ∧
    let r := deliverSeq m (step m ms) (List.replicate (ds.length + 1) .ok)
    r.s.spawned = (d :: ds).reverse ++ ms.s.spawned ∧ r.s.ctxs = c :: rest ∧ r.mode = .unwindB ∧
      r.s.trace = ms.s.trace := by
  have hw : step m ms = spawn m ms c rest d (.panicking ds) true := by simp only [step, hh, hc, hdl, hm, hd]
  rw [hw, List.replicate_succ', deliverSeq_spawn m .panicking true (fun _ _ _ _ _ hp => by simp [resume, hp])
    ds.length ds (Nat.le_refl _) .ok [] ms c rest d hh]
  simp [deliverSeq, after, resume, cont, pend_none_eq hpend, spawn, childCtx]

/-- non-vacuity -/
example : (deliverSeq ⟨[]⟩ (exec ⟨[]⟩ initState { unit := 0, pc := 1, defers := [3, 2, 1] } [] .runDefers)
    [.ok, .ok, .ok]).s.spawned = [1, 2, 3] := by decide

theorem topFrame_spec (above below : List Item) (f : Frame) (h : ∀ it ∈ above, it = Item.tryM) :
    topFrame (above ++ Item.frame f :: below) = some (f, below) := by
  induction above with
  | nil => rfl
  | cons it r ih =>
    obtain ⟨rfl, h'⟩ := List.forall_mem_cons.1 h
    exact ih h'

/-- recover() executed in a deferred call started by the unwinding (`hasPC`) of a panicking parent
stops the panic there and yields its value; in a context with no panicContext (any deferred call
started by an ordinary RunDefers, any ordinary function) it yields nil and changes nothing. -/
theorem C10_recover_stops_panic (m : Machine) (ms : MState) (ch p : Ctx) (rest : List Ctx) (v : Nat)
    (hch : ch.panic = none) (hp : p.panic = some v) :
    (ch.hasPC = true → exec m ms ch (p :: rest) .recover =
        cont (emitTok ms (.recov (some v))) ch ({ p with panic := none } :: rest)) ∧
    (ch.hasPC = false → exec m ms ch (p :: rest) .recover =
        cont (emitTok ms (.recov none)) ch (p :: rest)) := by
  constructor <;> intro h <;> simp [exec, recoverIn, hch, hp, h]

/-- After the deferred calls of the panicking frame have run and one of them recovered
(`panic = none`), one step of unwindPanic pops exactly that frame — whatever try markers the
function left above it — and the machine is back in RUN mode in the CALLER: its code unit, the
instruction after the call, its own defer stack; the recovered function's deferred calls are
cleared (they cannot run again) and nothing is emitted. -/
theorem C10_recover_resumes_caller (m : Machine) (ms : MState) (c : Ctx) (rest : List Ctx)
    (above below : List Item) (f : Frame)
    (hc : ms.s.ctxs = c :: rest) (hh : ms.s.halted = none) (hdl : ms.deliver = none)
    (hm : ms.mode = .unwindB) (hp : c.panic = none)
    (hst : c.stack = above ++ Item.frame f :: below) (hab : ∀ it ∈ above, it = Item.tryM) :
    ∃ c', (step m ms).s.ctxs = c' :: rest ∧ c'.unit = f.unit ∧ c'.pc = f.pc ∧ c'.defers = f.defers ∧
      c'.stack = below ∧ c'.panic = none ∧ c'.tries = c.tries.drop (c.tries.length - f.tryDepth) ∧
      (step m ms).mode = .run ∧ (step m ms).s.trace = ms.s.trace ∧ (step m ms).s.halted = none := by
  have hs : step m ms = cont ms (restore { c with defers := [] } f below) rest := by
    simp only [step, hh, hc, hdl, hm, hp, hst, topFrame_spec above below f hab]
  rw [hs]
  exact ⟨_, rfl, rfl, rfl, rfl, rfl, hp, rfl, rfl, rfl, hh⟩

/-- and if nothing recovered, the same step pops the frame and goes on unwinding in the caller -/
theorem C10_unrecovered_keeps_unwinding (m : Machine) (ms : MState) (c : Ctx) (rest : List Ctx)
    (above below : List Item) (f : Frame) (v : Nat)
    (hc : ms.s.ctxs = c :: rest) (hh : ms.s.halted = none) (hdl : ms.deliver = none)
    (hm : ms.mode = .unwindB) (hp : c.panic = some v)
    (hst : c.stack = above ++ Item.frame f :: below) (hab : ∀ it ∈ above, it = Item.tryM) :
    ∃ c', (step m ms).s.ctxs = c' :: rest ∧ c'.unit = f.unit ∧ c'.defers = f.defers ∧ c'.panic = some v ∧
      (step m ms).mode = .unwindA ∧ (step m ms).s.trace = ms.s.trace := by
  have hs : step m ms = cont ms (restore c f below) rest .unwindA := by
    simp only [step, hh, hc, hdl, hm, hp, hst, topFrame_spec above below f hab]
  rw [hs]
  exact ⟨_, rfl, rfl, rfl, hp, rfl, rfl⟩

theorem leaveTries_length (tn : List Bool) : (leaveTries tn).length = tn.length + (tn.filter id).length := by
  induction tn with
  | nil => rfl
  | cons b r ih => cases b <;> simp [leaveTries, ih] <;> omega

mutual
/-- the sizes used for back-patched addresses (catch address, end of try, loop exit, continue
target) are exactly the lengths of the emitted code, for every statement and nesting -/
theorem C10_compile_sizes_stmt (pc : Nat) (lc : Option LoopCtx) (tn : List Bool) : (s : Stmt) → (compS pc lc tn s).length = sizeS tn s
  | .emit _ | .raise | .panic _ | .recover | .defer_ _ | .call _ | .ret => rfl
  | .retE true _ | .retE false _ => rfl
  | .tryCatch b h => by
    simp only [compS, sizeS, List.length_append, List.length_cons, List.length_nil,
      C10_compile_sizes _ lc (true :: tn) b, C10_compile_sizes _ lc (false :: tn) h]
  | .loop _ _ b => by
    simp only [compS, sizeS, List.length_append, List.length_cons, List.length_nil, C10_compile_sizes _ _ [] b]
  | .brk | .cont => by
    simp only [compS, sizeS, List.length_append, List.length_cons, List.length_nil, leaveTries_length]
  | .cond _ _ b => by
    simp only [compS, sizeS, List.length_append, List.length_cons, List.length_nil, C10_compile_sizes _ lc tn b]
theorem C10_compile_sizes (pc : Nat) (lc : Option LoopCtx) (tn : List Bool) : (b : List Stmt) → (compB pc lc tn b).length = sizeB tn b
  | [] => rfl
  | s :: r => by
    simp only [compB, sizeB, List.length_append, C10_compile_sizes_stmt pc lc tn s, C10_compile_sizes _ lc tn r]
end

/-- A return whose RunDefers is IMMEDIATELY followed by Return (a bare return, the end of a body,
`return <expr>` in a function with named results: `compS … (.retE true e) = [e.instr, .runDefers, .ret]`).
Excluded classes (explicit hypotheses): a deferred call ends with an error (`hok`, see
`C10_defer_lifo_once` and the two known findings about it), and — hypothesis `hret` — an
instruction that can fail sits between RunDefers and Return, which is `return <expr>` in a function
with UNNAMED results (`C10_return_expr_twice_counterexample`).  Then, for any defer list and any
try markers above the frame: the activation's deferred calls are started once each, last registered
first; the next step pops the frame, the context is back in the caller with the CALLER's defer
list, so none of them can be started again, and the return itself emits nothing. -/
theorem C10_return_defers_once_partial (m : Machine) (ms : MState) (c : Ctx) (rest : List Ctx)
    (d : Nat) (ds : List Nat) (above below : List Item) (f : Frame)
    (hc : ms.s.ctxs = c :: rest) (hh : ms.s.halted = none) (hdl : ms.deliver = none)
    (hm : ms.mode = .run) (hd : c.defers = d :: ds) (hpend : c.pend = .none)
    (hrd : m.fetch c.unit c.pc = some .runDefers)
    (hret : m.fetch c.unit (c.pc + 1) = some .ret)
    (hst : c.stack = above ++ Item.frame f :: below) (hab : ∀ it ∈ above, it = Item.tryM)
    (os : List Outcome) (hlen : os.length = ds.length + 1) (hok : os.all (· == .ok) = true) :
    let r := step m (deliverSeq m (step m ms) os)
    r.s.spawned = (d :: ds).reverse ++ ms.s.spawned ∧ r.s.trace = ms.s.trace ∧ r.s.halted = none ∧
      r.mode = .run ∧
      ∃ c', r.s.ctxs = c' :: rest ∧ c'.unit = f.unit ∧ c'.pc = f.pc ∧ c'.defers = f.defers ∧
        c'.stack = below := by
  intro r
  have hr : r = cont (after { c with pc := c.pc + 1 } rest ms.s.trace ((d :: ds).reverse ++ ms.s.spawned) .run)
      (restore { c with pc := c.pc + 1 + 1 } f below) rest := by
    have h1 : step m ms = exec m ms { c with pc := c.pc + 1 } rest .runDefers := by
      simp only [step, hh, hc, hdl, hm, hrd]
    show step m (deliverSeq m (step m ms) os) = _
    rw [h1, runDefers_all_ok m ms { c with pc := c.pc + 1 } rest d ds hd hpend hh os hlen hok]
    simp only [step, after, hret, exec, hst, topFrame_spec above below f hab]
  rw [hr]
  exact ⟨rfl, rfl, rfl, rfl, _, rfl, rfl, rfl, rfl, rfl⟩

/-- Return directly follows RunDefers (`hrd`/`hret` above) in a bare return, with named results and
at the end of a body; with unnamed results the expression stands between them -/
theorem C10_return_shapes (pc : Nat) (lc : Option LoopCtx) (tn : List Bool) (e : RExpr) (b : Block) :
    compS pc lc tn .ret = [.runDefers, .ret] ∧
    compS pc lc tn (.retE true e) = [e.instr, .runDefers, .ret] ∧
    compS pc lc tn (.retE false e) = [.runDefers, e.instr, .ret] ∧
    (compUnit b).drop (compUnit b).length.pred.pred = [.runDefers, .ret] := by
  refine ⟨rfl, rfl, rfl, ?_⟩
  simp [compUnit, Nat.pred]

/-- non-vacuity: f0 calls f1; f1 (named result) registers two deferred calls and returns mkv(5) -/
example : traceVM [[.call 1], [.defer_ 2, .defer_ 3, .retE true (.mkv 5), .ret], [.emit 1], [.emit 2]] 100 =
    ([.mark 5, .mark 2, .mark 1], some .ok) := by decide

/-- f0 calls f1; f1 (one UNNAMED result): defer{emit 1}; return f2().  f2: panic 7 -/
def progRetExprPanic : Prog :=
  [[.call 1], [.defer_ 3, .retE false (.call 2), .ret], [.panic 7, .ret], [.emit 1]]

/-- the same with a NAMED result -/
def progRetExprPanicNamed : Prog :=
  [[.call 1], [.defer_ 3, .retE true (.call 2), .ret], [.panic 7, .ret], [.emit 1]]

/-- f0: defer{emit 1}; try { return 1/zero } catch { emit 2 }; emit 3  (unnamed result) -/
def progRetExprCaught : Prog :=
  [[.defer_ 1, .tryCatch [.retE false .div] [.emit 2], .emit 3, .ret], [.emit 1]]

/-- Known finding `defers-run-twice-on-failing-return-expr`: in a function with unnamed results
RunDefers runs BEFORE the return expression and does not clear the defer list; when the expression
then panics (first program) or raises an error caught by a try of the same function (third
program) the same deferred call is started a second time.  With a named result it runs once. -/
theorem C10_return_expr_twice_counterexample :
    traceVM progRetExprPanic 200 = ([.mark 1, .mark 1], some .panic) ∧
    traceSpec progRetExprPanic 200 = ([.mark 1, .mark 1], some .panic) ∧
    traceVM progRetExprPanicNamed 200 = ([.mark 1], some .panic) ∧
    traceVM progRetExprCaught 200 = ([.mark 1, .mark 2, .mark 3, .mark 1], some .ok) ∧
    traceSpec progRetExprCaught 200 = ([.mark 1, .mark 2, .mark 3, .mark 1], some .ok) := by
  decide +kernel

/-- f0: defer{emit 1}; defer{emit 2; panic 9}; defer{emit 3}; panic 7 -/
def progPanicInDefer : Prog :=
  [[.defer_ 1, .defer_ 2, .defer_ 3, .panic 7], [.emit 1], [.emit 2, .panic 9], [.emit 3]]

/-- Known finding `panic-in-deferred-call`: the deferred call registered first never runs (Go and
the property: trace 3,2,1) and the program dies with the inner panic. -/
theorem C10_defer_abort_counterexample :
    traceVM progPanicInDefer 200 = ([.mark 3, .mark 2], some .panic) ∧
    traceSpec progPanicInDefer 200 = ([.mark 3, .mark 2], some .panic) := by
  decide +kernel

/-- f0: defer{emit 1; raise}; defer{emit 2}; try { return } catch { emit 3 }; emit 4 -/
def progErrInDefer : Prog :=
  [[.defer_ 1, .defer_ 2, .tryCatch [.ret] [.emit 3], .emit 4], [.emit 1, .raise], [.emit 2]]

/-- Known finding `error-escapes-deferred-call`: the error of a deferred call is caught by the try
the `return` sits in; the function goes on and runs its deferred calls a second time. -/
theorem C10_defer_twice_counterexample :
    traceVM progErrInDefer 400 = ([.mark 2, .mark 1, .mark 3, .mark 4, .mark 2, .mark 1], some .err) ∧
    traceSpec progErrInDefer 400 = ([.mark 2, .mark 1, .mark 3, .mark 4, .mark 2, .mark 1], some .err) := by
  decide +kernel

/-- f0: defer A; panic 73.  A: defer{recover; emit 1}; defer{recover; emit 2}; panic 52; emit 3 -/
def progRecoverOuter : Prog :=
  [[.defer_ 1, .panic 73, .emit 4], [.defer_ 2, .defer_ 3, .panic 52, .emit 3],
   [.recover, .emit 1], [.recover, .emit 2]]

/-- Known finding `recover-reaches-outer-panic`: the second recover(), in a deferred call of the
deferred call A, finds A's panic already cleared, follows A's panicContext and stops f0's panic
(Go: it returns nil and 73 keeps unwinding). -/
theorem C10_recover_outer_counterexample :
    traceVM progRecoverOuter 400 =
      ([.recov (some 52), .mark 2, .recov (some 73), .mark 1], some .ok) ∧
    traceSpec progRecoverOuter 400 =
      ([.recov (some 52), .mark 2, .recov (some 73), .mark 1], some .ok) := by
  decide +kernel

/-- the refinement between the compiled VM run and the source-level semantics: NOT proved here;
checked by correspondence (driver ops `vm` and `spec` against the real VM) on every run. -/
def C10_compile_correct_statement : Prop :=
  ∀ (p : Prog) (n : Nat) (st : Status), (traceSpec p n).2 = some st →
    ∃ k, traceVM p k = traceSpec p n

end EgoVerif.C10
