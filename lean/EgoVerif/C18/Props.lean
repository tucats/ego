import EgoVerif.C18.Pipe
/-
C18 — row values survive a REST round trip (SQLite backend): PUT-then-GET of a value in the documented
domain `InDom t v` of its column type returns `expect t v`.  The float64 and time primitives are parameters
(`FOps`, `TOps`) assumed to satisfy `FLaws`, `TLaws`.  The theorems are about the code with fixes/C18.patch;
`C18_old_*` state what the unpatched pipeline (`roundTripOld`) does.
-/
namespace EgoVerif.C18

variable {F : Type}

/-! ### the column tables (tied to the code by the `norm` correspondence lines) -/

theorem C18_branch_table :
    branch .byte = .none ∧ branch .int = .int ∧ branch .int8 = .none ∧ branch .int16 = .int16 ∧
    branch .int32 = .int ∧ branch .int64 = .int64 ∧ branch .string = .none ∧ branch .float = .f64 ∧
    branch .double = .f64 ∧ branch .float32 = .none ∧ branch .float64 = .none ∧ branch .time = .time ∧
    branch .timestamp = .time ∧ branch .date = .time ∧ branch .bool = .bool := by decide +kernel

theorem C18_affinity_table :
    affinity .byte = .numeric ∧ affinity .int = .integer ∧ affinity .int8 = .integer ∧ affinity .int16 = .integer ∧
    affinity .int32 = .integer ∧ affinity .int64 = .integer ∧ affinity .string = .text ∧ affinity .float = .real ∧
    affinity .double = .real ∧ affinity .float32 = .real ∧ affinity .float64 = .real ∧ affinity .time = .numeric ∧
    affinity .timestamp = .numeric ∧ affinity .date = .numeric ∧ affinity .bool = .numeric := by decide +kernel

theorem C18_driver_time_table :
    driverParsesTime .timestamp = true ∧ driverParsesTime .date = true ∧ driverParsesTime .time = false ∧
    driverParsesTime .string = false ∧ driverParsesTime .byte = false ∧ driverParsesTime .int8 = false ∧
    driverParsesTime .float32 = false ∧ driverParsesTime .float64 = false := by decide

def two53 : Int := 9007199254740992

/-- float64 facts used: an integer converted to float64 is never -0.0. -/
structure FLaws (o : FOps F) : Prop where
  canonZero_ofInt : ∀ n : Int, o.canonZero (o.ofInt n) = o.ofInt n

/-- instants of the UTC years 0000–9999 -/
def Instant.ok (i : Instant) : Prop :=
  -62167219200 ≤ i.sec ∧ i.sec ≤ 253402300799 ∧ i.nanos < 1000000000

/-- time facts used, for instants of years 0000–9999: the RFC3339Nano text is read back as
the same instant by ego's parser and by the driver's, and SQLite does not take it for a number. -/
structure TLaws (tm : TOps) : Prop where
  parse_format : ∀ i, i.ok → tm.parse (tm.format i) = some i
  drv_format : ∀ i, i.ok → tm.drvParse (tm.format i) = some i
  format_not_numeric : ∀ i, i.ok → numericLit (tm.format i) = false

def intRange : ColType → Option (Int × Int)
  | .byte => some (0, 255)
  | .int8 => some (-128, 127)
  | .int16 => some (-32768, 32767)
  | .int32 => some (-2147483648, 2147483647)
  | .int => some (-9223372036854775808, 9223372036854775807)
  | .int64 => some (-9223372036854775808, 9223372036854775807)
  | _ => none

def isFloatT : ColType → Bool
  | .float | .double | .float32 | .float64 => true
  | _ => false

def isTimeT : ColType → Bool
  | .time | .timestamp | .date => true
  | _ => false

/-- `InDom t v`: the JSON value `v` is a value of the documented type of a `t` column.
  * integer types: an integer literal inside the type's range;
  * float types: any number literal other than -0.0 (`canonZero f = f`; SQLite reads -0.0 back
    as 0.0), or an integer literal with |n| ≤ 2^53;
  * bool: true/false;  string: every string;
  * time types: a text ego's parser reads as an instant of the UTC years 0000–9999;
  * null in every column. -/
def InDom (o : FOps F) (tm : TOps) (t : ColType) : JV F → Prop
  | .null => True
  | .bool _ => t = .bool
  | .int n => (∃ lo hi, intRange t = some (lo, hi) ∧ lo ≤ n ∧ n ≤ hi) ∨ (isFloatT t = true ∧ -two53 ≤ n ∧ n ≤ two53)
  | .real f => isFloatT t = true ∧ o.canonZero f = f
  | .str s => t = .string ∨ (isTimeT t = true ∧ ∃ i, tm.parse s = some i ∧ i.ok)

/-- the value GET returns for an in-domain value -/
def expect (o : FOps F) (tm : TOps) (t : ColType) : JV F → JV F
  | .int n => if isFloatT t then .real (o.ofInt n) else .int n
  | .str s => if isTimeT t then (match tm.parse s with | some i => .str (tm.format i) | none => .str s) else .str s
  | v => v

def Outcome.value : Outcome F → Option (JV F)
  | .ok _ v => some v
  | _ => none

theorem wrap_id {bits : Nat} {n : Int} (h1 : -(2 ^ bits / 2) ≤ n) (h2 : n < 2 ^ bits / 2) : wrap bits n = n := by
  have hm : (0 : Int) < 2 ^ bits := Int.pow_pos (by decide)
  unfold wrap
  generalize (2 : Int) ^ bits = m at *
  dsimp only
  by_cases hn : 0 ≤ n
  · rw [Int.emod_eq_of_lt hn (by omega), if_neg (by omega)]
  · rw [← Int.add_emod_right, Int.emod_eq_of_lt (by omega) (by omega), if_pos (by omega)]
    omega

theorem inInt64_of (n : Int) (h1 : -9223372036854775808 ≤ n) (h2 : n ≤ 9223372036854775807) : inInt64 n = true := by
  unfold inInt64
  simp only [Int.reducePow, Bool.and_eq_true, decide_eq_true_eq]
  omega

theorem int_cols {t : ColType} {lo hi n : Int} (h : intRange t = some (lo, hi)) (h1 : lo ≤ n) (h2 : n ≤ hi) :
    (-9223372036854775808 ≤ n ∧ n ≤ 9223372036854775807) ∧
    (branch t = .none ∨ branch t = .int ∨ branch t = .int64 ∨ (branch t = .int16 ∧ -32768 ≤ n ∧ n ≤ 32767)) ∧
    (affinity t = .integer ∨ affinity t = .numeric) ∧ isFloatT t = false := by
  cases t <;> cases h <;> simp [isFloatT, C18_branch_table, C18_affinity_table] <;> omega

theorem float_cols {t : ColType} (h : isFloatT t = true) :
    (branch t = .none ∨ branch t = .f64) ∧ affinity t = .real := by
  revert h; cases t <;> simp [isFloatT, C18_branch_table, C18_affinity_table]

theorem time_cols {t : ColType} (h : isTimeT t = true) : branch t = .time ∧ affinity t = .numeric := by
  revert h; cases t <;> simp [isTimeT, C18_branch_table, C18_affinity_table]

/- The plumbing between the stages is unfolded by `simp`; what each `rt_*` lemma supplies is what the two
coercions (before storing and after scanning) and the column affinity do. -/

attribute [local simp] roundTrip roundTripOld roundTripWith writeWith read decode decodeOld scan bindTime bind
  applyAffinity encode

section pipeline
variable (o : FOps F) (tm : TOps) {t : ColType}

theorem rt_int {lo hi n : Int} (hr : intRange t = some (lo, hi)) (hlo : lo ≤ n) (hhi : n ≤ hi) :
    roundTrip o tm t (.int n) = .ok (.integer n) (.int n) := by
  obtain ⟨⟨h1, h2⟩, hb, ha, -⟩ := int_cols hr hlo hhi
  have hc : coerce o tm (branch t) (.int n) = some (.int n) := by
    have hw : wrap 64 n = n := wrap_id (bits := 64) h1 (Int.lt_add_one_iff.mpr h2)
    rcases hb with hb | hb | hb | ⟨hb, h3, h4⟩ <;> rw [hb, coerce]
    · rw [coerceInt, hw]
    · rw [coerceInt, hw]
    · rw [coerceInt, wrap_id (bits := 16) h3 (Int.lt_add_one_iff.mpr h4)]
  have h64 := inInt64_of n h1 h2
  rcases ha with ha | ha <;> simp [hc, h64, ha]

theorem rt_bool (b : Bool) : roundTrip o tm .bool (.bool b) = .ok (.integer (if b then 1 else 0)) (.bool b) := by
  cases b <;> simp [coerce, coerceBool, C18_branch_table, C18_affinity_table]

theorem rt_string (s : Str) : roundTrip o tm .string (.str s) = .ok (.text s) (.str s) := by
  simp [coerce, C18_branch_table, C18_affinity_table, C18_driver_time_table]

theorem rt_real (hf : isFloatT t = true) (f : F) (hz : o.canonZero f = f) :
    roundTrip o tm t (.real f) = .ok (.real f) (.real f) := by
  obtain ⟨hb, ha⟩ := float_cols hf
  rcases hb with hb | hb <;> simp [coerce, coerceFloat, hb, ha, hz]

theorem rt_int_in_float (ho : FLaws o) (hf : isFloatT t = true) {n : Int} (h1 : -two53 ≤ n) (h2 : n ≤ two53) :
    roundTrip o tm t (.int n) = .ok (.real (o.ofInt n)) (.real (o.ofInt n)) := by
  obtain ⟨hb, ha⟩ := float_cols hf
  unfold two53 at h1 h2
  have h64 := inInt64_of n (by omega) (by omega)
  -- without a coercion the integer is bound as such and the REAL column converts it; with the
  -- float64 coercion the float is bound and the column keeps it
  rcases hb with hb | hb <;> simp [coerce, coerceFloat, ho.canonZero_ofInt, hb, ha, h64]

theorem rt_time (ht : TLaws tm) (htt : isTimeT t = true) {s : Str} {i : Instant} (hp : tm.parse s = some i)
    (hok : i.ok) : roundTrip o tm t (.str s) = .ok (.text (tm.format i)) (.str (tm.format i)) := by
  obtain ⟨hb, ha⟩ := time_cols htt
  have h1 := ht.parse_format i hok
  have h2 := ht.drv_format i hok
  have h3 := ht.format_not_numeric i hok
  -- the driver hands the text back as a time.Time or as the string, by column type; either way
  -- the second coercion yields the instant
  cases hd : driverParsesTime t <;> simp [coerce, goString, hb, ha, hp, h1, h2, h3, hd]

end pipeline

/-- **C18 (main).**  Every value of the documented domain of every column type is accepted and
read back as `expect t v` (the same value; see the two theorems below for what "same" means
where `expect` is not literally `v`). -/
theorem C18_roundtrip (o : FOps F) (ho : FLaws o) (tm : TOps) (ht : TLaws tm) (t : ColType) (v : JV F)
    (h : InDom o tm t v) : (roundTrip o tm t v).value = some (expect o tm t v) := by
  cases v with
  | null => rfl
  | bool b =>
    cases (h : t = .bool)
    rw [rt_bool]
    rfl
  | int n =>
    rcases h with ⟨lo, hi, hr, h1, h2⟩ | ⟨hf, h1, h2⟩
    · rw [rt_int o tm hr h1 h2, expect, (int_cols hr h1 h2).2.2.2]
      rfl
    · rw [rt_int_in_float o tm ho hf h1 h2, expect, hf]
      rfl
  | real f =>
    rw [rt_real o tm h.1 f h.2]
    rfl
  | str s =>
    rcases h with rfl | ⟨htt, i, hp, hok⟩
    · rw [rt_string]
      rfl
    · rw [rt_time o tm ht htt hp hok, expect, htt, hp]
      rfl

theorem roundTrip_identity (o : FOps F) (tm : TOps) (t : ColType) (v : JV F)
    (h : InDom o tm t v) (hf : isFloatT t = false) (htm : isTimeT t = false) :
    (roundTrip o tm t v).value = some v := by
  cases v with
  | null => rfl
  | bool b =>
    cases (h : t = .bool)
    rw [rt_bool]
    rfl
  | int n =>
    rcases h with ⟨lo, hi, hr, h1, h2⟩ | ⟨hf', -⟩
    · rw [rt_int o tm hr h1 h2]
      rfl
    · cases hf.symm.trans hf'
  | real f => cases hf.symm.trans h.1
  | str s =>
    rcases h with rfl | ⟨htt, -⟩
    · rw [rt_string]
      rfl
    · cases htm.symm.trans htt

/-- For the integer, bool and string types the value read back is literally the value written. -/
theorem C18_roundtrip_identity (o : FOps F) (ho : FLaws o) (tm : TOps) (ht : TLaws tm) (t : ColType) (v : JV F)
    (h : InDom o tm t v) (hf : isFloatT t = false) (htm : isTimeT t = false) :
    (roundTrip o tm t v).value = some v :=
  roundTrip_identity o tm t v h hf htm

/-- A float literal other than -0.0 (`hz`) written to a float column is read back bit for bit. -/
theorem C18_roundtrip_float (o : FOps F) (ho : FLaws o) (tm : TOps) (ht : TLaws tm) (t : ColType) (f : F)
    (hf : isFloatT t = true) (hz : o.canonZero f = f) :
    (roundTrip o tm t (.real f)).value = some (.real f) :=
  congrArg Outcome.value (rt_real o tm hf f hz)

/-- A time value of the years 0000–9999 is read back as a text that ego's own parser reads as the SAME
instant. -/
theorem C18_time_same_instant (o : FOps F) (ho : FLaws o) (tm : TOps) (ht : TLaws tm) (t : ColType) (s : Str)
    (i : Instant) (htt : isTimeT t = true) (hp : tm.parse s = some i) (hok : i.ok) :
    ∃ s', (roundTrip o tm t (.str s)).value = some (.str s') ∧ tm.parse s' = some i :=
  ⟨tm.format i, congrArg Outcome.value (rt_time o tm ht htt hp hok), ht.parse_format i hok⟩

theorem float_intlit_faithful (o : FOps F) (ho : FLaws o) (tm : TOps) (t : ColType) (a b : Int)
    (hf : isFloatT t = true) (ha : -two53 ≤ a ∧ a ≤ two53) (hb : -two53 ≤ b ∧ b ≤ two53)
    (hinj : ∀ x y : Int, -two53 ≤ x → x ≤ two53 → -two53 ≤ y → y ≤ two53 → o.ofInt x = o.ofInt y → x = y)
    (h : (roundTrip o tm t (.int a)).value = (roundTrip o tm t (.int b)).value) : a = b := by
  rw [rt_int_in_float o tm ho hf ha.1 ha.2, rt_int_in_float o tm ho hf hb.1 hb.2] at h
  exact hinj a b ha.1 ha.2 hb.1 hb.2 (JV.real.inj (Option.some.inj h))

/-- Integer literals written to a float column: the float64 read back determines the literal
(`hinj`: integers up to 2^53 are distinct float64 values — the IEEE fact, stated as a hypothesis). -/
theorem C18_float_intlit_faithful (o : FOps F) (ho : FLaws o) (tm : TOps) (ht : TLaws tm) (t : ColType) (a b : Int)
    (hf : isFloatT t = true) (ha : -two53 ≤ a ∧ a ≤ two53) (hb : -two53 ≤ b ∧ b ≤ two53)
    (hinj : ∀ x y : Int, -two53 ≤ x → x ≤ two53 → -two53 ≤ y → y ≤ two53 → o.ofInt x = o.ofInt y → x = y)
    (h : (roundTrip o tm t (.int a)).value = (roundTrip o tm t (.int b)).value) : a = b :=
  float_intlit_faithful o ho tm t a b hf ha hb hinj h

/-- null is read back as null in every column. -/
theorem C18_null (o : FOps F) (tm : TOps) (t : ColType) : (roundTrip o tm t .null).value = some .null :=
  rfl

/-! ### the unpatched pipeline (`roundTripOld`): float64 decoding, whole-second binding -/

def isWideInt : ColType → Bool
  | .int | .int32 | .int64 => true
  | _ => false

theorem wide_cols {t : ColType} (h : isWideInt t = true) :
    (branch t = .int ∨ branch t = .int64) ∧ affinity t = .integer := by
  revert h; cases t <;> simp [isWideInt, C18_branch_table, C18_affinity_table]

theorem rt_old_int (o : FOps F) (tm : TOps) (t : ColType) (n m : Int) (ht : isWideInt t = true)
    (hm : o.toInt64 (o.ofInt n) = m) (h1 : -9223372036854775808 ≤ m) (h2 : m ≤ 9223372036854775807) :
    roundTripOld o tm t (.int n) = .ok (.integer m) (.int m) := by
  obtain ⟨hb, ha⟩ := wide_cols ht
  have hw : wrap 64 m = m := wrap_id (bits := 64) h1 (Int.lt_add_one_iff.mpr h2)
  rcases hb with hb | hb <;> simp [coerce, coerceInt, hb, ha, hm, hw]

/-- Unpatched code, integer columns: the round trip is exact for every integer the float64
conversion keeps (`hexact`; true for |n| ≤ 2^53) … -/
theorem C18_old_int_partial (o : FOps F) (tm : TOps) (t : ColType) (n : Int) (ht : isWideInt t = true)
    (h1 : -two53 ≤ n) (h2 : n ≤ two53) (hexact : o.toInt64 (o.ofInt n) = n) :
    (roundTripOld o tm t (.int n)).value = some (.int n) := by
  unfold two53 at h1 h2
  rw [rt_old_int o tm t n n ht hexact (by omega) (by omega)]
  rfl

/-- … and wrong beyond: 2^53+1 is rounded to 2^53 by float64 (`hround`, the IEEE fact), and
the unpatched handlers store and return 2^53. -/
theorem C18_old_int_counterexample (o : FOps F) (tm : TOps)
    (hround : o.toInt64 (o.ofInt (two53 + 1)) = two53) :
    (roundTripOld o tm .int (.int (two53 + 1))).value = some (.int two53) ∧ (two53 + 1 ≠ two53) := by
  refine ⟨?_, by decide⟩
  rw [rt_old_int o tm .int _ two53 rfl hround (by decide) (by decide)]
  rfl

/-- Unpatched code, timestamp columns: the text bound is the whole-second one, so what is read
back is the instant with its nanoseconds dropped (`hsec`, `hnum`: the facts about
time.RFC3339 used). -/
theorem C18_old_time_counterexample (o : FOps F) (tm : TOps) (s : Str) (i : Instant)
    (hp : tm.parse s = some i)
    (hsec : tm.drvParse (tm.formatSec i) = some ⟨i.sec, 0⟩) (hnum : numericLit (tm.formatSec i) = false) :
    (roundTripOld o tm .timestamp (.str s)).value = some (.str (tm.format ⟨i.sec, 0⟩)) := by
  obtain ⟨hb, ha⟩ := time_cols (t := .timestamp) rfl
  simp [coerce, goString, Outcome.value, C18_driver_time_table, hb, ha, hp, hsec, hnum]

/-! ### non-vacuity -/

def toyF : FOps Int where
  ofInt := id
  toInt64 := id
  toInt32 := id
  isZero := fun n => n == 0
  toF32 := id
  exactInt := some
  canonZero := id
  fmtGo := intDigits
  fmtSqlite := intDigits
  atoi := fun _ => none
  parseFloat := fun _ => none
  parseBool := fun _ => none
  textNum := fun _ => .inl 0

example : FLaws toyF := ⟨fun _ => rfl⟩

example (tm : TOps) : InDom toyF tm .int64 (.int 9223372036854775807) :=
  Or.inl ⟨_, _, rfl, by decide, by decide⟩
example (tm : TOps) : InDom toyF tm .int16 (.int (-32768)) := Or.inl ⟨_, _, rfl, by decide, by decide⟩
example (tm : TOps) : InDom toyF tm .double (.int 9007199254740992) := Or.inr ⟨rfl, by decide, by decide⟩
example (tm : TOps) : InDom toyF tm .float32 (.real 5) := ⟨rfl, rfl⟩
example (tm : TOps) : InDom toyF tm .string (.str ['\'', '"', '\\', ';']) := Or.inl rfl
example : Instant.ok ⟨1718452800, 123456789⟩ := by unfold Instant.ok; decide
example : (two53 + 1 : Int) = 9007199254740993 := by decide

/-- a unary text encoding of instants, only to show that `TLaws` is satisfiable -/
def toyFormat (i : Instant) : Str :=
  'T' :: (List.replicate (i.sec + 62167219200).toNat 'a' ++ 'b' :: List.replicate i.nanos 'a')

def toyParse : Str → Option Instant
  | 'T' :: r =>
    match r.dropWhile (· == 'a') with
    | 'b' :: q => some ⟨((r.takeWhile (· == 'a')).length : Int) - 62167219200, q.length⟩
    | _ => none
  | _ => none

def toyT : TOps := { parse := toyParse, format := toyFormat, formatSec := toyFormat, drvParse := toyParse }

theorem toy_parse_format (i : Instant) (h : i.ok) : toyParse (toyFormat i) = some i := by
  have ha (n : Nat) : ∀ c ∈ List.replicate n 'a', (c == 'a') = true := by
    intro c hc; rw [List.eq_of_mem_replicate hc]; rfl
  cases i with
  | mk sec nanos =>
    have h1 : -62167219200 ≤ sec := h.1
    simp [toyFormat, toyParse, List.takeWhile_append_of_pos (ha _), List.dropWhile_append_of_pos (ha _)]
    omega

theorem toy_not_numeric (i : Instant) : numericLit (toyFormat i) = false := by
  unfold toyFormat numericLit
  simp [List.dropWhile, isSpaceC, isDigitC]

example : TLaws toyT := ⟨toy_parse_format, toy_parse_format, fun i _ => toy_not_numeric i⟩

example (i : Instant) (h : i.ok) : InDom toyF toyT .timestamp (.str (toyFormat i)) :=
  Or.inr ⟨rfl, i, toy_parse_format i h, h⟩

end EgoVerif.C18
