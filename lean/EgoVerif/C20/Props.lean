import EgoVerif.C20.Model
/-
C20 — the handler of a route runs only for a caller its declaration admits: the gate of ServeHTTP enforces the
folded route flags (`C20_gate`, `C20_serve`), and the builder calls fold to exactly what the declaration asks
for (`C20_builder`).  `Cred.jwtPermsNonEmpty` is the one assumption on the primitives.  `C20_orig_*`: the tree
before fixes/C20.patch.
-/
namespace EgoVerif.C20

theorem permStatus_ok {db : DB} {f : Flags} {s : Session} (h : permStatus db f s = 200) :
    ∀ ps, f.perms = some ps → s.admin = true ∨ ∀ p ∈ ps, holds db s p = true := by
  intro ps hp
  simp only [permStatus, hp] at h
  by_cases ha : s.admin = true
  · exact Or.inl ha
  by_cases hall : ps.all (holds db s) = true
  · exact Or.inr (List.all_eq_true.mp hall)
  rw [if_neg ha, if_neg hall] at h
  split at h <;> omega

theorem tail_invoked {db : DB} {f : Flags} {rq : Req} {s : Session}
    (h : (tail db f rq s).invoked = true) : permStatus db f s = 200 := by
  by_cases hp : permStatus db f s = 200
  · exact hp
  · cases hm : rq.mediaBad <;> simp [tail, hm, hp] at h

/-- **Gate.** Whatever the flags, the request and the session: if the handler is invoked then the
session is authenticated whenever the route needs it, and it is an administrator's or every
required permission was granted. -/
theorem C20_gate (db : DB) (f : Flags) (rq : Req) (s : Session)
    (h : (gate db f rq s).invoked = true) :
    (needsAuth f = true → s.authenticated = true) ∧
    (∀ ps, f.perms = some ps → s.admin = true ∨ ∀ p ∈ ps, holds db s p = true) := by
  by_cases hn : needsAuth f = true
  · -- the authentication block runs; each of its three refusals contradicts `h`
    cases hl : s.lockedOut <;> cases ha : s.authenticated <;> cases hh : f.hasHandler <;>
      simp [gate, hn, hl, ha, hh] at h
    exact ⟨fun _ => rfl, permStatus_ok (tail_invoked h)⟩
  · exact ⟨fun h' => absurd h' hn, fun ps hp => absurd (by simp [needsAuth, hp]) hn⟩

/-! ## from the session back to the caller -/

theorem dbHas_eq (db : DB) (u p : String) : dbHas db u p = ciMem p (dbPerms db u) := by
  unfold dbHas dbPerms
  cases db.lookup u <;> simp [ciMem]

/-- `oauth.ValidateJWT` never returns an empty permission list (claims.go grants "ego.logon"
when no scope maps to a permission). -/
def Cred.jwtPermsNonEmpty : Cred → Prop
  | .jwt (some (_, ps)) => ps ≠ []
  | _ => True

theorem authenticated_eq (db : DB) (c : Cred) : (authenticate db c).authenticated = c.authentic := by
  rcases c with _ | (_ | _) | (_ | _) | _ | ⟨u, _ | _, ok⟩ <;> rfl

theorem auth_eq (db : DB) (c : Cred) (hj : c.jwtPermsNonEmpty) (ha : c.authentic = true) (p : String) :
    (authenticate db c).admin = ciMem root (c.identityPerms db) ∧
    holds db (authenticate db c) p = ciMem p (c.identityPerms db) := by
  -- `ha` leaves a JWT with claims (permission list empty, which `hj` excludes, or not), a bearer token of a
  -- known user, an accepted password
  rcases c with _ | (_ | ⟨u, _ | ⟨a, t⟩⟩) | (_ | u) | _ | ⟨u, _ | _, _ | _⟩ <;> try cases ha
  · exact absurd rfl hj
  · exact ⟨by simp only [authenticate, Cred.identityPerms], if_pos (Nat.succ_pos _)⟩
  · exact ⟨by simp only [authenticate, Cred.identityPerms],
      by simp only [holds, authenticate, Cred.identityPerms, dbHas_eq, ite_self]⟩
  · exact ⟨dbHas_eq _ _ _, dbHas_eq _ _ _⟩

theorem serve_of_needsAuth (db : DB) {f : Flags} (rq : Req) (c : Cred) (hn : needsAuth f = true) :
    serve db f rq c = gate db f rq (authenticate db c) := by
  simp only [serve, hn, Bool.or_true, if_true]

/-- **Main theorem.** For every route flag combination, request, credential (with any verdicts of
the primitives, but a JWT accepted with at least one permission: `hj`) and user database: if ServeHTTP
invokes the handler then
(1) a route that needs authentication was given a credential that proves an identity, and
(2) a route with required permissions was called by an identity that is an administrator or
holds every one of them. -/
theorem C20_serve (db : DB) (f : Flags) (rq : Req) (c : Cred) (hj : c.jwtPermsNonEmpty)
    (h : (serve db f rq c).invoked = true) :
    (needsAuth f = true → c.authentic = true) ∧
    (∀ ps, f.perms = some ps →
      c.authentic = true ∧
      (ciMem root (c.identityPerms db) = true ∨ ∀ p ∈ ps, ciMem p (c.identityPerms db) = true)) := by
  have g := fun hn => C20_gate db f rq _ (serve_of_needsAuth db rq c hn ▸ h)
  have key : needsAuth f = true → c.authentic = true := fun hn => authenticated_eq db c ▸ (g hn).1 hn
  refine ⟨key, fun ps hp => ?_⟩
  have hn : needsAuth f = true := by simp [needsAuth, hp]
  have e := auth_eq db c hj (key hn)
  exact ⟨key hn, ((g hn).2 ps hp).imp (fun hadm => (e root).1 ▸ hadm) fun hall p hp' => (e p).2 ▸ hall p hp'⟩

/-- A caller without a proven identity never reaches the handler of a route that needs one. -/
theorem C20_unauthenticated_refused (db : DB) (f : Flags) (rq : Req) (c : Cred)
    (hn : needsAuth f = true) (hc : c.authentic = false) : (serve db f rq c).invoked = false := by
  rw [serve_of_needsAuth db rq c hn]
  cases hi : (gate db f rq (authenticate db c)).invoked with
  | false => rfl
  | true => exact absurd (authenticated_eq db c ▸ (C20_gate db f rq _ hi).1 hn) (hc ▸ Bool.false_ne_true)

/-- A locked-out account never reaches a handler that authenticates, even with the right password. -/
theorem C20_locked_out_refused (db : DB) (f : Flags) (rq : Req) (u : String) (ok : Bool)
    (h : f.lightweight = false ∨ needsAuth f = true) :
    serve db f rq (.basic u true ok) = ⟨false, 429⟩ := by
  rcases h with h | h <;> simp [serve, gate, authenticate, h]

/-! ## the builder: what a chain of calls folds to -/

theorem mem_addPerms (acc ps : List String) (p : String) :
    p ∈ addPerms acc ps ↔ p ∈ acc ∨ p ∈ ps := by
  induction ps generalizing acc with
  | nil => simp [addPerms]
  | cons q qs ih =>
    unfold addPerms
    split
    · next hc =>
      have hq : q ∈ acc := by simpa using hc
      rw [ih, List.mem_cons]
      exact ⟨Or.imp_right Or.inr, fun h => h.elim Or.inl (·.elim (· ▸ Or.inl hq) Or.inr)⟩
    · simp [ih, or_assoc]

theorem nodup_addPerms (acc ps : List String) (h : acc.Nodup) : (addPerms acc ps).Nodup := by
  induction ps generalizing acc with
  | nil => exact h
  | cons q qs ih =>
    unfold addPerms
    split
    · exact ih acc h
    · next hc =>
      have hq : q ∉ acc := by simpa using hc
      exact ih _ (List.nodup_append.mpr ⟨h, by simp, fun a ha b hb e =>
        hq (List.mem_singleton.mp hb ▸ e ▸ ha)⟩)

theorem addPerms_append (acc a b : List String) : addPerms (addPerms acc a) b = addPerms acc (a ++ b) := by
  induction a generalizing acc with
  | nil => rfl
  | cons q qs ih =>
    simp only [addPerms, List.cons_append]
    split <;> exact ih _

theorem fold_perms_getD (f0 : Flags) (calls : List Call) :
    (calls.foldl apply f0).perms.getD [] = addPerms (f0.perms.getD []) (declPerms calls) := by
  induction calls generalizing f0 with
  | nil => rfl
  | cons c rest ih =>
    rw [List.foldl_cons, ih]
    cases c with
    | permissions ps => exact addPerms_append _ ps _
    | _ => rfl

theorem fold_auth (f0 : Flags) (calls : List Call) :
    (calls.foldl apply f0).perms.isSome = (f0.perms.isSome || calls.any Call.isPermissions) ∧
    needsAuth (calls.foldl apply f0) =
      ((f0.perms.isSome || calls.any Call.isPermissions) || calls.foldl authStep f0.mustAuth) := by
  induction calls generalizing f0 with
  | nil => simp [needsAuth, Bool.or_comm]
  | cons c rest ih =>
    simp only [List.foldl_cons, List.any_cons]
    rw [(ih _).1, (ih _).2]
    cases c <;> simp [apply, Call.isPermissions, authStep]

/-- **Builder.** For every sequence of builder calls, what the gate will enforce for the route is
exactly what the declaration asks for: authentication iff some `Permissions` call or the last
`Authentication(v)` has v = true (no other call, in particular `LightWeight`, in any position,
changes it); `requiredPermissions` is non-nil iff `Permissions` was called, holds exactly the
permissions named by the calls, each once. -/
theorem C20_builder (calls : List Call) :
    needsAuth (build calls) = declAuth calls ∧
    (build calls).perms.isSome = calls.any Call.isPermissions ∧
    (∀ p, p ∈ (build calls).perms.getD [] ↔ p ∈ declPerms calls) ∧
    ((build calls).perms.getD []).Nodup := by
  refine ⟨?_, ?_, ?_, ?_⟩
  · simpa [build, declAuth, lastAuth] using (fold_auth {} calls).2
  · simpa [build] using (fold_auth {} calls).1
  · intro p
    rw [build, fold_perms_getD, mem_addPerms]
    exact or_iff_right List.not_mem_nil
  · rw [build, fold_perms_getD]
    exact nodup_addPerms _ _ List.nodup_nil

/-- **Order independence.** Two declarations made of the same calls in any two orders (with the
same final `Authentication` value, the only call bearing on the requirements whose repetition is
last-wins) give routes with the same requirements. -/
theorem C20_builder_order (c₁ c₂ : List Call) (h : c₁.Perm c₂) (hl : lastAuth c₁ = lastAuth c₂) :
    needsAuth (build c₁) = needsAuth (build c₂) ∧
    (build c₁).perms.isSome = (build c₂).perms.isSome ∧
    (∀ p, p ∈ (build c₁).perms.getD [] ↔ p ∈ (build c₂).perms.getD []) := by
  have h1 := C20_builder c₁
  have h2 := C20_builder c₂
  have hany : c₁.any Call.isPermissions = c₂.any Call.isPermissions := h.any_eq
  refine ⟨?_, ?_, ?_⟩
  · rw [h1.1, h2.1, declAuth, declAuth, hany, hl]
  · rw [h1.2.1, h2.2.1, hany]
  · intro p
    rw [h1.2.2.1 p, h2.2.2.1 p, declPerms, declPerms, List.mem_flatMap, List.mem_flatMap]
    exact exists_congr fun c => and_congr_left' h.mem_iff

/-- **Declared ⇒ enforced**, end to end: for every declaration, request, credential (under `hj`, as in
`C20_serve`), database: if the handler of the declared route runs, the caller proved an identity whenever
the declaration asks for authentication, and holds (or is administrator for) every permission it names. -/
theorem C20_declared_enforced (db : DB) (calls : List Call) (rq : Req) (c : Cred)
    (hj : c.jwtPermsNonEmpty) (h : (serve db (build calls) rq c).invoked = true) :
    (declAuth calls = true → c.authentic = true) ∧
    (∀ p ∈ declPerms calls,
      c.authentic = true ∧
      (ciMem root (c.identityPerms db) = true ∨ ciMem p (c.identityPerms db) = true)) := by
  have hs := C20_serve db (build calls) rq c hj h
  have hb := C20_builder calls
  refine ⟨fun hd => hs.1 (hb.1 ▸ hd), fun p hp => ?_⟩
  have hmem := (hb.2.2.1 p).mpr hp
  cases hps : (build calls).perms with
  | none => rw [hps] at hmem; cases hmem
  | some ps =>
    rw [hps] at hmem
    have ⟨a, b⟩ := hs.2 ps hps
    exact ⟨a, b.imp_right fun b => b p hmem⟩

/-! ## the tree before fixes/C20.patch: the same statements are false -/

/-- Before the fix: `.LightWeight(true).Authentication(true)` runs the handler for a request with
no credential at all. -/
theorem C20_orig_gate_counterexample :
    let f := buildOrig [.lightWeight true, .authentication true]
    needsAuth f = true ∧ Cred.none.authentic = false ∧
    (serveOrig [] f {} Cred.none) = ⟨true, 200⟩ := by decide

/-- Before the fix: `.Authentication(true).LightWeight(true)` silently drops the declared
requirement, the reverse order keeps it — the folded flags depend on the call order. -/
theorem C20_orig_builder_counterexample :
    declAuth [.authentication true, .lightWeight true] = true ∧
    needsAuth (buildOrig [.authentication true, .lightWeight true]) = false ∧
    (buildOrig [.lightWeight true, .authentication true]).mustAuth = true := by decide

/-- Before the fix: `.Permissions("x").Authentication(false)` lets a caller who merely NAMES a user
holding "x" (wrong password) through the permission check. -/
theorem C20_orig_named_user_counterexample :
    let f := buildOrig [.permissions ["x"], .authentication false]
    let c := Cred.basic "alice" false false
    c.authentic = false ∧ f.perms = some ["x"] ∧
    (serveOrig [("alice", ["x"])] f {} c).invoked = true := by
  refine ⟨rfl, rfl, ?_⟩
  decide

/-- On the unfixed tree the gate theorem holds for the routes that are not lightweight and whose
mustAuthenticate flag agrees with their permissions — the shape of every shipped route but the
heartbeat (lightweight; it declares nothing). -/
theorem C20_orig_gate_partial (db : DB) (f : Flags) (rq : Req) (s : Session)
    (hl : f.lightweight = false) (hm : f.perms.isSome = true → f.mustAuth = true)
    (h : (gateOrig db f rq s).invoked = true) :
    (needsAuth f = true → s.authenticated = true) ∧
    (∀ ps, f.perms = some ps → s.admin = true ∨ ∀ p ∈ ps, holds db s p = true) := by
  have hn : needsAuth f = f.mustAuth := by
    unfold needsAuth
    cases hp : f.perms.isSome
    · simp
    · simp [hm hp]
  have : gateOrig db f rq s = gate db f rq s := by
    simp [gateOrig, gate, hl, hn]
  exact C20_gate db f rq s (this ▸ h)

/-! ## non-vacuity: the hypotheses are met by non-trivial instances -/

example : (serve [("bob", ["ego.sql", "Ego.Logon"])]
    (build [.other, .permissions ["ego.logon", "EGO.SQL"], .canAuthenticate true]) {}
    (.basic "Bob" false true)).invoked = true := by
  -- `eqCI` reads each name with `toList`, which the elaborator evaluates by decoding UTF-8: slow to check
  decide +kernel

example : (serve [("bob", ["ego.sql"])]
    (build [.permissions ["ego.logon", "ego.sql"]]) {} (.bearer (some "bob"))) = ⟨false, 403⟩ := by
  decide +kernel

example : (serve [] (build [.lightWeight true, .authentication true]) {} Cred.none)
    = ⟨false, 403⟩ := by decide

/-- a lightweight route that declares nothing runs without credentials (the heartbeat) -/
example : (serve [] (build [.lightWeight true, .other]) {} Cred.none) = ⟨true, 200⟩ := by decide

example : (Cred.jwt (some ("carol", ["ego.logon"]))).jwtPermsNonEmpty := by
  simp [Cred.jwtPermsNonEmpty]

/-- order theorem hypotheses met by a real reordering -/
example : List.Perm [Call.lightWeight true, .authentication true, .permissions ["a"]]
    [.permissions ["a"], .authentication true, .lightWeight true] ∧
    lastAuth [Call.lightWeight true, .authentication true, .permissions ["a"]]
      = lastAuth [.permissions ["a"], .authentication true, .lightWeight true] := by
  refine ⟨?_, by decide⟩
  decide

end EgoVerif.C20
