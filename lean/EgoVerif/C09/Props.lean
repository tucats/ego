import EgoVerif.C09.Model
/-
C09 — one execution leaves no interpreter-owned goroutine behind, whatever its history and exit path.

A well-bracketed piece of history only puts new goroutines in front of those alive before it (`Res`).  A new one is
owed a stop event by the top frame that started it, whose exit removes it (`Direct`), or may stay (`Left`); the frames
abandoned by user goroutines that never finish are recorded by a ghost run (`runA`).  The generated site table enters
through `TableOk` only.
-/
namespace EgoVerif.C09

theorem run_append (tbl : Table) (st : St) (a b : List Ev) :
    run tbl st (a ++ b) = run tbl (run tbl st a) b := by
  simp [run, List.foldl_append]

theorem run_cons (tbl : Table) (st : St) (e : Ev) (l : List Ev) :
    run tbl st (e :: l) = run tbl (step tbl st e) l := rfl

theorem run_nil (tbl : Table) (st : St) : run tbl st [] = st := rfl

/-- frame ids are fresh: everything alive or active was created before `next` -/
def Inv (st : St) : Prop := (∀ g ∈ st.live, g.frame < st.next) ∧ (∀ f ∈ st.stack, f.id < st.next)

/-- which goroutines are counted.  `u = false`: the interpreter's own (not user goroutines, not what runs
    inside one, not process-wide workers); `u = true`: user-owned ones as well. -/
def keep (u : Bool) (g : G) : Bool := (u || !g.user) && g.stop != .processOnce

def TableOk (tbl : Table) : Prop := ∀ fn, tbl fn ∈ allowedStops

theorem fires_or_once {s : Stop} (h : s ∈ allowedStops) (h1 : s ≠ .userProgram) :
    (∀ e, s.firesOn e = true) ∨ s = .processOnce := by
  cases s <;> simp_all [allowedStops, Stop.firesOn]

/-- ids of the frames a `goStuck` abandons -/
def droppedIds : List Frame → List Nat
  | [] => []
  | f :: rest => if f.isGo then [f.id] else f.id :: droppedIds rest

/-- ghost instrumentation of `step`: also collect the ids of abandoned frames (the frames of user
    goroutines that never finish, the goroutine's own go-frame included) -/
def stepA (tbl : Table) (s : St × List Nat) (e : Ev) : St × List Nat :=
  (step tbl s.1 e, match e with
    | .goStuck => droppedIds s.1.stack ++ s.2
    | _ => s.2)

def runA (tbl : Table) (s : St × List Nat) (evs : List Ev) : St × List Nat := evs.foldl (stepA tbl) s

theorem runA_fst (tbl : Table) (s : St × List Nat) (evs : List Ev) : (runA tbl s evs).1 = run tbl s.1 evs := by
  induction evs generalizing s with
  | nil => rfl
  | cons e l ih => simpa [runA, run, stepA] using ih (stepA tbl s e)

theorem runA_append (tbl : Table) (s : St × List Nat) (a b : List Ev) :
    runA tbl s (a ++ b) = runA tbl (runA tbl s a) b := by simp [runA, List.foldl_append]

theorem runA_cons (tbl : Table) (s : St × List Nat) (e : Ev) (l : List Ev) :
    runA tbl s (e :: l) = runA tbl (stepA tbl s e) l := rfl

theorem runA_nil (tbl : Table) (s : St × List Nat) : runA tbl s [] = s := rfl

def Direct (st : St) (g : G) : Prop :=
  ∃ f rest, st.stack = f :: rest ∧ f.isGo = false ∧ g.frame = f.id ∧ g.user = inUser st ∧
    ∀ e, g.stop.firesOn e = true

theorem Direct.top {st : St} {g : G} {f : Frame} {rest : List Frame} (hs : st.stack = f :: rest)
    (h : Direct st g) : f.isGo = false ∧ g.frame = f.id ∧ g.user = inUser st ∧ ∀ e, g.stop.firesOn e = true := by
  obtain ⟨f', _, hs', h'⟩ := h
  cases (List.cons.inj (hs.symm.trans hs')).1
  exact h'

theorem Direct.of_stack {a b : St} {g : G} (hs : b.stack = a.stack) (h : Direct b g) : Direct a g := by
  unfold Direct inUser at *
  rwa [← hs]

/-- what may stay when its frame is gone: a process-wide worker, or a user-owned goroutine of an abandoned frame -/
def Left (A : List Nat) (g : G) : Prop := g.stop = .processOnce ∨ g.user = true ∧ g.frame ∈ A

theorem Left.mono {A B : List Nat} {g : G} (h : ∀ n ∈ A, n ∈ B) : Left A g → Left B g :=
  .imp_right (.imp_right (h _))

/-- what one well-bracketed piece of history does to the (ghost) state: it leaves the frame stack and the
    goroutines alive before it as they are, and the ones it adds are `D` (still owed a stop event) or `Left` -/
structure Res (D : G → Prop) (s s' : St × List Nat) : Prop where
  stack : s'.1.stack = s.1.stack
  inv : Inv s'.1
  mono : s.1.next ≤ s'.1.next
  ab : ∀ n ∈ s.2, n ∈ s'.2
  live : ∃ new, s'.1.live = new ++ s.1.live ∧ ∀ g ∈ new, D g ∨ Left s'.2 g

theorem Res.refl {D : G → Prop} {s : St × List Nat} (h : Inv s.1) : Res D s s :=
  ⟨rfl, h, Nat.le_refl _, fun _ h => h, [], rfl, fun _ hg => (List.not_mem_nil hg).elim⟩

theorem Res.trans {D : G → Prop} {a b c : St × List Nat} (h1 : Res D a b) (h2 : Res D b c) : Res D a c := by
  obtain ⟨n1, e1, p1⟩ := h1.live
  obtain ⟨n2, e2, p2⟩ := h2.live
  refine ⟨h2.stack.trans h1.stack, h2.inv, Nat.le_trans h1.mono h2.mono, fun n h => h2.ab n (h1.ab n h),
    n2 ++ n1, ?_, fun g hg => ?_⟩
  · rw [e2, e1, List.append_assoc]
  · exact (List.mem_append.mp hg).elim (p2 g) fun hg => (p1 g hg).imp_right (.mono h2.ab)

theorem Res.weaken {D D' : G → Prop} {s s' : St × List Nat} (hD : ∀ g, D g → D' g) (h : Res D s s') : Res D' s s' :=
  ⟨h.stack, h.inv, h.mono, h.ab, h.live.imp fun _ hn => ⟨hn.1, fun g hg => (hn.2 g hg).imp_left (hD g)⟩⟩

theorem step_spawn (tbl : Table) (st : St) (fn : Fn) :
    step tbl st (.spawn fn) = st ∨
    ∃ f rest, st.stack = f :: rest ∧ f.isGo = false ∧ tbl fn ≠ .userProgram ∧
      step tbl st (.spawn fn) = { st with live := ⟨fn, tbl fn, f.id, inUser st⟩ :: st.live } := by
  unfold step
  cases hs : st.stack with
  | nil => exact .inl rfl
  | cons f rest =>
    by_cases h1 : f.isGo = true
    · exact .inl (if_pos h1)
    by_cases h2 : (tbl fn == .userProgram) = true
    · exact .inl ((if_neg h1).trans (if_pos h2))
    by_cases h3 : (tbl fn == .processOnce && st.live.any fun g => g.fn == fn) = true
    · exact .inl ((if_neg h1).trans ((if_neg h2).trans (if_pos h3)))
    · exact .inr ⟨f, rest, rfl, Bool.eq_false_iff.mpr h1, fun h => h2 (beq_iff_eq.mpr h),
        (if_neg h1).trans ((if_neg h2).trans (if_neg h3))⟩

theorem step_exit (tbl : Table) (e : Exit) {st : St} {id : Nat} {rest : List Frame}
    (hs : st.stack = ⟨id, false⟩ :: rest) :
    step tbl st (.exit e) =
      { st with live := st.live.filter (fun g => !(g.frame == id && g.stop.firesOn e)), stack := rest } := by
  unfold step
  rw [hs]
  rfl

theorem step_goEnd (tbl : Table) {st : St} {id : Nat} {rest : List Frame} (hs : st.stack = ⟨id, true⟩ :: rest) :
    step tbl st .goEnd = { st with live := st.live.filter (fun g => g.frame != id), stack := rest } := by
  unfold step
  rw [hs]
  rfl

theorem fresh_frame {g : G} {n : Nat} (h : g.frame < n) : (g.frame == n) = false :=
  beq_false_of_ne (Nat.ne_of_lt h)

theorem inv_enter (tbl : Table) (st : St) (h : Inv st) : Inv (step tbl st .enter) :=
  ⟨fun g hg => Nat.lt_succ_of_lt (h.1 g hg),
    List.forall_mem_cons.mpr ⟨Nat.lt_succ_self _, fun f hf => Nat.lt_succ_of_lt (h.2 f hf)⟩⟩

theorem inv_goBegin (tbl : Table) (st : St) (h : Inv st) : Inv (step tbl st .goBegin) :=
  ⟨List.forall_mem_cons.mpr ⟨Nat.lt_succ_self _, fun g hg => Nat.lt_succ_of_lt (h.1 g hg)⟩,
    List.forall_mem_cons.mpr ⟨Nat.lt_succ_self _, fun f hf => Nat.lt_succ_of_lt (h.2 f hf)⟩⟩

theorem filter_old {st : St} (h : Inv st) {q : G → Bool} (hq : ∀ g, g.frame < st.next → q g = true)
    (new : List G) {mid : List G} (hmid : mid.filter q = []) :
    (new ++ (mid ++ st.live)).filter q = new.filter q ++ st.live := by
  rw [List.filter_append, List.filter_append, hmid, List.filter_eq_self.mpr fun g hg => hq g (h.1 g hg)]
  rfl

theorem inv_close {s s2 : St} {q : G → Bool} (h : Inv s) (h2 : Inv s2) (hm : s.next ≤ s2.next) :
    Inv { s2 with live := s2.live.filter q, stack := s.stack } :=
  ⟨fun g hg => h2.1 g (List.mem_filter.mp hg).1, fun f hf => Nat.lt_of_lt_of_le (h.2 f hf) hm⟩

theorem res_spawn (tbl : Table) (hT : TableOk tbl) (fn : Fn) (s : St × List Nat) (h : Inv s.1) :
    Res (Direct s.1) s (stepA tbl s (.spawn fn)) := by
  show Res _ s (step tbl s.1 (.spawn fn), s.2)
  rcases step_spawn tbl s.1 fn with e | ⟨f, rest, hs, hgo, hup, e⟩ <;> rw [e]
  · exact .refl h
  refine ⟨rfl, ⟨List.forall_mem_cons.mpr ⟨h.2 f (hs ▸ List.mem_cons_self), h.1⟩, h.2⟩, Nat.le_refl _,
    fun _ h => h, [_], rfl, fun g hg => ?_⟩
  cases List.mem_singleton.mp hg
  exact (fires_or_once (hT fn) hup).imp (fun hf => ⟨f, rest, hs, hgo, rfl, rfl, hf⟩) .inl

/-- a finished call leaves nothing of its own behind: what it started directly goes at its exit, and
    everything older belongs to older frames -/
theorem res_call (tbl : Table) (e : Exit) {s s2 : St × List Nat} (h : Inv s.1)
    (hb : Res (Direct (step tbl s.1 .enter)) (stepA tbl s .enter) s2) :
    Res (fun _ => False) s (stepA tbl s2 (.exit e)) := by
  obtain ⟨new, e1, p1⟩ := hb.live
  have hm : s.1.next ≤ s2.1.next := Nat.le_trans (Nat.le_succ _) hb.mono
  show Res _ s (step tbl s2.1 (.exit e), s2.2)
  rw [step_exit tbl e hb.stack]
  refine ⟨rfl, inv_close h hb.inv hm, hm, hb.ab, _,
    (congrArg _ e1).trans (filter_old h (fun g hg => ?_) new (mid := []) rfl), fun g hg => ?_⟩
  · rw [fresh_frame hg]
    rfl
  · obtain ⟨hg, hq⟩ := List.mem_filter.mp hg
    refine (p1 g hg).imp_left fun hd => ?_
    obtain ⟨_, hfr, _, hfire⟩ := hd.top (f := ⟨s.1.next, false⟩) rfl
    simp [hfr, hfire e] at hq

theorem res_go (tbl : Table) {s s2 : St × List Nat} (h : Inv s.1)
    (hb : Res (Direct (step tbl s.1 .goBegin)) (stepA tbl s .goBegin) s2) :
    Res (fun _ => False) s (stepA tbl s2 .goEnd) := by
  obtain ⟨new, e1, p1⟩ := hb.live
  have hm : s.1.next ≤ s2.1.next := Nat.le_trans (Nat.le_succ _) hb.mono
  show Res _ s (step tbl s2.1 .goEnd, s2.2)
  rw [step_goEnd tbl hb.stack]
  -- the user goroutine itself goes with its go-frame
  refine ⟨rfl, inv_close h hb.inv hm, hm, hb.ab, _,
    (congrArg _ e1).trans (filter_old h (fun g hg => ?_) new (mid := [_]) (List.filter_cons_of_neg (by simp))),
    fun g hg => (p1 g (List.mem_filter.mp hg).1).imp_left fun hd =>
      Bool.noConfusion (hd.top (f := ⟨s.1.next, true⟩) rfl).1⟩
  rw [bne, fresh_frame hg]
  rfl

theorem res_goStuck (tbl : Table) {s s2 s4 : St × List Nat} (h : Inv s.1)
    (hb : Res (Direct (step tbl s.1 .goBegin)) (stepA tbl s .goBegin) s2)
    (ht : Res (Direct (step tbl s2.1 .enter)) (stepA tbl s2 .enter) s4) :
    Res (fun _ => False) s (stepA tbl s4 .goStuck) := by
  have hst4 : s4.1.stack = ⟨s2.1.next, false⟩ :: ⟨s.1.next, true⟩ :: s.1.stack :=
    ht.stack.trans (congrArg (_ :: ·) hb.stack)
  -- the stuck goroutine abandons its call frame and its go-frame
  have hA : stepA tbl s4 .goStuck = ({ s4.1 with stack := s.1.stack }, s2.1.next :: s.1.next :: s4.2) := by
    show ({ s4.1 with stack := dropThroughGo s4.1.stack }, droppedIds s4.1.stack ++ s4.2) = _
    rw [hst4]
    rfl
  have hm : s.1.next ≤ s4.1.next :=
    Nat.le_trans (Nat.le_succ _) (Nat.le_trans hb.mono (Nat.le_trans (Nat.le_succ _) ht.mono))
  have old : ∀ n ∈ s4.2, n ∈ s2.1.next :: s.1.next :: s4.2 := fun n h => .tail _ (.tail _ h)
  obtain ⟨n2, e2, p2⟩ := hb.live
  obtain ⟨n4, e4, p4⟩ := ht.live
  rw [hA]
  refine ⟨rfl, ⟨ht.inv.1, fun f hf => Nat.lt_of_lt_of_le (h.2 f hf) hm⟩, hm,
    fun n hn => old n (ht.ab n (hb.ab n hn)),
    n4 ++ (n2 ++ [⟨.goByteCode, tbl .goByteCode, s.1.next, true⟩]), ?_, fun g hg => .inr ?_⟩
  · show s4.1.live = _
    rw [e4]
    show n4 ++ s2.1.live = _
    rw [e2, List.append_assoc, List.append_assoc]
    rfl
  · rcases List.mem_append.mp hg with hg | hg
    · -- started in the abandoned call frame, inside the user goroutine
      refine (p4 g hg).elim (fun hd => ?_) (.mono old)
      obtain ⟨_, hfr, hu, _⟩ := hd.top (f := ⟨s2.1.next, false⟩) rfl
      refine .inr ⟨hu.trans ?_, hfr ▸ .head _⟩
      show List.any (_ :: s2.1.stack) _ = true
      rw [hb.stack]
      rfl
    rcases List.mem_append.mp hg with hg | hg
    · exact (p2 g hg).elim (fun hd => Bool.noConfusion (hd.top (f := ⟨s.1.next, true⟩) rfl).1)
        (.mono fun n hn => old n (ht.ab n hn))
    · cases List.mem_singleton.mp hg
      exact .inr ⟨rfl, .tail _ (.head _)⟩

theorem res_flat (tbl : Table) (hT : TableOk tbl) (p : Prog) :
    ∀ s : St × List Nat, Inv s.1 → Res (Direct s.1) s (runA tbl s (flat p)) := by
  induction p with
  | skip | probe => exact fun _ h => .refl h
  | spawn fn => exact res_spawn tbl hT fn
  | seq a b iha ihb =>
    intro s h
    simp only [flat, runA_append]
    have r1 := iha s h
    exact r1.trans ((ihb _ r1.inv).weaken fun _ => .of_stack r1.stack)
  | call b e ih =>
    intro s h
    simp only [flat, runA_cons, runA_append, runA_nil]
    exact (res_call tbl e h (ih (stepA tbl s .enter) (inv_enter tbl s.1 h))).weaken fun _ => False.elim
  | go b ih =>
    intro s h
    simp only [flat, runA_cons, runA_append, runA_nil]
    exact (res_go tbl h (ih (stepA tbl s .goBegin) (inv_goBegin tbl s.1 h))).weaken fun _ => False.elim
  | goStuck b t ihb iht =>
    intro s h
    simp only [flat, runA_cons, runA_append, runA_nil]
    have r1 := ihb (stepA tbl s .goBegin) (inv_goBegin tbl s.1 h)
    exact (res_goStuck tbl h r1 (iht (stepA tbl _ .enter) (inv_enter tbl _ r1.inv))).weaken fun _ => False.elim

theorem runA_snd_allFinish (tbl : Table) (p : Prog) (hp : p.allFinish = true) :
    ∀ s : St × List Nat, (runA tbl s (flat p)).2 = s.2 := by
  induction p with
  | skip | probe | spawn fn => exact fun _ => rfl
  | seq a b iha ihb =>
    intro s
    have hp := Bool.and_eq_true_iff.mp hp
    simp only [flat, runA_append]
    rw [ihb hp.2, iha hp.1]
  | call b e ih =>
    intro s
    simp only [flat, runA_cons, runA_append, runA_nil]
    exact ih hp (stepA tbl s .enter)
  | go b ih =>
    intro s
    simp only [flat, runA_cons, runA_append, runA_nil]
    exact ih hp (stepA tbl s .goBegin)
  | goStuck b t _ _ => exact absurd hp Bool.false_ne_true

/-- the interpreter-owned live goroutines (what `runtime.NumGoroutine` minus user goroutines minus one-time
    workers counts) -/
def owned (st : St) : List G := st.live.filter (keep false)

def allLive (st : St) : List G := st.live.filter (keep true)

/-- one complete execution: enter, history `p`, leave by exit path `e` -/
def exec (tbl : Table) (p : Prog) (e : Exit) (st : St) : St := run tbl st (flat (.call p e))

def abandoned (tbl : Table) (p : Prog) (e : Exit) (st : St) : List Nat :=
  (runA tbl (st, []) (flat (.call p e))).2

theorem exec_spec (tbl : Table) (hT : TableOk tbl) (p : Prog) (e : Exit) (st : St) (h : Inv st) :
    Inv (exec tbl p e st) ∧
      ∃ new, (exec tbl p e st).live = new ++ st.live ∧ ∀ g ∈ new, Left (abandoned tbl p e st) g := by
  have r : Res (fun _ => False) (st, []) (runA tbl (st, []) (flat (.call p e))) := by
    simp only [flat, runA_cons, runA_append, runA_nil]
    exact res_call tbl e h (res_flat tbl hT p (stepA tbl (st, []) .enter) (inv_enter tbl st h))
  rw [show exec tbl p e st = _ from (runA_fst tbl (st, []) _).symm]
  exact ⟨r.inv, r.live.imp fun _ hn => ⟨hn.1, fun g hg => (hn.2 g hg).resolve_left id⟩⟩

theorem keep_left {u : Bool} {A : List Nat} {g : G} (hA : u = true → A = []) (h : Left A g) :
    keep u g = false := by
  rcases h with h | ⟨hu, hf⟩
  · simp [keep, h]
  · cases u
    · simp [keep, hu]
    · cases hA rfl
      exact absurd hf List.not_mem_nil

theorem exec_res (tbl : Table) (hT : TableOk tbl) (u : Bool) (p : Prog) (e : Exit)
    (hp : u = true → p.allFinish = true) (st : St) (h : Inv st) :
    (exec tbl p e st).live.filter (keep u) = st.live.filter (keep u) := by
  obtain ⟨_, new, e1, p1⟩ := exec_spec tbl hT p e st h
  rw [e1, List.filter_append, List.filter_eq_nil_iff.mpr fun g hg => ?_]
  · rfl
  · exact ne_true_of_eq_false
      (keep_left (fun hu => runA_snd_allFinish tbl (.call p e) (hp hu) _) (p1 g hg))

/-- **No growth.**  Whatever the execution does (any nesting of callbacks, any user goroutines, finishing or
    not) and however it ends, the interpreter-owned live goroutines afterwards are exactly those before. -/
theorem C09_no_growth (tbl : Table) (hT : TableOk tbl) (p : Prog) (e : Exit) (st : St) (h : Inv st) :
    owned (exec tbl p e st) = owned st :=
  exec_res tbl hT false p e nofun st h

/-- If every goroutine the program started has finished, nothing is left behind (process-wide workers aside). -/
theorem C09_no_growth_all (tbl : Table) (hT : TableOk tbl) (p : Prog) (e : Exit) (hp : p.allFinish = true)
    (st : St) (h : Inv st) : allLive (exec tbl p e st) = allLive st :=
  exec_res tbl hT true p e (fun _ => hp) st h

def execAll (tbl : Table) (st : St) (xs : List (Prog × Exit)) : St :=
  xs.foldl (fun s x => exec tbl x.1 x.2 s) st

/-- **Repetition.**  Any number of executions of any programs with any exits leaves the owned set unchanged. -/
theorem C09_repeat_any (tbl : Table) (hT : TableOk tbl) (xs : List (Prog × Exit)) (st : St) (h : Inv st) :
    owned (execAll tbl st xs) = owned st ∧ Inv (execAll tbl st xs) := by
  induction xs generalizing st with
  | nil => exact ⟨rfl, h⟩
  | cons x xs ih =>
    have := ih (exec tbl x.1 x.2 st) (exec_spec tbl hT x.1 x.2 st h).1
    simp only [execAll, List.foldl_cons] at this ⊢
    exact ⟨this.1.trans (C09_no_growth tbl hT x.1 x.2 st h), this.2⟩

theorem C09_repeat (tbl : Table) (hT : TableOk tbl) (p : Prog) (e : Exit) (n : Nat) (st : St) (h : Inv st) :
    owned (execAll tbl st (List.replicate n (p, e))) = owned st :=
  (C09_repeat_any tbl hT _ st h).1

theorem inv_init : Inv init := by simp [Inv, init]

/-- from a fresh process: after any executions no interpreter-owned goroutine is alive -/
theorem C09_repeat_from_init (tbl : Table) (hT : TableOk tbl) (xs : List (Prog × Exit)) :
    owned (execAll tbl init xs) = [] := by
  simpa [owned, init] using (C09_repeat_any tbl hT xs init inv_init).1

/-- **Leftovers are attributable.**  After one execution — whatever it did, however it ended — every live
    goroutine (process-wide workers aside) either was alive before, or was started by a frame of a user
    goroutine that never finishes (that goroutine itself included). -/
theorem C09_leftovers_abandoned (tbl : Table) (hT : TableOk tbl) (p : Prog) (e : Exit) (st : St) (h : Inv st) :
    ∀ g ∈ (exec tbl p e st).live, g.stop ≠ .processOnce → g ∈ st.live ∨ g.frame ∈ abandoned tbl p e st := by
  intro g hg hn
  obtain ⟨_, new, e1, p1⟩ := exec_spec tbl hT p e st h
  rw [e1] at hg
  exact (List.mem_append.mp hg).symm.imp_right fun hg => ((p1 g hg).resolve_left hn).2

/-- … and when every user goroutine finished nothing was abandoned: every live goroutine was alive before. -/
theorem C09_leftovers_none (tbl : Table) (hT : TableOk tbl) (p : Prog) (e : Exit) (hp : p.allFinish = true)
    (st : St) (h : Inv st) :
    ∀ g ∈ (exec tbl p e st).live, g.stop ≠ .processOnce → g ∈ st.live := by
  intro g hg hn
  refine (C09_leftovers_abandoned tbl hT p e st h g hg hn).resolve_right fun h1 => ?_
  unfold abandoned at h1
  rw [runA_snd_allFinish tbl (.call p e) hp] at h1
  exact List.not_mem_nil h1

/-- **Table check is sound** (discharged by `decide` on the GENERATED table at check time): every `go`
    site is in a known function, its source facts classify it as the expectation table says, and that stop
    event is an allowed one. -/
theorem C09_all_sites_paired (T : List Facts) (h : checkTable T = true) :
    ∀ f ∈ T, ∃ fn, f.fn = some fn ∧ classify f = expected fn ∧ classify f ∈ allowedStops := by
  intro f hf
  have h1 : siteOk f = true := by
    simp only [checkTable, Bool.and_eq_true, List.all_eq_true] at h
    exact h.1 f hf
  unfold siteOk at h1
  cases hfn : f.fn with
  | none => simp [hfn] at h1
  | some fn =>
    simp only [hfn, Bool.and_eq_true, beq_iff_eq, List.contains_iff_mem] at h1
    exact ⟨fn, rfl, h1.1, h1.2⟩

theorem expected_allowed (fn : Fn) : expected fn ∈ allowedStops := by
  cases fn <;> simp [expected, allowedStops]

theorem tableOf_eq_expected (T : List Facts) (h : checkTable T = true) (fn : Fn) :
    tableOf T fn = expected fn := by
  have hcov := (Bool.and_eq_true_iff.mp h).2
  have hcl : ∀ g ∈ T.filter (fun f => f.fn == some fn), classify g = expected fn := fun g hg => by
    obtain ⟨hgT, hgfn⟩ := List.mem_filter.mp hg
    obtain ⟨fn', e1, e2, _⟩ := C09_all_sites_paired T h g hgT
    cases Option.some.inj (e1.symm.trans (beq_iff_eq.mp hgfn))
    exact e2
  unfold tableOf
  cases hl : T.filter (fun f => f.fn == some fn) with
  | nil =>
    -- every expected function still has a site
    obtain ⟨f, hfT, hf⟩ := List.any_eq_true.mp (List.all_eq_true.mp hcov fn (by cases fn <;> simp [allFns]))
    exact absurd (hl ▸ List.mem_filter.mpr ⟨hfT, hf⟩) List.not_mem_nil
  | cons f rest =>
    rw [hl] at hcl
    have hf := hcl f List.mem_cons_self
    exact (if_pos (List.all_eq_true.mpr fun g hg =>
      beq_iff_eq.mpr ((hcl g (List.mem_cons_of_mem _ hg)).trans hf.symm))).trans hf

theorem tableOk_of_check (T : List Facts) (h : checkTable T = true) : TableOk (tableOf T) := by
  intro fn
  rw [tableOf_eq_expected T h fn]
  exact expected_allowed fn

/-- no growth at a checked (generated) table -/
theorem C09_no_growth_gen (T : List Facts) (h : checkTable T = true) (p : Prog) (e : Exit) (st : St)
    (hi : Inv st) : owned (exec (tableOf T) p e st) = owned st :=
  C09_no_growth _ (tableOk_of_check T h) p e st hi

/-- the table of the code before the GORTNS-1 fix: nothing stops the watcher -/
def tblUnpaired : Table := fun _ => .none

theorem exec_unpaired (e : Exit) (st : St) (hN : ∀ g ∈ st.live, g.stop = .none) :
    ∃ g, g.stop = .none ∧ (exec tblUnpaired (.spawn .runFromAddress) e st).live = g :: st.live := by
  refine ⟨⟨.runFromAddress, .none, st.next, inUser st⟩, rfl, ?_⟩
  show (_ :: st.live).filter (fun g => !(g.frame == st.next && g.stop.firesOn e)) = _
  -- no exit is the stop event of a goroutine of this table
  have keeps : ∀ g : G, g.stop = .none → (!(g.frame == st.next && g.stop.firesOn e)) = true :=
    fun g hs => by rw [hs]; exact (Bool.not_eq_true' _).mpr (Bool.and_false _)
  exact List.filter_eq_self.mpr (List.forall_mem_cons.mpr ⟨keeps _ rfl, fun g hg => keeps g (hN g hg)⟩)

/-- **GORTNS-1 in the model**: with an unpaired watcher, n executions leave n goroutines behind,
    whatever the exit path. -/
theorem C09_unpaired_leaks (e : Exit) (n : Nat) :
    (execAll tblUnpaired init (List.replicate n (.spawn .runFromAddress, e))).live.length = n := by
  suffices H : ∀ st, (∀ g ∈ st.live, g.stop = .none) →
      (execAll tblUnpaired st (List.replicate n (.spawn .runFromAddress, e))).live.length
        = st.live.length + n by
    simpa [init] using H init fun _ hg => (List.not_mem_nil hg).elim
  induction n with
  | zero => intro st _; simp [execAll]
  | succ n ih =>
    intro st hN
    obtain ⟨g, hg, e1⟩ := exec_unpaired e st hN
    have := ih _ (by rw [e1]; exact List.forall_mem_cons.mpr ⟨hg, hN⟩)
    simp only [List.replicate_succ, execAll, List.foldl_cons] at this ⊢
    rw [this, e1, List.length_cons]
    omega

/-! ### non-vacuity: the hypotheses are met by the table of the current tree and by rich histories -/

/-- snapshot of the site facts of the tree this file was written against (the check regenerates them) -/
def snapshotSites : List Facts := [
  { fn := some .goByteCode, litBody := false, waitsOnDone := false, deferBefore := false, deferNext := false,
    sendsBuffered := false, recvOnEveryPath := false, wgPaired := true, calleeRunsProgram := true },
  { fn := some .runFromAddress, litBody := true, waitsOnDone := true, deferBefore := false, deferNext := true,
    sendsBuffered := false, recvOnEveryPath := false, wgPaired := false, calleeRunsProgram := false },
  { fn := some .restExchange, litBody := true, waitsOnDone := true, deferBefore := true, deferNext := false,
    sendsBuffered := false, recvOnEveryPath := false, wgPaired := false, calleeRunsProgram := false },
  { fn := some .runChildViaPipe, litBody := true, waitsOnDone := false, deferBefore := false, deferNext := false,
    sendsBuffered := true, recvOnEveryPath := true, wgPaired := false, calleeRunsProgram := false },
  { fn := some .runChildProcess, litBody := true, waitsOnDone := false, deferBefore := false, deferNext := false,
    sendsBuffered := true, recvOnEveryPath := true, wgPaired := false, calleeRunsProgram := false } ]

example : checkTable snapshotSites = true := by decide
example : TableOk (tableOf snapshotSites) := tableOk_of_check _ (by decide)
example : TableOk expected := expected_allowed
/-- the pre-fix watcher (no `close(done)` in the defer) is rejected by the table check -/
example : checkTable (snapshotSites.map fun f =>
    if f.fn == some .runFromAddress then { f with deferNext := false } else f) = false := by decide
/-- an unknown `go` site is rejected (fail closed) -/
def unknownSite : Facts :=
  { fn := none, litBody := true, waitsOnDone := true, deferBefore := true, deferNext := false,
    sendsBuffered := false, recvOnEveryPath := false, wgPaired := false, calleeRunsProgram := false }
example : checkTable (snapshotSites ++ [unknownSite]) = false := by decide
/-- a site that disappeared from its function is rejected too (the model would be stale) -/
example : checkTable (snapshotSites.drop 1) = false := by decide
example : Inv init := inv_init

/-- a rich history: a program whose sort comparator (two calls, the second failing) itself starts a user
    goroutine, plus one goroutine that never finishes -/
def sampleProg : Prog :=
  .seq (.spawn .runFromAddress)
   (.seq (.call (.seq (.spawn .runFromAddress) (.go (.call (.spawn .runFromAddress) .normal))) .callback)
    (.seq (.call (.spawn .runFromAddress) .error)
     (.seq .probe (.goStuck .skip (.spawn .runFromAddress)))))

-- while it runs there are watchers alive …
example : count (run expected init (flat (.call (.seq (.spawn .runFromAddress)
    (.call (.seq (.spawn .runFromAddress) .probe) .callback)) .normal)).dropLast.dropLast.dropLast) .runFromAddress = 2 := by
  decide
-- … afterwards none is owned by the interpreter, whatever the exit; the stuck user goroutine and its watcher remain
example : owned (exec expected sampleProg .panic init) = [] := by decide
example : (exec expected sampleProg .panic init).live.length = 2 := by decide
example : sampleProg.allFinish = false := by decide
example : (Prog.seq (.spawn .runFromAddress) (.go (.call (.spawn .runFromAddress) .error))).allFinish = true := by decide
-- and the unpaired table really leaks on that same program
example : (owned (exec tblUnpaired sampleProg .normal init)).length = 3 := by decide

-- non-vacuity: in the sample history the stuck user goroutine (go-frame 5) and its watcher (frame 6) remain
example : abandoned expected sampleProg .panic init = [6, 5] := by decide
example : (exec expected sampleProg .panic init).live.map (·.frame) = [6, 5] := by decide

end EgoVerif.C09
