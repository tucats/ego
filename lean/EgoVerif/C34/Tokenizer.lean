import EgoVerif.C34.Minify
/-
C34 — the tokenizer `cssLex` on a rendered well-formed piece list reads the pieces back: it
yields the tokens of the pieces (`toks`), piece by piece.
-/
namespace EgoVerif.C34

def ptoks : Piece → List Tok
  | .ws _ => [.ws]
  | .comment _ => [.comment]
  | .str q items => [.str (q :: (items.flatMap SItem.raw ++ [q]))]
  | .word items => wordLex items
  | .punct b => [.punct b]
  | .semis k => .punct 59 :: List.replicate k (.punct 59)

def toks (ps : List Piece) : List Tok := ps.flatMap ptoks

theorem toks_cons (p : Piece) (ps : List Piece) : toks (p :: ps) = ptoks p ++ toks ps := by
  simp [toks]

/-- tokenizer iterations a piece takes -/
def lcost : Piece → Nat
  | .semis k => k + 1
  | _ => 1

theorem lexLoop_nil (f : Nat) : lexLoop f [] = [] := by
  cases f <;> rfl

theorem skipC_eq (l : List B) : skipC l = skipComment l := by
  induction l with
  | nil => rfl
  | cons a rest ih =>
    cases rest with
    | nil => rfl
    | cons b t =>
      show (if a == 42 && b == 47 then t else skipC (b :: t)) = _
      rw [ih, skipComment_cons2]

theorem lexString_cons (q a : B) (t acc : List B) :
    lexString q (a :: t) acc =
      if a == q then ((a :: acc).reverse, true, t)
      else if isNL a then (acc.reverse, false, a :: t)
      else if a == 92 then
        match t with
        | b :: t' => lexString q t' (b :: a :: acc)
        | [] => ((a :: acc).reverse, true, [])
      else lexString q t (a :: acc) := by
  cases t <;> rfl

theorem lexString_items (q : B) (items : List SItem) (rest acc : List B)
    (hq : isQuote q = true) (h : items.all (SItem.ok q) = true) :
    lexString q (items.flatMap SItem.raw ++ q :: rest) acc
      = (acc.reverse ++ items.flatMap SItem.raw ++ [q], true, rest) := by
  induction items generalizing acc with
  | nil => simp [lexString_cons]
  | cons it its ih =>
    simp only [List.all_cons, Bool.and_eq_true] at h
    cases it with
    | plain b =>
      have hb := h.1
      simp only [SItem.ok, Bool.and_eq_true, bne_iff_ne, ne_eq, Bool.not_eq_true'] at hb
      simp [SItem.raw, lexString_cons, hb.1.1, hb.1.2, hb.2, ih _ h.2]
    | esc b =>
      have : isNL 92 = false := by decide
      simp [SItem.raw, lexString_cons, (isQuote_excl q hq).2.2.2.2, this, ih _ h.2]

theorem takeWord_cons (c : B) (t : List B) :
    takeWord (c :: t) =
      if isWS c || isQuote c || isPunct c then ([], c :: t)
      else if c == 47 && t.head? == some 42 then ([], c :: t)
      else if c == 92 then
        match t with
        | b :: t' => if isNL b then ([.plain c], t) else ((.esc b :: (takeWord t').1), (takeWord t').2)
        | [] => ([.plain c], [])
      else (.plain c :: (takeWord t).1, (takeWord t).2) := by
  cases t <;> rfl

theorem takeWord_items (items : List WItem) (rest : List B) (h : wordOK items rest = true)
    (hs : stops rest = true) : takeWord (items.flatMap WItem.raw ++ rest) = (items, rest) := by
  induction items with
  | nil =>
    cases rest with
    | nil => rfl
    | cons c t =>
      rw [List.flatMap_nil, List.nil_append, takeWord_cons]
      simp only [stops, Bool.or_eq_true] at hs
      rcases hs with hs | hs
      · rw [if_pos (by simpa [Bool.or_eq_true] using hs)]
      · rw [if_pos hs, ite_self]
  | cons it its ih =>
    simp only [List.flatMap_cons]
    cases it with
    | plain b =>
      obtain ⟨h1, h2, h3, h4, h5, h6⟩ := wordOK_plain b its rest h
      simp only [WItem.raw, List.cons_append, List.nil_append, takeWord_cons, h1, h2, h3, h4, h5,
        Bool.or_self, Bool.false_eq_true, if_false, ih h6]
    | esc b =>
      obtain ⟨h1, h2⟩ := wordOK_esc b its rest h
      simp only [WItem.raw, List.cons_append, List.nil_append]
      rw [takeWord_cons]
      simp only [h1, Bool.false_eq_true, if_false, ih h2]
      rfl

theorem lex_semis (k f : Nat) (rest : List B) :
    lexLoop (f + (k + 1)) (59 :: (List.replicate k 59 ++ rest))
      = (.punct 59 :: List.replicate k (.punct 59)) ++ lexLoop f rest := by
  have one (n : Nat) (t : List B) : lexLoop (n + 1) (59 :: t) = .punct 59 :: lexLoop n t := rfl
  induction k with
  | zero => exact one f rest
  | succ k ih =>
    rw [← Nat.add_assoc, one, List.replicate_succ, List.cons_append, ih]
    rfl

theorem lex_word (it : WItem) (its : List WItem) (rest : List B) (f : Nat)
    (h : wordOK (it :: its) rest = true) (hs : stops rest = true) :
    lexLoop (f + 1) ((it :: its).flatMap WItem.raw ++ rest)
      = wordLex (it :: its) ++ lexLoop f rest := by
  have ht := takeWord_items _ rest h hs
  simp only [List.flatMap_cons] at ht ⊢
  cases it with
  | plain b =>
    obtain ⟨h1, h2, h3, _, ec, _⟩ := wordOK_plain b its rest h
    simp only [WItem.raw, List.cons_append, List.nil_append] at ht ⊢
    simp only [lexLoop, ec, h1, h2, h3, Bool.false_eq_true, ↓reduceIte, ht]
  | esc b =>
    simp only [WItem.raw, List.cons_append, List.nil_append] at ht ⊢
    rw [lexLoop, ht]
    rfl

theorem lex_piece (p : Piece) (rest : List B) (f : Nat) (h : Fits rest p) :
    lexLoop (f + lcost p) (p.render ++ rest) = ptoks p ++ lexLoop f rest := by
  cases h with
  | ws c bs hc hb hr =>
    have h1 := (isWS_excl c hc).1
    simp only [lcost, ptoks, Piece.render, List.cons_append, lexLoop, h1, hc, Bool.false_and,
      Bool.false_eq_true, ↓reduceIte, dropWhile_run isWS bs rest hb hr, List.nil_append]
  | comment body h =>
    have hs := skipComment_body body rest h
    simp only [lcost, ptoks, Piece.render, List.cons_append, lexLoop, List.head?_cons, BEq.rfl,
      Bool.and_self, ↓reduceIte, List.drop_succ_cons, List.drop_zero, List.append_assoc,
      List.nil_append, skipC_eq, hs]
  | str q items hq h =>
    obtain ⟨h1, _, h2, _⟩ := isQuote_excl q hq
    have hl := lexString_items q items rest [q] hq h
    simp only [lcost, ptoks, Piece.render, List.cons_append, List.append_assoc, List.nil_append,
      lexLoop, h1, h2, hq, Bool.false_and, Bool.false_eq_true, ↓reduceIte, hl]
    simp
  | word it its h hs => exact lex_word it its rest f h hs
  | punct b hb =>
    obtain ⟨h1, _, h3, h4⟩ := isPunct_excl b hb
    simp only [lcost, ptoks, Piece.render, List.cons_append, List.nil_append, lexLoop, h1, h3, h4, hb,
      Bool.false_and, Bool.false_eq_true, ↓reduceIte]
  | semis k => exact lex_semis k f rest

theorem lcost_le (p : Piece) (rest : List B) (h : Fits rest p) : lcost p ≤ p.render.length := by
  cases h with
  | word it its => cases it <;> simp [lcost, Piece.render, WItem.raw]
  | _ => simp [lcost, Piece.render]

theorem lex_pieces (ps : List Piece) (h : WFlex ps = true) (f : Nat)
    (hf : (render ps).length ≤ f) : lexLoop f (render ps) = toks ps := by
  induction ps generalizing f with
  | nil => exact lexLoop_nil f
  | cons p ps ih =>
    have hb := Fits_of_WFlex p ps h
    have hc := lcost_le p _ hb
    simp only [WFlex, Bool.and_eq_true] at h
    simp only [render_cons, List.length_append] at hf
    obtain ⟨f', rfl⟩ : ∃ f', f = f' + lcost p := ⟨f - lcost p, by omega⟩
    rw [render_cons, lex_piece p _ _ hb, ih h.2 _ (by omega), toks_cons]

theorem cssLex_render (ps : List Piece) (h : WFlex ps = true) : cssLex (render ps) = toks ps :=
  lex_pieces ps h _ (Nat.le_succ _)

end EgoVerif.C34
