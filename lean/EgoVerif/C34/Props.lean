import EgoVerif.C34.Output
/-
C34 — property theorems for MinifyCSS (model of the code with fixes/C34.patch applied), over
the class of inputs of Class.lean.  Main theorem: minifying never changes the significant token
sequence.  It is assembled from `minify_pieces` (bytes to pieces), `cssLex_render` (the
tokenizer reads the pieces back, on input and output: `WFlex_minP`, `WFlex_strip`) and
`sig_minP` (the invariant between the minifier's `last()` and the signature's pending gap).
-/
namespace EgoVerif.C34

/-- **C34 (full strength).** For every well-formed piece list, the minified text has the same
significant CSS token sequence as the original text. -/
theorem C34_tokens (ps : List Piece) (h : WF ps = true) :
    cssSig (cssLex (minify (render ps))) = cssSig (cssLex (render ps)) := by
  have hl : WFlex ps = true := by
    simp only [WF, Bool.and_eq_true] at h; exact h.1
  have hX := WFlex_minP ps hl 0 false
  rw [minify_pieces ps h, cssLex_render _ (WFlex_strip _ hX), cssLex_render ps hl, cssSig_strip]
  exact sig_minP ps hl 0 false .none false fun _ hp => nomatch hp

/-- **C34 on bytes.** The same for every byte string that `inClass` accepts. -/
theorem C34_tokens_bytes (s : List B) (h : inClass s = true) :
    cssSig (cssLex (minify s)) = cssSig (cssLex s) := by
  unfold inClass at h
  cases hp : parse s with
  | none => simp [hp] at h
  | some ps =>
    simp only [hp, Bool.and_eq_true, beq_iff_eq] at h
    obtain ⟨⟨hwf, _⟩, rfl⟩ := h
    exact C34_tokens ps hwf

/-- What the minifier writes, piece by piece: `minP` drops comments (an empty `/**/` stays where
two tokens would glue), collapses whitespace to one space or nothing and a semicolon run to one
`;` or, before `}`, nothing, and copies strings, words and single-byte tokens verbatim. -/
theorem C34_minify_pieces (ps : List Piece) (h : WF ps = true) :
    minify (render ps) = render (stripWs (minP 0 false ps)) :=
  minify_pieces ps h

/-- The output is again in the tokenizer's class, and the tokenizer reads exactly the pieces. -/
theorem C34_output_wellformed (ps : List Piece) (h : WF ps = true) :
    WFlex (stripWs (minP 0 false ps)) = true ∧
    cssLex (minify (render ps)) = toks (stripWs (minP 0 false ps)) := by
  have hl : WFlex ps = true := by
    simp only [WF, Bool.and_eq_true] at h; exact h.1
  have hX := WFlex_strip _ (WFlex_minP ps hl 0 false)
  exact ⟨hX, by rw [minify_pieces ps h, cssLex_render _ hX]⟩

def Piece.isVerbatim : Piece → Bool
  | .str _ _ => true
  | .word _ => true
  | _ => false

/-- Strings and words are never altered: every string or word piece of the input is among the
pieces `minP` writes, in any context `l`, `ne`. -/
theorem C34_verbatim (p : Piece) (hk : p.isVerbatim = true) (ps : List Piece) (hp : p ∈ ps) :
    ∀ l ne, p ∈ minP l ne ps := by
  induction ps with
  | nil => simp at hp
  | cons q ps ih =>
    intro l ne
    rcases List.mem_cons.mp hp with rfl | hm
    · cases p with
      | str qq items => rw [minP_str]; exact List.mem_cons_self
      | word items => rw [minP_word]; exact List.mem_cons_self
      | _ => simp [Piece.isVerbatim] at hk
    · cases ho : outOf l ne q (render ps) with
      | none => rw [minP_cons, ho]; exact ih hm l ne
      | some pl =>
        rw [minP_cons, ho]
        exact List.mem_cons_of_mem _ (ih hm pl.2 true)

/-! ### non-vacuity: the inputs that the unpatched code got wrong are in the class -/

/-- `a/**/b  {c : "x  y" ;; }` as pieces -/
def ex1 : List Piece :=
  [.word [.plain 97], .comment [], .word [.plain 98], .ws [32, 32], .punct 123,
   .word [.plain 99], .ws [32], .punct 58, .ws [32], .str 34 [.plain 120, .plain 32, .plain 32, .plain 121],
   .ws [32], .semis 1, .ws [32], .punct 125]

/-- `a\ {}` : escaped space before a brace -/
def ex2 : List Piece := [.word [.plain 97, .esc 32], .ws [32], .punct 123, .punct 125]

example : WF ex1 = true := by decide +kernel
example : WF ex2 = true := by decide
example : inClass (render ex1) = true := by decide +kernel
example : inClass (render ex2) = true := by decide
example : minify (render ex1) = render [.word [.plain 97], .comment [], .word [.plain 98], .punct 123,
    .word [.plain 99], .ws [32], .punct 58, .str 34 [.plain 120, .plain 32, .plain 32, .plain 121],
    .punct 125] := by decide +kernel
example : minify (render ex2) = render [.word [.plain 97, .esc 32], .punct 123, .punct 125] := by decide
example : (cssSig (cssLex (render ex2))).length = 3 := by decide

end EgoVerif.C34
