import EgoVerif.C34.Render
/-
C34 — the byte loop of `minify` on a rendered piece list.  `minP` is the minifier as a function
from pieces to pieces.  The loop is one `pstep` per piece (`runP`, a function on the loop's
state), and `runP` writes the rendering of `minP`, up to the final trailing-space trim
(`stripWs`).
-/
namespace EgoVerif.C34

/-- the whitespace run is replaced by one space (`l` = `last()`, `ne` = `len(out) > 0`) -/
def wsEmit (l : B) (ne : Bool) (rest : List B) : Bool :=
  !(match rest with | [] => false | x :: _ => isDelim x) && !(isDelim l || l == 58 || l == 32) && ne

/-- an empty comment is kept in place of the removed one -/
def cmtKeep (l : B) (ne : Bool) (rest : List B) : Bool :=
  ne && !isWS l && !isDelim l && (match rest with | [] => false | x :: _ => !isWS x && !isDelim x)

/-- the semicolon run is dropped: the next byte after whitespace is `}` -/
def semiDrop (rest : List B) : Bool := (rest.dropWhile isWS).head? == some 125

/-- `last()` after a word has been copied -/
def ctxWord : List WItem → B → B
  | [], l => l
  | .plain b :: is, _ => ctxWord is b
  | .esc _ :: is, _ => ctxWord is 0

-- Must stay the first six-way `match` on `Piece` in this module: Lean shares matchers within a
-- module, and after a `match` of the same shape (`pstep`) the body of `outOf` would name that one.
/-- what one piece makes the minifier write: the piece written and the new `last()`;
`l` = `last()`, `ne` = `len(out) > 0`, `rest` = the bytes after the piece -/
def outOf (l : B) (ne : Bool) (p : Piece) (rest : List B) : Option (Piece × B) :=
  match p with
  | .ws _ => if wsEmit l ne rest then some (.ws [32], 32) else none
  | .comment _ => if cmtKeep l ne rest then some (.comment [], 47) else none
  | .str q items => some (.str q items, 0)
  | .word items => some (.word items, ctxWord items l)
  | .punct b => some (.punct b, b)
  | .semis _ => if semiDrop rest then none else some (.semis 0, 59)

/-- the minifier as a function from pieces to pieces -/
def minP : B → Bool → List Piece → List Piece
  | _, _, [] => []
  | l, ne, p :: ps =>
    match outOf l ne p (render ps) with
    | some (p', l') => p' :: minP l' true ps
    | none => minP l ne ps

def stripWs : List Piece → List Piece
  | [] => []
  | p :: ps => if p.isWs && ps.isEmpty then [] else p :: stripWs ps

theorem minP_cons (l : B) (ne : Bool) (p : Piece) (ps : List Piece) :
    minP l ne (p :: ps) =
      match outOf l ne p (render ps) with
      | some (p', l') => p' :: minP l' true ps
      | none => minP l ne ps := rfl

theorem minP_ws (l : B) (ne : Bool) (bs : List B) (ps : List Piece) :
    minP l ne (.ws bs :: ps) =
      if wsEmit l ne (render ps) then .ws [32] :: minP 32 true ps else minP l ne ps := by
  cases hc : wsEmit l ne (render ps) <;> simp [minP, outOf, hc]

theorem minP_comment (l : B) (ne : Bool) (body : List B) (ps : List Piece) :
    minP l ne (.comment body :: ps) =
      if cmtKeep l ne (render ps) then .comment [] :: minP 47 true ps else minP l ne ps := by
  cases hc : cmtKeep l ne (render ps) <;> simp [minP, outOf, hc]

theorem minP_str (l : B) (ne : Bool) (q : B) (items : List SItem) (ps : List Piece) :
    minP l ne (.str q items :: ps) = .str q items :: minP 0 true ps := rfl

theorem minP_word (l : B) (ne : Bool) (items : List WItem) (ps : List Piece) :
    minP l ne (.word items :: ps) = .word items :: minP (ctxWord items l) true ps := rfl

theorem minP_punct (l : B) (ne : Bool) (b : B) (ps : List Piece) :
    minP l ne (.punct b :: ps) = .punct b :: minP b true ps := rfl

theorem minP_semis (l : B) (ne : Bool) (k : Nat) (ps : List Piece) :
    minP l ne (.semis k :: ps) =
      if semiDrop (render ps) then minP l ne ps else .semis 0 :: minP 59 true ps := by
  cases hc : semiDrop (render ps) <;> simp [minP, outOf, hc]

/-- the state after the minifier has copied the items of a word -/
def wordSt : List WItem → St → St
  | [], s => s
  | .plain b :: is, s => wordSt is { s with outR := b :: s.outR }
  | .esc b :: is, s => wordSt is { outR := b :: 92 :: s.outR, lit := s.outR.length + 2 }

/-- `len(out) > 0` -/
def neS (s : St) : Bool := decide (s.outR.length > 0)

/-- what the loop does to the state for one piece, `rest` being the bytes after it -/
def pstep (p : Piece) (rest : List B) (s : St) : St :=
  match p with
  | .ws _ => if wsEmit s.last (neS s) rest then { s with outR := 32 :: s.outR } else s
  | .comment _ => if cmtKeep s.last (neS s) rest then { s with outR := 47 :: 42 :: 42 :: 47 :: s.outR } else s
  | .str q items =>
    { outR := q :: ((items.flatMap SItem.raw).reverse ++ q :: s.outR),
      lit := (q :: ((items.flatMap SItem.raw).reverse ++ q :: s.outR)).length }
  | .word items => wordSt items s
  | .punct b => { s with outR := b :: s.outR }
  | .semis _ => if semiDrop rest then s else { s with outR := 59 :: s.outR }

def runP : List Piece → St → St
  | [], s => s
  | p :: ps, s => runP ps (pstep p (render ps) s)

/-- loop iterations a piece takes -/
def cost : Piece → Nat
  | .word items => items.length
  | _ => 1

theorem loop_nil (f : Nat) (s : St) : loop f [] s = s := by
  cases f <;> rfl

theorem skipComment_cons2 (a b : B) (t : List B) :
    skipComment (a :: b :: t) = if a == 42 && b == 47 then t else skipComment (b :: t) := rfl

theorem noSS_cons2 (a b : B) (t : List B) :
    noSS (a :: b :: t) = (!(a == 42 && b == 47) && noSS (b :: t)) := rfl

theorem skipComment_body (body rest : List B) (h : noSS body = true) :
    skipComment (body ++ 42 :: 47 :: rest) = rest := by
  induction body with
  | nil => simp [skipComment_cons2]
  | cons a t ih =>
    cases t with
    | nil => simp [skipComment_cons2]
    | cons b t' =>
      rw [noSS_cons2] at h
      simp only [Bool.and_eq_true, Bool.not_eq_true'] at h
      have := ih h.2
      simp only [List.cons_append] at this ⊢
      rw [skipComment_cons2, h.1]
      simpa using this

theorem copyString_cons (q a : B) (t o : List B) :
    copyString q (a :: t) o =
      if a == q then (t, a :: o)
      else if a == 92 then
        match t with
        | b :: t' => copyString q t' (b :: a :: o)
        | [] => ([], a :: o)
      else copyString q t (a :: o) := by
  cases t <;> rfl

theorem copyString_items (q : B) (items : List SItem) (rest o : List B)
    (hq : isQuote q = true) (h : items.all (SItem.ok q) = true) :
    copyString q (items.flatMap SItem.raw ++ q :: rest) o
      = (rest, q :: ((items.flatMap SItem.raw).reverse ++ o)) := by
  induction items generalizing o with
  | nil => simp [copyString_cons]
  | cons it its ih =>
    simp only [List.all_cons, Bool.and_eq_true] at h
    cases it with
    | plain b =>
      have hb := h.1
      simp only [SItem.ok, Bool.and_eq_true, bne_iff_ne, ne_eq] at hb
      simp [SItem.raw, copyString_cons, hb.1.1, hb.1.2, ih _ h.2]
    | esc b => simp [SItem.raw, copyString_cons, (isQuote_excl q hq).2.2.2.2, ih _ h.2]

theorem loop_word (items : List WItem) (rest : List B) (s : St) (f : Nat)
    (h : wordOK items rest = true) :
    loop (f + items.length) (items.flatMap WItem.raw ++ rest) s = loop f rest (wordSt items s) := by
  induction items generalizing s with
  | nil => simp [wordSt]
  | cons it its ih =>
    simp only [List.flatMap_cons, List.length_cons, ← Nat.add_assoc]
    cases it with
    | plain b =>
      obtain ⟨h1, h2, h3, h4, h5, h6⟩ := wordOK_plain b its rest h
      have e59 : (b == 59) = false := by simpa using ne59_of_notPunct b h3
      simp only [WItem.raw, List.cons_append, List.nil_append, loop, step, h1, h2, h4, h5, e59,
        Bool.false_and, Bool.false_eq_true, ↓reduceIte]
      exact ih _ h6
    | esc b =>
      obtain ⟨h1, h2⟩ := wordOK_esc b its rest h
      have e1 : ((92 : B) == 47) = false := by decide
      simp only [WItem.raw, List.cons_append, List.nil_append, loop, step, e1, h1, BEq.rfl,
        Bool.false_and, Bool.false_eq_true, ↓reduceIte, Bool.not_false, Bool.and_self]
      exact ih _ h2

/-- each case is the branch of `step` that the class of the piece's first byte selects -/
theorem loop_piece (p : Piece) (rest : List B) (s : St) (f : Nat) (h : Fits rest p)
    (hs : ∀ k, p = .semis k → (rest.head? != some 59) = true) :
    loop (f + cost p) (p.render ++ rest) s = loop f rest (pstep p rest s) := by
  cases h with
  | ws c bs hc hb hr =>
    obtain ⟨h1, h2, h3, _⟩ := isWS_excl c hc
    simp only [cost, Piece.render, List.cons_append, loop, step, pstep, wsEmit, neS, h1, h2, h3, hc,
      dropWhile_run isWS bs rest hb hr]
    rfl
  | comment body h =>
    have hsk : skipComment (List.drop 1 (42 :: (body ++ [42, 47] ++ rest))) = rest := by
      rw [List.append_assoc]; exact skipComment_body body rest h
    simp only [cost, Piece.render, List.cons_append, loop, step, pstep, cmtKeep, neS, hsk, BEq.rfl,
      List.head?_cons, Bool.and_self, ↓reduceIte]
    rfl
  | str q items hq h =>
    obtain ⟨h1, h2, _⟩ := isQuote_excl q hq
    have hc := copyString_items q items rest (q :: s.outR) hq h
    simp only [cost, Piece.render, List.cons_append, List.append_assoc, List.nil_append, loop, step,
      pstep, h1, h2, hq, hc]
    simp
  | word it its h _ => exact loop_word _ rest s f h
  | punct b hp h59 =>
    obtain ⟨h1, h2, h3, h4⟩ := isPunct_excl b hp
    have h5 : (b == 59) = false := by simpa using h59
    simp [cost, Piece.render, loop, step, pstep, h1, h2, h3, h4, h5]
  | semis k =>
    have hd : (List.replicate k (59 : B) ++ rest).dropWhile (· == 59) = rest := by
      apply dropWhile_run
      · simp
      · cases rest with
        | nil => rfl
        | cons x t => simpa using hs k rfl
    obtain ⟨e1, e2, e3, e4⟩ := isPunct_excl 59 (by decide)
    simp only [cost, Piece.render, List.cons_append, loop, step, pstep, semiDrop, hd, e1, e2, e3, e4,
      Bool.false_and, Bool.false_eq_true, ↓reduceIte, BEq.rfl]
    rw [← apply_ite (Prod.mk rest)]
    rfl

theorem cost_le (p : Piece) (rest : List B) (h : Fits rest p) : cost p ≤ p.render.length := by
  cases h with
  | word it its =>
    generalize it :: its = items
    simp only [cost, Piece.render]
    induction items with
    | nil => simp
    | cons it its ih =>
      cases it <;>
        simp only [List.flatMap_cons, WItem.raw, List.length_append, List.length_cons, List.length_nil] <;>
        omega
  | _ => simp [cost, Piece.render]

/-- fuel for one iteration per byte is enough -/
theorem loop_pieces (ps : List Piece) (hw : WFlex ps = true) (hs : semisMax ps = true) (s : St) (f : Nat)
    (hf : (render ps).length ≤ f) : loop f (render ps) s = runP ps s := by
  induction ps generalizing s f with
  | nil => exact loop_nil f s
  | cons p ps ih =>
    have hb := Fits_of_WFlex p ps hw
    have hc := cost_le p _ hb
    simp only [WFlex, Bool.and_eq_true] at hw
    have hs' : semisMax ps = true := by
      simp only [semisMax, Bool.and_eq_true] at hs; exact hs.2
    simp only [render_cons, List.length_append] at hf
    obtain ⟨f', rfl⟩ : ∃ f', f = f' + cost p := ⟨f - cost p, by omega⟩
    rw [render_cons, loop_piece p _ s _ hb (fun k hk => semis_next k ps hw.2 (hk ▸ hs))]
    exact ih hw.2 hs' _ _ (by omega)

theorem minify_render (ps : List Piece) (h : WF ps = true) :
    minify (render ps) = finish (runP ps ⟨[], 0⟩) := by
  simp only [WF, Bool.and_eq_true] at h
  unfold minify
  rw [loop_pieces ps h.1 h.2 _ _ (Nat.le_succ _)]

def St.inv (s : St) : Prop := s.lit ≤ s.outR.length

/-- the loop went from `s` to `s'` by writing the piece `p'`, which leaves `last() = l'` -/
def Wrote (s s' : St) (p' : Piece) (l' : B) : Prop :=
  s'.outR = p'.render.reverse ++ s.outR ∧ s'.inv ∧ s'.last = l' ∧ neS s' = true

/-- non-literal bytes written, the last of them `b` -/
theorem Wrote.push (s : St) (b : B) (bs : List B) (p' : Piece) (h : s.inv)
    (hr : p'.render.reverse = b :: bs) : Wrote s { s with outR := b :: (bs ++ s.outR) } p' b := by
  have h : s.lit ≤ s.outR.length := h
  refine ⟨by rw [hr]; rfl, ?_, ?_, by simp [neS]⟩
  · simp only [St.inv, List.length_cons, List.length_append]; omega
  · simp only [St.last, List.length_cons, List.length_append, List.headD_cons]
    rw [if_pos (by omega)]

theorem Wrote.word (items : List WItem) (s : St) (h : s.inv) (hne : items ≠ [] ∨ neS s = true) :
    Wrote s (wordSt items s) (.word items) (ctxWord items s.last) := by
  induction items generalizing s with
  | nil => simpa [Wrote, wordSt, ctxWord, Piece.render, h] using hne
  | cons it its ih =>
    cases it with
    | plain b =>
      -- only the facts about the state are used; `.punct b` is just some piece that renders to `[b]`
      obtain ⟨_, hi, hl, hn⟩ : Wrote s { s with outR := b :: s.outR } (.punct b) b :=
        .push s b [] _ h rfl
      obtain ⟨h1, h2, h3, h4⟩ := ih _ hi (Or.inr hn)
      exact ⟨by simp [wordSt, h1, Piece.render, WItem.raw], h2, by rw [wordSt, ctxWord, h3, hl], h4⟩
    | esc b =>
      have hi : ({ outR := b :: 92 :: s.outR, lit := s.outR.length + 2 } : St).inv := by
        simp [St.inv]
      obtain ⟨h1, h2, h3, h4⟩ := ih _ hi (Or.inr (by simp [neS]))
      exact ⟨by simp [wordSt, h1, Piece.render, WItem.raw], h2,
        by rw [wordSt, ctxWord, h3]; simp [St.last], h4⟩

theorem ctxWord_facts (items : List WItem) (l : B) (rest : List B) (h : wordOK items rest = true)
    (hl : items ≠ [] ∨ (isWS l = false ∧ isPunct l = false)) :
    isWS (ctxWord items l) = false ∧ isPunct (ctxWord items l) = false := by
  induction items generalizing l with
  | nil =>
    rcases hl with hl | hl
    · exact absurd rfl hl
    · exact hl
  | cons it its ih =>
    cases it with
    | plain b =>
      obtain ⟨h1, _, h3, _, _, h6⟩ := wordOK_plain b its rest h
      exact ih b h6 (Or.inr ⟨h1, h3⟩)
    | esc b => exact ih 0 (wordOK_esc b its rest h).2 (Or.inr ⟨by decide, by decide⟩)

/-- The disjunction is what the final trim needs: what is written is a single space after something
that is not a space, or no whitespace at all. -/
theorem pstep_spec (p : Piece) (rest : List B) (s : St) (h : s.inv) (hp : Fits rest p) :
    match outOf s.last (neS s) p rest with
    | none => pstep p rest s = s
    | some (p', l') =>
      Wrote s (pstep p rest s) p' l' ∧
        ((p' = .ws [32] ∧ pstep p rest s = { s with outR := 32 :: s.outR } ∧ s.last ≠ 32) ∨
          (p'.isWs = false ∧ isWS l' = false)) := by
  cases hp with
  | ws c bs =>
    cases hc : wsEmit s.last (neS s) rest
    · simp only [outOf, pstep, hc, Bool.false_eq_true, if_false]
    · have hl : s.last ≠ 32 := by
        simp only [wsEmit, Bool.and_eq_true, Bool.not_eq_true', Bool.or_eq_false_iff] at hc
        simpa using hc.1.2.2
      simp only [outOf, pstep, hc, if_true]
      exact ⟨.push s 32 [] _ h rfl, Or.inl ⟨trivial, trivial, hl⟩⟩
  | comment body =>
    cases hc : cmtKeep s.last (neS s) rest
    · simp only [outOf, pstep, hc, Bool.false_eq_true, if_false]
    · simp only [outOf, pstep, hc, if_true]
      exact ⟨.push s 47 [42, 42, 47] _ h rfl, Or.inr ⟨rfl, by decide⟩⟩
  | str q items =>
    simp only [outOf, pstep]
    exact ⟨⟨by simp [Piece.render], by simp [St.inv], by simp [St.last], by simp [neS]⟩,
      Or.inr ⟨rfl, by decide⟩⟩
  | word it its hw =>
    simp only [outOf, pstep]
    exact ⟨.word _ s h (Or.inl (List.cons_ne_nil _ _)),
      Or.inr ⟨rfl, (ctxWord_facts _ _ _ hw (Or.inl (List.cons_ne_nil _ _))).1⟩⟩
  | punct b hb =>
    simp only [outOf, pstep]
    exact ⟨.push s b [] _ h rfl, Or.inr ⟨rfl, (isPunct_excl b hb).2.2.2⟩⟩
  | semis k =>
    cases hc : semiDrop rest
    · simp only [outOf, pstep, hc, Bool.false_eq_true, if_false]
      exact ⟨.push s 59 [] _ h rfl, Or.inr ⟨rfl, by decide⟩⟩
    · simp only [outOf, pstep, hc, if_true]

theorem trim_nolast (lit : Nat) (o : List B)
    (h : (⟨o, lit⟩ : St).last ≠ 32) : trim lit o = o := by
  cases o with
  | nil => rfl
  | cons a t =>
    simp only [St.last, List.headD_cons] at h
    simp only [trim]
    by_cases hl : (a :: t).length > lit
    · rw [if_pos hl] at h
      have : (a == 32) = false := by simpa using h
      simp [this]
    · have : decide ((a :: t).length > lit) = false := by simpa using hl
      simp only [this, Bool.false_and, Bool.false_eq_true, if_false]

theorem finish_nolast (s : St) (h : s.last ≠ 32) : finish s = s.outR.reverse := by
  unfold finish
  rw [trim_nolast s.lit s.outR h]

theorem finish_space (s : St) (hi : s.inv) (h : s.last ≠ 32) :
    finish { s with outR := 32 :: s.outR } = s.outR.reverse := by
  unfold St.inv at hi
  unfold finish
  simp only [trim]
  have : (32 :: s.outR).length > s.lit := by simp; omega
  simp only [this, decide_true, BEq.rfl, Bool.and_self, if_true]
  rw [trim_nolast s.lit s.outR h]

theorem stripWs_snoc (out : List Piece) (p : Piece) :
    stripWs (out ++ [p]) = if p.isWs then out else out ++ [p] := by
  induction out with
  | nil => cases hp : p.isWs <;> simp [stripWs, hp]
  | cons q out ih =>
    have : (out ++ [p]).isEmpty = false := by simp
    simp only [List.cons_append, stripWs, ih, this, Bool.and_false, Bool.false_eq_true, if_false]
    split <;> rfl

/-- the state `s` has written the pieces `out`, and trimming now would leave `stripWs out` -/
def Rep (s : St) (out : List Piece) : Prop :=
  s.inv ∧ s.outR.reverse = render out ∧ finish s = render (stripWs out)

theorem runP_minP (ps : List Piece) (hwf : WFlex ps = true) :
    ∀ (s : St) (out : List Piece), Rep s out → Rep (runP ps s) (out ++ minP s.last (neS s) ps) := by
  induction ps with
  | nil => intro s out h; simpa [runP, minP] using h
  | cons p ps ih =>
    have hfit := Fits_of_WFlex p ps hwf
    simp only [WFlex, Bool.and_eq_true] at hwf
    intro s out ⟨hi, ho, hf⟩
    have hs := pstep_spec p (render ps) s hi hfit
    simp only [runP]
    cases hout : outOf s.last (neS s) p (render ps) with
    | none =>
      simp only [hout] at hs
      rw [hs, minP_cons, hout]
      exact ih hwf.2 s out ⟨hi, ho, hf⟩
    | some pl =>
      obtain ⟨p', l'⟩ := pl
      simp only [hout] at hs
      obtain ⟨⟨h1, h2, h3, h4⟩, hcls⟩ := hs
      rw [minP_cons, hout, List.append_cons, ← h3, ← h4]
      apply ih hwf.2
      have hr : (pstep p (render ps) s).outR.reverse = render (out ++ [p']) := by
        rw [h1, List.reverse_append, List.reverse_reverse, ho]; simp [render]
      refine ⟨h2, hr, ?_⟩
      rw [stripWs_snoc]
      rcases hcls with ⟨rfl, hps, hl⟩ | ⟨hnw, hl'⟩
      · -- a space: the trim takes it back
        rw [hps, finish_space s hi hl, ho]; rfl
      · have hl32 : (pstep p (render ps) s).last ≠ 32 := by
          rw [h3]; rintro rfl; exact absurd hl' (by decide)
        rw [finish_nolast _ hl32, hr, hnw]; rfl

theorem minify_pieces (ps : List Piece) (h : WF ps = true) :
    minify (render ps) = render (stripWs (minP 0 false ps)) := by
  rw [minify_render ps h]
  simp only [WF, Bool.and_eq_true] at h
  exact (runP_minP ps h.1 ⟨[], 0⟩ [] ⟨Nat.le_refl _, rfl, rfl⟩).2.2

end EgoVerif.C34
