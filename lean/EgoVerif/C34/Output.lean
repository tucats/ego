import EgoVerif.C34.Signature
/-
C34 — the minified piece list is again well formed for the tokenizer: after a written space
no whitespace follows, after a word no word follows (whatever was dropped in between ended the
word), and dropping a final whitespace piece keeps the list well formed.
-/
namespace EgoVerif.C34

theorem minP_after_space (ps : List Piece) : ∀ ne, headIsWs (minP 32 ne ps) = false := by
  induction ps with
  | nil => intro ne; rfl
  | cons q ps ih =>
    intro ne
    cases q with
    | ws bs =>
      have hc : wsEmit 32 ne (render ps) = false := by simp [wsEmit]
      rw [minP_ws, hc]; exact ih ne
    | comment body =>
      have hc : cmtKeep 32 ne (render ps) = false := by
        have : isWS 32 = true := by decide
        simp [cmtKeep, this]
      rw [minP_comment, hc]; exact ih ne
    | semis k =>
      rw [minP_semis]; split
      · exact ih ne
      · rfl
    | _ => rfl

/-- a word never starts with whitespace or one of `{ } ; , > :` -/
theorem headIsWord_false (ps : List Piece) (hwf : WFlex ps = true) (x : B) (t : List B)
    (hr : render ps = x :: t) (hx : isWS x = true ∨ isPunct x = true) : headIsWord ps = false := by
  have hs := starts_render ps hwf
  rw [hr] at hs
  cases hs with
  | word _ _ _ _ hw hp =>
    exact absurd (hx.elim hw.symm.trans hp.symm.trans) Bool.false_ne_true
  | _ => rfl

theorem render_eq_nil (ps : List Piece) (hwf : WFlex ps = true) (h : render ps = []) : ps = [] := by
  have hs := starts_render ps hwf
  rw [h] at hs
  cases hs
  rfl

theorem minP_after_word (ps : List Piece) (hwf : WFlex ps = true) (l : B)
    (hl1 : isWS l = false) (hl2 : isPunct l = false) (hh : headIsWord ps = false) :
    headIsWord (minP l true ps) = false := by
  have hd : isDelim l = false := by simp only [isPunct, Bool.or_eq_false_iff] at hl2; exact hl2.1
  have h58 : l ≠ 58 := by rintro rfl; exact absurd hl2 (by decide)
  have h32 : l ≠ 32 := by rintro rfl; exact absurd hl1 (by decide)
  induction ps with
  | nil => rfl
  | cons q ps ih =>
    simp only [WFlex, Bool.and_eq_true] at hwf
    cases q with
    | ws bs =>
      rw [minP_ws]; split
      · rfl
      · -- no space was written: the next byte is one of `{ } ; , >`
        rename_i hc
        apply ih hwf.2
        rcases wsEmit_false l _ (by simpa using hc) hd h58 with h | ⟨x, t, hr, hx⟩
        · exact absurd h h32
        · exact headIsWord_false ps hwf.2 x t hr (Or.inr (isPunct_of_delim x hx))
    | comment body =>
      rw [minP_comment]; split
      · rfl
      · -- no `/**/` was written: the next byte is whitespace or one of `{ } ; , >`, or there is none
        rename_i hc
        apply ih hwf.2
        simp only [cmtKeep, hl1, hd, Bool.not_false, Bool.and_true, Bool.true_and,
          Bool.not_eq_true] at hc
        cases hr : render ps with
        | nil => rw [render_eq_nil ps hwf.2 hr]; rfl
        | cons x t =>
          rw [hr] at hc
          simp only [Bool.and_eq_false_iff, Bool.not_eq_false'] at hc
          exact headIsWord_false ps hwf.2 x t hr (hc.imp id (isPunct_of_delim x))
    | word items => exact absurd hh (by simp [headIsWord, Piece.isWord])
    | semis k =>
      rw [minP_semis]; split
      · -- the run was dropped: the next byte after whitespace is `}`
        rename_i hc
        apply ih hwf.2
        cases hr : render ps with
        | nil => rw [render_eq_nil ps hwf.2 hr]; rfl
        | cons x t =>
          by_cases hx : isWS x = true
          · exact headIsWord_false ps hwf.2 x t hr (Or.inl hx)
          · have : x = 125 := by simpa [semiDrop, hr, hx] using hc
            exact headIsWord_false ps hwf.2 x t hr (Or.inr (by rw [this]; decide))
      · rfl
    | _ => rfl

/-- `wordOK` looks at what follows the word only to see whether it starts with `*` -/
theorem wordOK_rest (items : List WItem) (r r' : List B) (h : wordOK items r = true)
    (hr : r'.head? ≠ some 42) : wordOK items r' = true := by
  induction items with
  | nil => rfl
  | cons it its ih =>
    cases it with
    | plain b =>
      simp only [wordOK, Bool.and_eq_true] at h ⊢
      refine ⟨⟨h.1.1, ?_⟩, ih h.2⟩
      cases hb : its.flatMap WItem.raw with
      | nil =>
        have : (r'.head? != some 42) = true := by simpa using hr
        simp [this]
      | cons x t => simpa [hb] using h.1.2
    | esc b =>
      simp only [wordOK, Bool.and_eq_true] at h ⊢
      exact ⟨h.1, ih h.2⟩

theorem head_not_star (X : List Piece) (hwf : WFlex X = true) (hh : headIsWord X = false) :
    (render X).head? ≠ some 42 := by
  have hst := (head_facts X hwf).2.2 hh
  cases hr : render X with
  | nil => simp
  | cons b t =>
    rw [hr] at hst
    simp only [List.head?_cons, ne_eq, Option.some.injEq]
    rintro rfl
    exact absurd hst (by simp [stops, isWS, isQuote, isPunct, isDelim])

theorem WFlex_minP (ps : List Piece) (hwf : WFlex ps = true) :
    ∀ l ne, WFlex (minP l ne ps) = true := by
  induction ps with
  | nil => intro l ne; rfl
  | cons q ps ih =>
    simp only [WFlex, Bool.and_eq_true] at hwf
    have ih := ih hwf.2
    intro l ne
    cases q with
    | ws bs =>
      rw [minP_ws]; split
      · simp only [WFlex, Bool.and_eq_true]
        refine ⟨?_, ih 32 true⟩
        rw [pieceOK_ws_eq, minP_after_space ps true]
        decide
      · exact ih l ne
    | comment body =>
      rw [minP_comment]; split
      · simp only [WFlex, Bool.and_eq_true]
        exact ⟨rfl, ih 47 true⟩
      · exact ih l ne
    | str qq items =>
      simp only [minP_str, WFlex, Bool.and_eq_true]
      exact ⟨hwf.1, ih 0 true⟩
    | word items =>
      simp only [minP_word, WFlex, Bool.and_eq_true]
      refine ⟨?_, ih _ true⟩
      have hok := hwf.1
      rw [pieceOK_word_eq] at hok ⊢
      simp only [Bool.and_eq_true, Bool.not_eq_true', bne_iff_ne, ne_eq] at hok ⊢
      obtain ⟨f1, f2⟩ := ctxWord_facts items l _ hok.1.2 (Or.inl hok.1.1)
      have hW := minP_after_word ps hwf.2 (ctxWord items l) f1 f2 hok.2
      exact ⟨⟨hok.1.1, wordOK_rest items _ _ hok.1.2 (head_not_star _ (ih _ true) hW)⟩, hW⟩
    | punct b =>
      simp only [minP_punct, WFlex, Bool.and_eq_true]
      exact ⟨hwf.1, ih b true⟩
    | semis k =>
      rw [minP_semis]; split
      · exact ih l ne
      · simp only [WFlex, Bool.and_eq_true]
        exact ⟨rfl, ih 59 true⟩

theorem strip_heads (X : List Piece) :
    headIsWord (stripWs X) = headIsWord X ∧ (headIsWs (stripWs X) = true → headIsWs X = true) := by
  cases X with
  | nil => exact ⟨rfl, id⟩
  | cons p X =>
    simp only [stripWs]
    split
    · rename_i hc
      simp only [Bool.and_eq_true] at hc
      cases p with
      | ws bs => exact ⟨rfl, fun h => by simp [headIsWs] at h⟩
      | _ => simp [Piece.isWs] at hc
    · exact ⟨rfl, id⟩

theorem WFlex_strip (X : List Piece) (hwf : WFlex X = true) : WFlex (stripWs X) = true := by
  induction X with
  | nil => rfl
  | cons p X ih =>
    simp only [WFlex, Bool.and_eq_true] at hwf
    simp only [stripWs]
    split
    · rfl
    · simp only [WFlex, Bool.and_eq_true]
      refine ⟨?_, ih hwf.2⟩
      obtain ⟨hw1, hw2⟩ := strip_heads X
      have hok := hwf.1
      cases p with
      | ws bs =>
        rw [pieceOK_ws_eq] at hok ⊢
        simp only [Bool.and_eq_true, Bool.not_eq_true'] at hok ⊢
        refine ⟨hok.1, ?_⟩
        cases h : headIsWs (stripWs X)
        · rfl
        · rw [hw2 h] at hok; exact absurd hok.2 (by simp)
      | word items =>
        rw [pieceOK_word_eq] at hok ⊢
        simp only [Bool.and_eq_true, Bool.not_eq_true'] at hok ⊢
        have hW : headIsWord (stripWs X) = false := by rw [hw1]; exact hok.2
        exact ⟨⟨hok.1.1, wordOK_rest items _ _ hok.1.2 (head_not_star _ (ih hwf.2) hW)⟩, hW⟩
      | _ => exact hok

end EgoVerif.C34
