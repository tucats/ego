import EgoVerif.C34.Class
/-
C34 — renderings of well-formed piece lists.  The byte classes exclude one another, every piece
starts with a byte of its own class, and hence each piece of a well-formed list may stand in
front of the bytes that follow it (`Fits`): that is all the byte loop and the tokenizer need to
know about the context of a piece.
-/
namespace EgoVerif.C34

theorem render_cons (p : Piece) (ps : List Piece) : render (p :: ps) = p.render ++ render ps := by
  simp [render]

theorem isWS_excl (c : B) (h : isWS c = true) :
    (c == 47) = false ∧ (c == 92) = false ∧ isQuote c = false ∧ isPunct c = false := by
  simp only [isWS, Bool.or_eq_true, beq_iff_eq] at h
  rcases h with (((rfl | rfl) | rfl) | rfl) | rfl <;> decide

theorem isQuote_excl (c : B) (h : isQuote c = true) :
    (c == 47) = false ∧ (c == 92) = false ∧ isWS c = false ∧ isPunct c = false ∧
      ((92 : B) == c) = false := by
  simp only [isQuote, Bool.or_eq_true, beq_iff_eq] at h
  rcases h with rfl | rfl <;> decide

theorem isPunct_excl (c : B) (h : isPunct c = true) :
    (c == 47) = false ∧ (c == 92) = false ∧ isQuote c = false ∧ isWS c = false := by
  simp only [isPunct, isDelim, Bool.or_eq_true, beq_iff_eq] at h
  rcases h with ((((rfl | rfl) | rfl) | rfl) | rfl) | rfl <;> decide

theorem isPunct_of_delim (c : B) (h : isDelim c = true) : isPunct c = true := by
  simp [isPunct, h]

theorem ne59_of_notPunct (c : B) (h : isPunct c = false) : c ≠ 59 := by
  rintro rfl; exact absurd h (by decide)

theorem dropWhile_all_append (p : B → Bool) (bs r : List B) (h : bs.all p = true) :
    (bs ++ r).dropWhile p = r.dropWhile p := by
  induction bs with
  | nil => rfl
  | cons a t ih =>
    simp only [List.all_cons, Bool.and_eq_true] at h
    simp [h.1, ih h.2]

theorem dropWhile_run (p : B → Bool) (bs rest : List B) (h : bs.all p = true)
    (hr : (match rest with | [] => true | x :: _ => !p x) = true) :
    (bs ++ rest).dropWhile p = rest := by
  rw [dropWhile_all_append p bs rest h]
  cases rest with
  | nil => rfl
  | cons x t => simp at hr; simp [hr]

/-- what `wordOK` says of a plain item, in the form the loop and the tokenizer test it -/
theorem wordOK_plain (b : B) (is : List WItem) (rest : List B)
    (h : wordOK (.plain b :: is) rest = true) :
    isWS b = false ∧ isQuote b = false ∧ isPunct b = false ∧ (b == 92) = false ∧
      (b == 47 && (is.flatMap WItem.raw ++ rest).head? == some 42) = false ∧
      wordOK is rest = true := by
  simp only [wordOK, Bool.and_eq_true, Bool.not_eq_true'] at h
  obtain ⟨⟨⟨⟨⟨h1, h2⟩, h3⟩, h4⟩, h5⟩, h6⟩ := h
  refine ⟨h1, h2, h3, by simpa using h4, ?_, h6⟩
  rw [← Bool.not_eq_true', Bool.not_and]
  exact h5

theorem wordOK_esc (b : B) (is : List WItem) (rest : List B)
    (h : wordOK (.esc b :: is) rest = true) : isNL b = false ∧ wordOK is rest = true := by
  simpa [wordOK] using h

/-- the bytes end a word: nothing, whitespace, a quote, a single-byte token or `/*` -/
def stops : List B → Bool
  | [] => true
  | c :: t => isWS c || isQuote c || isPunct c || (c == 47 && t.head? == some 42)

/-- `Starts ps r`: the bytes `r` begin the way the first piece of `ps` does, or both are empty -/
inductive Starts : List Piece → List B → Prop
  | nil : Starts [] []
  | ws (bs ps b t) : isWS b = true → Starts (.ws bs :: ps) (b :: t)
  | comment (body ps t) : Starts (.comment body :: ps) (47 :: 42 :: t)
  | str (q items ps t) : isQuote q = true → Starts (.str q items :: ps) (q :: t)
  | word (items ps b t) : isWS b = false → isPunct b = false → Starts (.word items :: ps) (b :: t)
  | punct (b ps t) : isPunct b = true → b ≠ 59 → Starts (.punct b :: ps) (b :: t)
  | semis (k ps t) : Starts (.semis k :: ps) (59 :: t)

theorem starts_render (ps : List Piece) (h : WFlex ps = true) : Starts ps (render ps) := by
  cases ps with
  | nil => exact .nil
  | cons q ps =>
    simp only [WFlex, Bool.and_eq_true] at h
    have h := h.1
    rw [render_cons]
    cases q with
    | ws bs =>
      simp only [pieceOK, Bool.and_eq_true, bne_iff_ne, ne_eq] at h
      cases bs with
      | nil => exact absurd rfl h.1.1
      | cons c bs' =>
        have := h.1.2; simp only [List.all_cons, Bool.and_eq_true] at this
        exact .ws _ ps c (bs' ++ render ps) this.1
    | comment body => exact .comment body ps _
    | str qq items =>
      simp only [pieceOK, Bool.and_eq_true] at h
      exact .str qq items ps _ h.1
    | word items =>
      simp only [pieceOK, Bool.and_eq_true, bne_iff_ne, ne_eq] at h
      cases items with
      | nil => exact absurd rfl h.1.1
      | cons it its =>
        cases it with
        | plain b =>
          have hw := wordOK_plain b its _ h.1.2
          exact .word _ ps b (its.flatMap WItem.raw ++ render ps) hw.1 hw.2.2.1
        | esc b => exact .word _ ps 92 (b :: its.flatMap WItem.raw ++ render ps) (by decide) (by decide)
    | punct b =>
      simp only [pieceOK, Bool.and_eq_true, bne_iff_ne, ne_eq] at h
      exact .punct b ps _ h.1 h.2
    | semis k => exact .semis k ps _

def headIsWs : List Piece → Bool
  | q :: _ => q.isWs
  | [] => false

def headIsWord : List Piece → Bool
  | q :: _ => q.isWord
  | [] => false

theorem pieceOK_ws_eq (bs : List B) (ps : List Piece) :
    pieceOK (.ws bs) ps = (bs != [] && bs.all isWS && !headIsWs ps) := by
  cases ps <;> rfl

theorem pieceOK_word_eq (items : List WItem) (ps : List Piece) :
    pieceOK (.word items) ps = (items != [] && wordOK items (render ps) && !headIsWord ps) := by
  cases ps <;> rfl

/-- what the piece in front needs to know: whitespace runs, semicolon runs and words end where
the next piece starts -/
theorem head_facts (ps : List Piece) (h : WFlex ps = true) :
    (headIsWs ps = false → (match render ps with | [] => true | x :: _ => !isWS x) = true) ∧
      ((∀ k ps', ps ≠ .semis k :: ps') → ((render ps).head? != some 59) = true) ∧
      (headIsWord ps = false → stops (render ps) = true) := by
  have hs := starts_render ps h
  generalize render ps = r at hs
  cases hs with
  | nil => exact ⟨fun _ => rfl, fun _ => rfl, fun _ => rfl⟩
  | ws bs ps b t hb =>
    refine ⟨nofun, fun _ => ?_, fun _ => ?_⟩
    · simpa using ne59_of_notPunct b (isWS_excl b hb).2.2.2
    · simp only [stops, hb, Bool.true_or]
  | comment body ps t => exact ⟨fun _ => rfl, fun _ => rfl, fun _ => rfl⟩
  | str q items ps t hq =>
    have hx := isQuote_excl q hq
    refine ⟨fun _ => by simp [hx.2.2.1], fun _ => ?_, fun _ => ?_⟩
    · simpa using ne59_of_notPunct q hx.2.2.2.1
    · simp only [stops, hq, Bool.true_or, Bool.or_true]
  | word items ps b t hw hp =>
    exact ⟨fun _ => by simp [hw], fun _ => by simpa using ne59_of_notPunct b hp, nofun⟩
  | punct b ps t hp h59 =>
    refine ⟨fun _ => by simp [(isPunct_excl b hp).2.2.2], fun _ => by simpa using h59, fun _ => ?_⟩
    simp only [stops, hp, Bool.true_or, Bool.or_true]
  | semis k ps t => exact ⟨fun _ => rfl, fun h => absurd rfl (h k ps), fun _ => rfl⟩

/-- the piece may stand in front of the bytes `rest` -/
inductive Fits (rest : List B) : Piece → Prop
  | ws (c bs) : isWS c = true → bs.all isWS = true →
      (match rest with | [] => true | x :: _ => !isWS x) = true → Fits rest (.ws (c :: bs))
  | comment (body) : noSS body = true → Fits rest (.comment body)
  | str (q items) : isQuote q = true → items.all (SItem.ok q) = true → Fits rest (.str q items)
  | word (it its) : wordOK (it :: its) rest = true → stops rest = true → Fits rest (.word (it :: its))
  | punct (b) : isPunct b = true → (b != 59) = true → Fits rest (.punct b)
  | semis (k) : Fits rest (.semis k)

theorem Fits_of_WFlex (p : Piece) (ps : List Piece) (h : WFlex (p :: ps) = true) :
    Fits (render ps) p := by
  simp only [WFlex, Bool.and_eq_true] at h
  obtain ⟨nextWs, _, nextWord⟩ := head_facts ps h.2
  have hp := h.1
  cases p with
  | ws bs =>
    rw [pieceOK_ws_eq] at hp
    simp only [Bool.and_eq_true, Bool.not_eq_true', bne_iff_ne, ne_eq] at hp
    cases bs with
    | nil => exact absurd rfl hp.1.1
    | cons c bs =>
      have := hp.1.2; simp only [List.all_cons, Bool.and_eq_true] at this
      exact .ws c bs this.1 this.2 (nextWs hp.2)
  | comment body => exact .comment _ hp
  | str q items => simp only [pieceOK, Bool.and_eq_true] at hp; exact .str _ _ hp.1 hp.2
  | word items =>
    rw [pieceOK_word_eq] at hp
    simp only [Bool.and_eq_true, Bool.not_eq_true', bne_iff_ne, ne_eq] at hp
    cases items with
    | nil => exact absurd rfl hp.1.1
    | cons it its => exact .word it its hp.1.2 (nextWord hp.2)
  | punct b => simp only [pieceOK, Bool.and_eq_true] at hp; exact .punct _ hp.1 hp.2
  | semis k => exact .semis k

theorem semis_next (k : Nat) (ps : List Piece) (h1 : WFlex ps = true)
    (h2 : semisMax (.semis k :: ps) = true) : ((render ps).head? != some 59) = true := by
  refine (head_facts ps h1).2.1 fun k' ps' e => ?_
  subst e
  simp [semisMax, Piece.isSemis] at h2

end EgoVerif.C34
