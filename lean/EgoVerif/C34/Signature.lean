import EgoVerif.C34.Tokenizer
/-
C34 — the signature.  `sig_minP`: `sigAux` of the minified pieces equals `sigAux` of the original
pieces, since the minifier drops a token only where the pending-gap flag does not count
(`sigAux_flag`); `Inv` ties the minifier's byte tests to the next token.
-/
namespace EgoVerif.C34

/-- the next token that is neither whitespace nor comment is one of `{ } ; , >`, or there is none -/
def nextHard : List Tok → Bool
  | [] => true
  | .ws :: ts => nextHard ts
  | .comment :: ts => nextHard ts
  | .punct b :: _ => isDelim b
  | _ => false

theorem semiRedundant_nextHard (ts : List Tok) (h : semiRedundant ts = true) : nextHard ts = true := by
  induction ts with
  | nil => rfl
  | cons t ts ih =>
    cases t with
    | ws => exact ih h
    | comment => exact ih h
    | punct b =>
      simp only [semiRedundant, Bool.or_eq_true, beq_iff_eq] at h
      rcases h with rfl | rfl <;> rfl
    | _ => exact absurd h (by simp [semiRedundant])

theorem PK.beq_other {p : PK} (hp : p ≠ .other) : (p == PK.other) = false := by
  simpa using hp

theorem sigAux_hard (ts : List Tok) (h : nextHard ts = true) (p : PK) (g g' : Bool) :
    sigAux p g ts = sigAux p g' ts := by
  induction ts generalizing g g' with
  | nil => rfl
  | cons t ts ih =>
    cases t with
    | ws => rfl
    | comment => exact ih h g g'
    | punct b =>
      simp only [nextHard] at h
      simp only [sigAux, h, Bool.not_true, Bool.and_false]
      split
      · rename_i hc
        simp only [Bool.and_eq_true] at hc
        exact ih (semiRedundant_nextHard ts hc.2) g g'
      · rfl
    | _ => exact absurd h (by simp [nextHard])

theorem sigAux_notOther (ts : List Tok) (p : PK) (hp : p ≠ .other) (g g' : Bool) :
    sigAux p g ts = sigAux p g' ts := by
  have hpo := PK.beq_other hp
  induction ts generalizing g g' with
  | nil => rfl
  | cons t ts ih =>
    cases t with
    | ws => rfl
    | comment => exact ih g g'
    | punct b =>
      simp only [sigAux, hpo, Bool.and_false, Bool.false_and]
      split
      · exact ih g g'
      · rfl
    | _ => simp [sigAux, hpo]

/-- the pending-gap flag counts only between two tokens that are not hard -/
theorem sigAux_flag (ts : List Tok) (p : PK) (g g' : Bool)
    (h : nextHard ts = false → p = .other → g = g') : sigAux p g ts = sigAux p g' ts := by
  cases hn : nextHard ts
  · by_cases hp : p = .other
    · rw [h hn hp]
    · exact sigAux_notOther ts p hp g g'
  · exact sigAux_hard ts hn p g g'

theorem sigAux_semi (p : PK) (g : Bool) (ts : List Tok) :
    sigAux p g (.punct 59 :: ts) =
      if semiRedundant ts then sigAux p g ts else (false, .punct 59) :: sigAux .hard false ts := by
  have : isDelim 59 = true := by decide
  cases h : semiRedundant ts <;> simp [sigAux, h, this]

theorem sigAux_semis (k : Nat) (p : PK) (g : Bool) (ts : List Tok) :
    sigAux p g (ptoks (.semis k) ++ ts) = sigAux p g (.punct 59 :: ts) := by
  induction k with
  | zero => rfl
  | succ k ih =>
    have hr : semiRedundant (ptoks (.semis k) ++ ts) = true := rfl
    rw [← ih]
    exact (sigAux_semi p g _).trans (if_pos hr)

def allW : List Tok → Bool
  | [] => true
  | .w _ _ :: ts => allW ts
  | _ => false

/-- the tokens of a word pass the state `.other false` on, whatever follows -/
theorem sigAux_allW (k : WKind) (raw : List B) (r : List Tok) (h : allW r = true) (ts ts' : List Tok)
    (hts : sigAux .other false ts' = sigAux .other false ts) (p : PK) (g : Bool) :
    sigAux p g ((.w k raw :: r) ++ ts') = sigAux p g ((.w k raw :: r) ++ ts) := by
  induction r generalizing k raw p g with
  | nil => exact congrArg (List.cons _) hts
  | cons t r ih =>
    cases t with
    | w k2 raw2 => exact congrArg (List.cons _) (ih k2 raw2 h .other false)
    | _ => exact absurd h (by simp [allW])

theorem wl_allW (f : Nat) (w : List WItem) : allW (wl f w) = true := by
  induction f generalizing w with
  | zero => rfl
  | succ f ih =>
    cases w with
    | nil => rfl
    | cons x xs => exact ih _

theorem wordLex_shape (items : List WItem) (h : items ≠ []) :
    ∃ k raw r, wordLex items = .w k raw :: r ∧ allW r = true := by
  cases items with
  | nil => exact absurd rfl h
  | cons x xs => exact ⟨_, _, _, rfl, wl_allW _ _⟩

theorem semiRedundant_word (items : List WItem) (h : items ≠ []) (ts : List Tok) :
    semiRedundant (wordLex items ++ ts) = false := by
  obtain ⟨k, raw, r, he, _⟩ := wordLex_shape items h
  rw [he]; rfl

theorem semiRedundant_snoc_ws (ts : List Tok) : semiRedundant (ts ++ [.ws]) = semiRedundant ts := by
  induction ts with
  | nil => rfl
  | cons t ts ih => cases t <;> simp [semiRedundant, ih]

theorem sigAux_snoc_ws (ts : List Tok) (p : PK) (g : Bool) : sigAux p g (ts ++ [.ws]) = sigAux p g ts := by
  induction ts generalizing p g with
  | nil => simp [sigAux]
  | cons t ts ih => cases t <;> simp [sigAux, ih, semiRedundant_snoc_ws]

theorem cssSig_strip (X : List Piece) : cssSig (toks (stripWs X)) = cssSig (toks X) := by
  rcases List.eq_nil_or_concat X with rfl | ⟨out, p, rfl⟩
  · rfl
  · rw [List.concat_eq_append, stripWs_snoc]
    cases p with
    | ws bs => simp [cssSig, toks, ptoks, Piece.isWs, sigAux_snoc_ws]
    | _ => rfl

/-! ### what the minifier's byte tests say about the next token -/

theorem nextHard_of_delim (x : B) (t : List B) (hx : isDelim x = true) :
    nextHard (cssLex (x :: t)) = true := by
  have hp := isPunct_of_delim x hx
  obtain ⟨h47, _, hnq, hnw⟩ := isPunct_excl x hp
  simp only [cssLex, List.length_cons, lexLoop, h47, hnw, hnq, hp, Bool.false_and,
    Bool.false_eq_true, if_false, if_true, nextHard, hx]

/-- the bytes are `}`, or whitespace and then `}`, and the tokenizer reads them so -/
theorem semiRedundant_of_drop (r : List B) (h : semiDrop r = true) :
    semiRedundant (cssLex r) = true := by
  cases r with
  | nil => simp [semiDrop] at h
  | cons c t =>
    simp only [semiDrop, List.dropWhile_cons] at h
    cases hc : isWS c
    · obtain rfl : c = 125 := by simpa [hc] using h
      rfl
    · cases hd : t.dropWhile isWS with
      | nil => simp [hc, hd] at h
      | cons y t' =>
        obtain rfl : y = 125 := by simpa [hc, hd] using h
        simp only [cssLex, List.length_cons, lexLoop.eq_3, (isWS_excl c hc).1, hc, hd,
          Bool.false_and, Bool.false_eq_true, if_false, if_true]
        rfl

theorem semiRed_minP (ps : List Piece) (hwf : WFlex ps = true) :
    ∀ l ne, semiRedundant (toks (minP l ne ps)) = semiRedundant (toks ps) := by
  induction ps with
  | nil => intro l ne; rfl
  | cons p ps ih =>
    simp only [WFlex, Bool.and_eq_true] at hwf
    have ih := ih hwf.2
    intro l ne
    rw [toks_cons]
    cases p with
    | ws bs =>
      rw [minP_ws]; split
      · rw [toks_cons]; exact ih 32 true
      · exact ih l ne
    | comment body =>
      rw [minP_comment]; split
      · rw [toks_cons]; exact ih 47 true
      · exact ih l ne
    | str q items => rfl
    | word items =>
      have hne : items ≠ [] := by
        have := hwf.1; simp only [pieceOK, Bool.and_eq_true, bne_iff_ne, ne_eq] at this; exact this.1.1
      rw [minP_word, toks_cons]
      simp only [ptoks, semiRedundant_word items hne]
    | punct b => rfl
    | semis k =>
      rw [minP_semis]; split
      · rename_i hc
        rw [ih l ne, ← cssLex_render ps hwf.2, semiRedundant_of_drop _ hc]; rfl
      · rw [toks_cons]; rfl

theorem wsEmit_false (l : B) (rest : List B) (h : wsEmit l true rest = false)
    (hd : isDelim l = false) (h58 : l ≠ 58) :
    l = 32 ∨ ∃ x t, rest = x :: t ∧ isDelim x = true := by
  cases rest with
  | nil => exact Or.inl (by simpa [wsEmit, hd, h58] using h)
  | cons x t =>
    cases hx : isDelim x
    · exact Or.inl (by simpa [wsEmit, hd, h58, hx] using h)
    · exact Or.inr ⟨x, t, rfl, hx⟩

/-- what relates the minifier's context (`l`, `ne`) to the signature's state `p`, `g` wherever
the gap flag counts: something has been written, a written space is flagged, and `last()` is
neither hard nor `:` -/
def Inv (l : B) (ne : Bool) (p : PK) (g : Bool) (ts : List Tok) : Prop :=
  nextHard ts = false → p = .other →
    ne = true ∧ (l = 32 → g = true) ∧ isDelim l = false ∧ l ≠ 58

theorem Inv.of_hard {l : B} {ne : Bool} {p : PK} {g : Bool} {ts : List Tok}
    (h : nextHard ts = true) : Inv l ne p g ts := by
  intro hn; rw [h] at hn; cases hn

/-- after a token that is not whitespace, written to both sides -/
theorem Inv.after (l : B) (p : PK) (ts : List Tok) (h1 : isWS l = false) (h2 : isPunct l = false) :
    Inv l true p false ts := by
  refine fun _ _ => ⟨rfl, ?_, ?_, ?_⟩
  · rintro rfl; exact absurd h1 (by decide)
  · simp only [isPunct, Bool.or_eq_false_iff] at h2; exact h2.1
  · rintro rfl; exact absurd h2 (by decide)

/-- Both signatures run with the same state: the minifier changes the token list only by
dropping whitespace, comments and redundant semicolons, and only a dropped whitespace token
changes the flag, where it does not count. -/
theorem sig_minP (ps : List Piece) (hwf : WFlex ps = true) :
    ∀ (l : B) (ne : Bool) (p : PK) (g : Bool), Inv l ne p g (toks ps) →
      sigAux p g (toks (minP l ne ps)) = sigAux p g (toks ps) := by
  induction ps with
  | nil => intro l ne p g _; rfl
  | cons q ps ih =>
    simp only [WFlex, Bool.and_eq_true] at hwf
    have ih := ih hwf.2
    intro l ne p g hinv
    rw [toks_cons] at hinv ⊢
    cases q with
    | ws bs =>
      have hinv : Inv l ne p g (toks ps) := hinv
      show _ = sigAux p true (toks ps)
      rw [minP_ws]; split
      · rw [toks_cons]
        exact ih 32 true p true fun _ _ => ⟨rfl, fun _ => rfl, by decide, by decide⟩
      · rename_i hc
        rw [ih l ne p g hinv]
        -- the space was dropped: one is there already and flagged, or the next byte is a delimiter
        refine sigAux_flag _ _ _ _ fun hn hp => ?_
        obtain ⟨rfl, h3, h4, h5⟩ := hinv hn hp
        rcases wsEmit_false l _ (by simpa using hc) h4 h5 with h32 | ⟨x, t, hr, hx⟩
        · exact h3 h32
        · rw [← cssLex_render ps hwf.2, hr, nextHard_of_delim x t hx] at hn; cases hn
    | comment body =>
      have hinv : Inv l ne p g (toks ps) := hinv
      show _ = sigAux p g (toks ps)
      rw [minP_comment]; split
      · rw [toks_cons]
        exact ih 47 true p g fun _ _ => ⟨rfl, fun h => absurd h (by decide), by decide, by decide⟩
      · exact ih l ne p g hinv
    | str qq items =>
      rw [minP_str, toks_cons]
      exact congrArg (List.cons _) (ih _ _ _ _ (Inv.after 0 _ _ (by decide) (by decide)))
    | word items =>
      have hok := hwf.1
      simp only [pieceOK, Bool.and_eq_true, bne_iff_ne, ne_eq] at hok
      obtain ⟨k, raw, r, he, ha⟩ := wordLex_shape items hok.1.1
      obtain ⟨f1, f2⟩ := ctxWord_facts items l _ hok.1.2 (Or.inl hok.1.1)
      rw [minP_word, toks_cons]
      simp only [ptoks, he]
      exact sigAux_allW k raw r ha _ _ (ih _ _ _ _ (Inv.after _ _ _ f1 f2)) p g
    | punct b =>
      have hok := hwf.1
      simp only [pieceOK, Bool.and_eq_true, bne_iff_ne, ne_eq] at hok
      have h59 : (b == 59) = false := by simpa using hok.2
      have hhard : (isDelim b || b == 58) = true := hok.1
      rw [minP_punct, toks_cons]
      simp only [ptoks, List.cons_append, List.nil_append, sigAux, h59, Bool.false_and,
        Bool.false_eq_true, if_false, hhard, if_true]
      exact congrArg (List.cons _) (ih _ _ _ _ fun _ hp => nomatch hp)
    | semis k =>
      rw [sigAux_semis, sigAux_semi, minP_semis]; split
      · -- the minifier drops the run: it is redundant for the signature too
        rename_i hc
        have hred := cssLex_render ps hwf.2 ▸ semiRedundant_of_drop _ hc
        rw [if_pos hred]
        exact ih _ _ _ _ (.of_hard (semiRedundant_nextHard _ hred))
      · -- the minifier keeps one `;`, redundant or not on both sides alike
        rw [toks_cons, sigAux_semis, sigAux_semi, semiRed_minP ps hwf.2]
        split
        · rename_i hred
          exact ih _ _ _ _ (.of_hard (semiRedundant_nextHard _ hred))
        · exact congrArg (List.cons _) (ih _ _ _ _ fun _ hp => nomatch hp)

end EgoVerif.C34
