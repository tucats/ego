import EgoVerif.C42.Model
/-
C42 theorems.  Those about the patched code quantify over EVERY list of model operations (`exec true rt State.init ops`):
every interleaving of the handler regions of any number of requests, including ill-formed ones
(an op whose request is not in the right phase is a no-op).
-/
namespace EgoVerif.C42

theorem tget_mem {t : Table} {k v} (h : tget t k = some v) : (k, v) ∈ t := by
  induction t with
  | nil => simp [tget] at h
  | cons p t ih =>
    obtain ⟨k', v'⟩ := p
    simp only [tget] at h
    split at h
    · simp_all
    · simp [ih h]

theorem tget_append (a b : Table) (k : String) :
    tget (a ++ b) k = match tget a k with | some v => some v | none => tget b k := by
  induction a with
  | nil => simp [tget]
  | cons p a ih =>
    obtain ⟨k', v'⟩ := p
    simp only [List.cons_append, tget]
    split <;> simp_all

theorem tget_tset (t : Table) (k k' : String) (v : Val) :
    tget (tset t k v) k' = if k' = k then some v else tget t k' := by
  simp [tset, tget]

/-- symbols.Merge as a finite-map equation -/
theorem tget_merge (d s : Table) (k : String) :
    tget (merge d s) k =
      if readonly k then tget d k else match tget s k with | some v => some v | none => tget d k := by
  induction s with
  | nil => simp [merge, tget]
  | cons p s ih =>
    obtain ⟨k', v'⟩ := p
    simp only [merge, tget]
    by_cases hk : k = k'
    · subst hk
      cases hr : readonly k <;> simp_all [tget_tset]
    · cases hr' : readonly k' <;> simp_all [tget_tset]

theorem partsTbl_cons (n : String) (ns vs : List String) :
    partsTbl (n :: ns) vs = partsTbl ns vs.tail ++ [(n, .str (vs.headD ""))] := by
  cases vs <;> rfl

theorem parts_none (ns vs : List String) (k : String) (h : k ∉ ns) : tget (partsTbl ns vs) k = none := by
  induction ns generalizing vs with
  | nil => rfl
  | cons n ns ih =>
    rw [List.mem_cons, not_or] at h
    rw [partsTbl_cons, tget_append, ih _ h.2, tget, if_neg h.1]; rfl

theorem parts_some (ns vs : List String) (k : String) (h : k ∈ ns) :
    ∃ s, tget (partsTbl ns vs) k = some (.str s) := by
  induction ns generalizing vs with
  | nil => cases h
  | cons n ns ih =>
    rw [partsTbl_cons, tget_append]
    by_cases h2 : k ∈ ns
    · obtain ⟨s, hs⟩ := ih vs.tail h2
      exact ⟨s, by rw [hs]⟩
    · have h1 : k = n := (List.mem_cons.1 h).resolve_right h2
      rw [parts_none _ _ _ h2, tget, if_pos h1]
      exact ⟨_, rfl⟩

theorem not_mem_of_parts_none {ns vs : List String} {k : String} (h : tget (partsTbl ns vs) k = none) :
    k ∉ ns := by
  intro hk
  obtain ⟨s, hs⟩ := parts_some ns vs k hk
  simp [hs] at h

theorem parts_str {ns vs : List String} {k : String} {v : Val} (h : tget (partsTbl ns vs) k = some v) :
    ∃ s, v = .str s := by
  by_cases hk : k ∈ ns
  · obtain ⟨s, hs⟩ := parts_some ns vs k hk
    exact ⟨s, by simp_all⟩
  · simp [parts_none _ _ _ hk] at h

theorem ro_all (i : Rid) (inp : ReqIn) :
    ∀ p ∈ roTbl i inp, readonly p.1 = true ∧ (∀ o, p.2 = .ref o → ∃ w, o = .req i w) := by
  simp only [roTbl, List.mem_cons, List.not_mem_nil, or_false, readonly, forall_eq_or_imp,
    String.reduceToList, ↓Char.isValue, Val.ref.injEq, forall_eq', Owner.req.injEq, true_and,
    exists_eq', and_self, reduceCtorEq, false_implies, implies_true, forall_eq]

theorem ro_readonly {i inp k v} (h : tget (roTbl i inp) k = some v) : readonly k = true :=
  (ro_all i inp _ (tget_mem h)).1

theorem ro_none {i inp k} (h : readonly k = false) : tget (roTbl i inp) k = none := by
  cases hg : tget (roTbl i inp) k with
  | none => rfl
  | some v => simp [ro_readonly hg] at h

theorem ro_ref {i inp k o} (h : tget (roTbl i inp) k = some (.ref o)) : ∃ w, o = .req i w :=
  (ro_all i inp _ (tget_mem h)).2 o rfl

theorem auto_ref {rt : Route} {k v} (h : tget (autoTbl rt) k = some v) : ∃ n, v = .ref (.pkg n) := by
  obtain ⟨n, _, hn⟩ := List.mem_map.1 (tget_mem h)
  exact ⟨n, (Prod.mk.inj hn).2.symm⟩

/-! ### the invariant -/

/-- the table shows exactly what request i is entitled to see -/
def ownT (rt : Route) (i : Rid) (inp : ReqIn) (t : Table) : Prop :=
  ∀ k, tget t k = tget (full rt i inp) k

/-- … except for the URL-part variables, which the request's own code may have assigned -/
def ownNP (rt : Route) (i : Rid) (inp : ReqIn) (t : Table) : Prop :=
  ∀ k, k ∉ rt.parts → tget t k = tget (full rt i inp) k

def baseT (rt : Route) (i : Rid) (inp : ReqIn) (t : Table) : Prop :=
  ∀ k, tget t k = tget (partsTbl rt.parts inp.vals ++ roTbl i inp) k

/-- every object reference in request i's table is a package or one of i's own objects
    (and those sit under "_"-names, which Merge never copies) -/
def refsOK (i : Rid) (t : Table) : Prop :=
  ∀ k o, tget t k = some (.ref o) → (∃ n, o = .pkg n) ∨ (readonly k = true ∧ ∃ w, o = .req i w)

/-- what Merge may be fed (a table saved in the cache, or nothing): outside the URL-part names
    its mergeable symbols are the packages, and none refers to a request-owned object -/
def cachedOK (rt : Route) (t : Table) : Prop :=
  (∀ k, k ∉ rt.parts → readonly k = false → tget t k = none ∨ tget t k = tget (autoTbl rt) k) ∧
  (∀ k o, readonly k = false → tget t k = some (.ref o) → ∃ n, o = .pkg n)

structure ReqInv (rt : Route) (i : Rid) (r : RState) : Prop where
  early : r.phase = .setup ∨ r.phase = .found → baseT rt i r.inp r.tbl
  ready : r.phase = .ready → ownT rt i r.inp r.tbl
  late : r.phase = .ready ∨ r.phase = .ran ∨ r.phase = .done → ownNP rt i r.inp r.tbl
  refs : refsOK i r.tbl
  resp : ∀ t, r.resp = some t → ownT rt i r.inp t

structure Inv (rt : Route) (st : State) : Prop where
  reqs : ∀ i r, getReq st.reqs i = some r → ReqInv rt i r
  heap : ∀ e ent t, getEntry st.heap e = some ent → ent.s = some t → cachedOK rt t

theorem getReq_setReq (st : State) (i j : Rid) (r : RState) :
    getReq (st.setReq i r).reqs j = if j = i then some r else getReq st.reqs j := by
  simp [State.setReq, getReq]

theorem inv_init (rt : Route) : Inv rt State.init :=
  ⟨by intro i r h; simp [State.init, getReq] at h, by intro e ent t h; simp [State.init, getEntry] at h⟩

theorem inv_setReq {rt : Route} {st : State} (h : Inv rt st) (i : Rid) (r : RState) (hr : ReqInv rt i r) :
    Inv rt (st.setReq i r) := by
  refine ⟨?_, h.heap⟩
  intro j r' hj
  rw [getReq_setReq] at hj
  split at hj
  · simp_all
  · exact h.reqs j r' hj

theorem cachedOK_nil (rt : Route) : cachedOK rt [] :=
  ⟨fun _ _ _ => Or.inl rfl, by intro k o _ h; simp [tget] at h⟩

/-- the table a request runs with after AutoImport, Merge of a cached table and the re-applied
    URL parts is exactly its own view -/
theorem load_own {rt : Route} {i : Rid} {inp : ReqIn} {tbl src : Table}
    (hb : baseT rt i inp tbl) (hs : cachedOK rt src) :
    ownT rt i inp (reapply true rt inp (merge (autoTbl rt ++ tbl) src)) := by
  intro k
  simp only [reapply, if_true, full, tget_append]
  cases hp : tget (partsTbl rt.parts inp.vals) k with
  | some v => rfl
  | none =>
    have hk := not_mem_of_parts_none hp
    have hbk : tget tbl k = tget (roTbl i inp) k := by rw [hb k, tget_append, hp]
    simp only [tget_merge, tget_append, hbk]
    cases hr : readonly k with
    | true => simp
    | false =>
      simp only [Bool.false_eq_true, if_false]
      rcases hs.1 k hk hr with h | h
      · simp [h]
      · rw [h]; cases tget (autoTbl rt) k <;> simp

theorem refsOK_append {i : Rid} {a b : Table} (ha : refsOK i a) (hb : refsOK i b) : refsOK i (a ++ b) := by
  intro k o h
  rw [tget_append] at h
  cases hg : tget a k with
  | some v => rw [hg] at h; exact ha k o (hg.trans h)
  | none => rw [hg] at h; exact hb k o h

theorem refsOK_parts (i : Rid) (ns vs : List String) : refsOK i (partsTbl ns vs) := by
  intro k o h
  obtain ⟨s, hs⟩ := parts_str h
  cases hs

theorem refsOK_auto (i : Rid) (rt : Route) : refsOK i (autoTbl rt) := by
  intro k o h
  obtain ⟨n, hn⟩ := auto_ref h
  exact Or.inl ⟨n, Val.ref.inj hn⟩

theorem refsOK_ro (i : Rid) (inp : ReqIn) : refsOK i (roTbl i inp) :=
  fun _ _ h => Or.inr ⟨ro_readonly h, ro_ref h⟩

/-- Merge copies only mergeable symbols, and those of a cached table refer to packages -/
theorem refsOK_merge {rt : Route} {i : Rid} {d s : Table} (hd : refsOK i d) (hs : cachedOK rt s) :
    refsOK i (merge d s) := by
  intro k o h
  rw [tget_merge] at h
  split at h
  · exact hd k o h
  · rename_i hro
    split at h
    · rename_i v hsk
      exact Or.inl (hs.2 k o (Bool.eq_false_iff.mpr hro) (hsk.trans h))
    · exact hd k o h

theorem load_refs {rt : Route} {i : Rid} {inp : ReqIn} {tbl src : Table}
    (hr : refsOK i tbl) (hs : cachedOK rt src) :
    refsOK i (reapply true rt inp (merge (autoTbl rt ++ tbl) src)) :=
  refsOK_append (refsOK_parts _ _ _) (refsOK_merge (refsOK_append (refsOK_auto _ _) hr) hs)

theorem writes_np (rt : Route) (t : Table) (ws : List (String × String)) (k : String) (hk : k ∉ rt.parts) :
    tget (applyWrites rt t ws) k = tget t k := by
  induction ws generalizing t with
  | nil => rfl
  | cons w ws ih =>
    obtain ⟨k', d⟩ := w
    simp only [applyWrites]
    rw [ih]
    split
    · next h => rw [tget_tset, if_neg fun e : k = k' => hk (e ▸ h)]
    · rfl

theorem writes_refs (rt : Route) (i : Rid) (t : Table) (ws : List (String × String)) (h : refsOK i t) :
    refsOK i (applyWrites rt t ws) := by
  induction ws generalizing t with
  | nil => exact h
  | cons w ws ih =>
    obtain ⟨k', d⟩ := w
    simp only [applyWrites]
    apply ih
    split
    · intro k o hg
      rw [tget_tset] at hg
      split at hg
      · simp at hg
      · exact h k o hg
    · exact h

/-- a finished request's table may be saved in the cache -/
theorem late_cached {rt : Route} {i : Rid} {inp : ReqIn} {t : Table}
    (hl : ownNP rt i inp t) (hr : refsOK i t) : cachedOK rt t := by
  refine ⟨?_, ?_⟩
  · intro k hk hro
    refine Or.inr ?_
    rw [hl k hk]
    simp only [full, tget_append, parts_none _ _ _ hk, ro_none hro]
    cases tget (autoTbl rt) k <;> rfl
  · intro k o hro hg
    rcases hr k o hg with h | ⟨h, _⟩
    · exact h
    · simp [h] at hro

theorem inv_heap_cons {rt : Route} {st : State} (h : Inv rt st) (e : Nat) (ent : Entry)
    (he : ∀ t, ent.s = some t → cachedOK rt t) (c : Option Nat) :
    Inv rt { st with heap := (e, ent) :: st.heap, cur := c } := by
  refine ⟨h.reqs, ?_⟩
  intro e' ent' t hg hs
  simp only [getEntry] at hg
  split at hg
  · simp at hg; subst hg; exact he t hs
  · exact h.heap e' ent' t hg hs

theorem inv_cur {rt : Route} {st : State} (h : Inv rt st) (c : Option Nat) : Inv rt { st with cur := c } :=
  ⟨h.reqs, h.heap⟩

theorem inv_step (rt : Route) (st : State) (op : Op) (h : Inv rt st) : Inv rt (step true rt st op) := by
  cases op with
  | begin i inp =>
    simp only [step]
    split
    · exact h
    · refine inv_setReq h i _ ⟨fun _ k => rfl, by simp, by simp, refsOK_append (refsOK_parts _ _ _) (refsOK_ro _ _), by simp⟩
  | find i =>
    simp only [step]
    split
    · rename_i r hr
      have hi := h.reqs i r hr
      split
      · rename_i hp
        exact inv_setReq h i _ ⟨fun _ => hi.early (Or.inl hp), by simp, by simp, hi.refs, hi.resp⟩
      · exact h
    · exact h
  | load i =>
    simp only [step]
    split
    · rename_i r hr
      have hi := h.reqs i r hr
      split
      · rename_i hp
        -- whatever cached table is merged in, the request then sees exactly its own view
        have hnew : ∀ src, cachedOK rt src → ReqInv rt i
            { r with tbl := reapply true rt r.inp (merge (autoTbl rt ++ r.tbl) src), phase := .ready } :=
          fun src hsrc =>
            have ho := load_own (i := i) (hi.early (Or.inr hp)) hsrc
            ⟨by simp, fun _ => ho, fun _ k _ => ho k, load_refs hi.refs hsrc, hi.resp⟩
        split
        · rename_i e he
          refine inv_setReq h i _ (hnew _ ?_)
          split
          · rename_i ent hent
            cases hs : ent.s with
            | none => exact cachedOK_nil rt
            | some t => exact h.heap e ent t hent hs
          · exact cachedOK_nil rt
        · have hst : Inv rt (if rt.caching then
              { st with heap := (st.heap.length, { s := none }) :: st.heap, cur := some st.heap.length }
            else st) := by
            split
            · exact inv_heap_cons h _ _ (by simp) _
            · exact h
          exact inv_setReq hst i _ (hnew [] (cachedOK_nil rt))
      · exact h
    · exact h
  | run i ws fail =>
    simp only [step]
    split
    · rename_i r hr
      have hi := h.reqs i r hr
      split
      · rename_i hp
        have ho := hi.ready hp
        have hnew := inv_setReq h i
          { r with resp := some r.tbl, tbl := applyWrites rt r.tbl ws, phase := .ran, failed := fail }
          ⟨by simp, by simp, fun _ k hk => by simp only [writes_np rt _ _ k hk]; exact ho k,
            writes_refs rt i _ ws hi.refs, by intro t ht; simp at ht; subst ht; exact ho⟩
        split
        · exact inv_cur hnew none
        · exact hnew
      · exact h
    · exact h
  | finish i =>
    simp only [step]
    split
    · rename_i r hr
      have hi := h.reqs i r hr
      split
      · rename_i hp
        have hl := hi.late (Or.inr (Or.inl hp.1))
        have hnew := inv_setReq h i { r with phase := .done } ⟨by simp, by simp, fun _ => hl, hi.refs, hi.resp⟩
        split
        · split
          · split
            · exact inv_heap_cons hnew _ { s := some r.tbl }
                (by intro t ht; simp at ht; subst ht; exact late_cached hl hi.refs) _
            · exact hnew
          · exact hnew
        · exact hnew
      · exact h
    · exact h
  | flush => exact inv_cur h none

theorem inv_exec (rt : Route) (ops : List Op) (st : State) (h : Inv rt st) : Inv rt (exec true rt st ops) := by
  induction ops generalizing st with
  | nil => exact h
  | cons op ops ih => exact ih _ (inv_step rt st op h)

/-! ### the theorems: each reads off one component of the invariant at a reachable state -/

theorem inv_reachable (rt : Route) (ops : List Op) : Inv rt (exec true rt State.init ops) :=
  inv_exec rt ops _ (inv_init rt)

/-- Main theorem.  In every interleaving, what the service code of request i can observe when it
    runs (every symbol of its table) is exactly `full rt i inp`: its own URL parts, its own
    "_"-symbols, and the packages — a function of request i's own input only. -/
theorem C42_response_own_request (rt : Route) (ops : List Op) (i : Rid) (r : RState) (t : Table)
    (hr : getReq (exec true rt State.init ops).reqs i = some r) (ht : r.resp = some t) :
    ∀ k, tget t k = tget (full rt i r.inp) k :=
  ((inv_reachable rt ops).reqs i r hr).resp t ht

theorem solo_resp (rt : Route) (i : Rid) (inp : ReqIn) (ws : List (String × String)) (fl : Bool) :
    ∃ r t, getReq (exec true rt State.init (solo i inp ws fl)).reqs i = some r ∧ r.resp = some t ∧ r.inp = inp := by
  cases hc : rt.caching <;> cases fl <;>
    simp [solo, exec, step, State.init, getReq, State.setReq, hc, getEntry]

/-- Schedule independence: whatever request i observes in ANY interleaving with any other
    requests, flushes and failures is what it observes when it is served alone from a cold start. -/
theorem C42_same_as_alone (rt : Route) (ops : List Op) (i : Rid) (r : RState) (t : Table)
    (ws : List (String × String)) (fl : Bool)
    (hr : getReq (exec true rt State.init ops).reqs i = some r) (ht : r.resp = some t) :
    ∃ r' t', getReq (exec true rt State.init (solo i r.inp ws fl)).reqs i = some r' ∧ r'.resp = some t' ∧
      ∀ k, tget t k = tget t' k := by
  obtain ⟨r', t', h1, h2, h3⟩ := solo_resp rt i r.inp ws fl
  refine ⟨r', t', h1, h2, fun k => ?_⟩
  rw [C42_response_own_request rt ops i r t hr ht k, C42_response_own_request rt _ i r' t' h1 h2 k, h3]

/-- Ownership: at every moment of every interleaving, a mutable object referenced from the tables
    of two different requests is a package-level object. -/
theorem C42_disjoint (rt : Route) (ops : List Op) (i j : Rid) (ri rj : RState) (k k' : String) (o : Owner)
    (hij : i ≠ j)
    (hi : getReq (exec true rt State.init ops).reqs i = some ri)
    (hj : getReq (exec true rt State.init ops).reqs j = some rj)
    (h1 : tget ri.tbl k = some (.ref o)) (h2 : tget rj.tbl k' = some (.ref o)) :
    ∃ n, o = .pkg n := by
  have inv := inv_reachable rt ops
  rcases (inv.reqs i ri hi).refs k o h1 with h | ⟨_, w, hw⟩
  · exact h
  · rcases (inv.reqs j rj hj).refs k' o h2 with h | ⟨_, w', hw'⟩
    · exact h
    · rw [hw] at hw'; injection hw' with e; exact absurd e hij

/-- … and the table saved in the cache hands later requests (through Merge, which skips "_"-names)
    only package references, never an object of the request that filled the cache. -/
theorem C42_cache_shares_only_packages (rt : Route) (ops : List Op) (e : Nat) (ent : Entry) (t : Table)
    (k : String) (o : Owner)
    (he : getEntry (exec true rt State.init ops).heap e = some ent) (hs : ent.s = some t)
    (hk : readonly k = false) (h : tget t k = some (.ref o)) : ∃ n, o = .pkg n :=
  ((inv_reachable rt ops).heap e ent t he hs).2 k o hk h

/-! ### the code as found (`fixed = false`) violates the property -/

def demoRoute : Route := { parts := ["item"], auto := ["os"], caching := true }
def demoA : ReqIn := { user := "alice", method := "GET", vals := ["A"] }
def demoB : ReqIn := { user := "bob", method := "GET", vals := ["B"] }
def demoOps : List Op := solo 0 demoA [] false ++ solo 1 demoB [] false

def seen (fixed : Bool) (rt : Route) (ops : List Op) (i : Rid) (k : String) : Option Val :=
  match getReq (exec fixed rt State.init ops).reqs i with
  | some r => match r.resp with
    | some t => tget t k
    | none => none
  | none => none

/-- Without the re-applied URL parts, the second request (even served strictly after the first)
    reads the FIRST request's URL part: Merge overwrites `item` with the cached table's value. -/
theorem C42_unfixed_counterexample :
    seen false demoRoute demoOps 1 "item" = some (.str "A") ∧ demoB.vals = ["B"] := by decide

/-- non-vacuity: in the fixed model the same history gives each request its own value, its own
    user, and the shared package -/
example : seen true demoRoute demoOps 1 "item" = some (.str "B") ∧
    seen true demoRoute demoOps 0 "item" = some (.str "A") ∧
    seen true demoRoute demoOps 1 "_user" = some (.str "bob") ∧
    seen true demoRoute demoOps 1 "os" = some (.ref (.pkg "os")) ∧
    seen true demoRoute demoOps 1 "_request" = some (.ref (.req 1 "request")) := by decide +kernel

/-- non-vacuity of C42_disjoint / C42_cache_shares_only_packages: two live requests do share a
    package reference, and the cache does hold a table -/
example : ∃ ri rj, getReq (exec true demoRoute State.init demoOps).reqs 0 = some ri ∧
    getReq (exec true demoRoute State.init demoOps).reqs 1 = some rj ∧
    tget ri.tbl "os" = some (.ref (.pkg "os")) ∧ tget rj.tbl "os" = some (.ref (.pkg "os")) := by
  refine ⟨_, _, rfl, rfl, ?_, ?_⟩ <;> decide

example : ∃ ent t, getEntry (exec true demoRoute State.init demoOps).heap 0 = some ent ∧ ent.s = some t ∧
    tget t "os" = some (.ref (.pkg "os")) ∧ tget t "item" = some (.str "A") := by
  refine ⟨_, _, rfl, rfl, ?_, ?_⟩ <;> decide

end EgoVerif.C42
