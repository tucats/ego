import EgoVerif.C14.Stmt
/-
C14 — the theorems about the (repaired) SQL generators: whatever a statement builder accepts, SQLite's tokenizer
reads the generated text as exactly the pieces the builder wrote (`C14_structure`); one statement, no comment,
client text confined to literals follow.  The statements the unrepaired handlers executed do not have that shape.
-/
namespace EgoVerif.C14

/-- the requests of the statement builders -/
inductive Req where
  | selectDelete (r : SelReq)
  | update (table : List Char) (keys : List (List Char)) (filters : List (List Tok)) (rowid : Bool)
  | insert (table : List Char) (keys : List (List Char)) (nvalues : Nat)
  | abstractUpdate (table : List Char) (items : List (List Char)) (filters : List (List Tok)) (rowid : Bool)
  | taskUpdate (table : List Char) (keys : List (List Char)) (filters : List (List Tok))
  | whereOnly (filters : List (List Tok))

def Req.filters : Req → List (List Tok)
  | .selectDelete r => r.filters
  | .update _ _ f _ => f
  | .insert _ _ _ => []
  | .abstractUpdate _ _ f _ => f
  | .taskUpdate _ _ f => f
  | .whereOnly f => f

/-- the statement (as pieces) generated for a request, or its rejection -/
def gen : Req → Except Err (List Piece)
  | .selectDelete r => selectDelete r
  | .update t k f r => updateQuery t k f r
  | .insert t k n => .ok (insertQuery (fullName t) k n)
  | .abstractUpdate t k f r => abstractUpdate t k f r
  | .taskUpdate t k f => txUpdate t k f
  | .whereOnly f => whereClause f

theorem gen_chain {q : Req} (h : FiltersOK q.filters) : Ok Chain (gen q) := by
  cases q with
  | selectDelete r => exact ok_bind (whereClause_ok h) fun _ hw => ok_ok (selTail_chain r hw)
  | update t k f r => exact updateQuery_ok h
  | insert t k n => exact ok_ok (insertQuery_chain t k n)
  | abstractUpdate t k f r => exact abstractUpdate_ok h
  | taskUpdate t k f => exact txUpdate_ok h
  | whereOnly f => exact fun w e => (whereClause_ok h w e).1

/-- for every request the builders accept (filter tokens arbitrary, subject only to the tokenizer contract `TokOK` on
numeric tokens) the text lexes to the skeleton of its pieces, and every piece is either quoted client text or
fixed-vocabulary / numeric / plain-identifier text -/
theorem C14_structure (q : Req) (ps : List Piece) (h : FiltersOK q.filters) (e : gen q = .ok ps) :
    sqlLex (render ps) = pieceToks ps ∧ ∀ p ∈ ps, PieceOK p :=
  chain_structure (gen_chain h ps e)

def LTok.bad : LTok → Bool
  | .semi => true
  | .comment => true
  | .unterminated => true
  | _ => false

theorem toks_not_bad (p : Piece) : ∀ t ∈ p.toks, t.bad = false := by
  have ch : ∀ s : List Char, ∀ t ∈ s.map LTok.ch, t.bad = false := fun s t h => by
    obtain ⟨c, _, rfl⟩ := List.mem_map.mp h
    rfl
  cases p with
  | str v => intro t h; cases List.mem_singleton.mp h; rfl
  | ident v => intro t h; cases List.mem_singleton.mp h; rfl
  | _ => exact ch _

theorem pieceToks_not_bad : ∀ (ps : List Piece), ∀ t ∈ pieceToks ps, t.bad = false
  | [], t, ht => nomatch ht
  | p :: ps, t, ht => by
    rcases List.mem_append.mp ht with ht | ht
    · exact toks_not_bad p t ht
    · exact pieceToks_not_bad ps t ht

/-- one statement: SQLite sees no `;`, no comment opener and no unterminated literal outside the literals -/
theorem C14_one_statement (q : Req) (ps : List Piece) (h : FiltersOK q.filters) (e : gen q = .ok ps) :
    ∀ t ∈ sqlLex (render ps), t ≠ .semi ∧ t ≠ .comment ∧ t ≠ .unterminated := by
  intro t ht
  rw [(C14_structure q ps h e).1] at ht
  have := pieceToks_not_bad ps t ht
  refine ⟨?_, ?_, ?_⟩ <;> rintro rfl <;> cases this

def Piece.client : Piece → Option (Bool × List Char)
  | .str v => some (false, v)
  | .ident v => some (true, v)
  | _ => none

def LTok.literal : LTok → Option (Bool × List Char)
  | .str v => some (false, v)
  | .qid v => some (true, v)
  | _ => none

theorem literal_pieceToks : ∀ ps : List Piece, (pieceToks ps).filterMap LTok.literal = ps.filterMap Piece.client
  | [] => rfl
  | p :: ps => by
    have ih := literal_pieceToks ps
    have hch : ∀ s : List Char, (s.map LTok.ch).filterMap LTok.literal = [] := fun s => by
      simp [List.filterMap_eq_nil_iff, LTok.literal]
    cases p <;> simp [pieceToks, Piece.toks, Piece.client, LTok.literal, List.filterMap_append, List.filterMap_cons, hch, ih]

/-- the literal tokens SQLite sees are exactly the texts the builder put between quotes (client text, and its own
`_row_id_` in `updateQuery`), in order, each whole -/
theorem C14_client_text_confined (q : Req) (ps : List Piece) (h : FiltersOK q.filters) (e : gen q = .ok ps) :
    (sqlLex (render ps)).filterMap LTok.literal = ps.filterMap Piece.client := by
  rw [(C14_structure q ps h e).1, literal_pieceToks]

/-- the literals that introduce a table name -/
def tableWords : List (List Char) := ["FROM ", " INTO ", "UPDATE", "UPDATE ", "SELECT * FROM "].map String.toList

/-- NOT PROVED here (checked on every run by SQLite's EXPLAIN instead): in a SELECT/DELETE statement the only
table-introducing literal is the `FROM ` that precedes the addressed table -/
def C14_only_addressed_table_statement : Prop :=
  ∀ (r : SelReq) (ps : List Piece), FiltersOK r.filters → selectDelete r = .ok ps →
    ∃ a b, ps = a ++ Piece.kw "FROM ".toList :: (fullName r.table ++ b) ∧
      ∀ p ∈ a ++ b, ∀ s, p = Piece.kw s → s ∉ tableWords

theorem sqlEscape_ident (n : List Char) {x : List Char} (e : sqlEscape (Piece.ident n).text = some x) : x = escD n := by
  have hsrc : trimPrefix1 '"' (trimSuffix1 '"' ('"' :: (escD n ++ ['"']))) = escD n := by
    simp [trimSuffix1, trimPrefix1]
  simp [sqlEscape, Piece.text, hsrc] at e
  exact e.2.symm

/-- whenever the metadata statement is built at all, it is `SELECT * FROM <quoted identifier> WHERE 1=0` -/
theorem C14_metadata_structure (table x : List Char) (e : metaText table = some x) :
    x = render [.kw "SELECT * FROM ".toList, .ident (stripQuotes table), .kw " WHERE 1=0".toList] ∧
    sqlLex x = pieceToks [.kw "SELECT * FROM ".toList, .ident (stripQuotes table), .kw " WHERE 1=0".toList] := by
  suffices hx : _ from
    ⟨hx, hx ▸ (chain_structure (chain_kw (vocab_at 40) (chain_ident (safe_kw (vocab_at 41) .nil)))).1⟩
  simp only [metaText] at e
  split at e
  · cases e
  · split at e
    · cases e
    · rename_i y hq
      cases e
      simp [sqlEscape_ident _ hq, render, Piece.text]

/-! ## non-vacuity: a hostile request that is accepted -/

instance (t : Tok) : Decidable (TokOK t) := by unfold TokOK; infer_instance
instance (ts : List Tok) : Decidable (ToksOK ts) := by unfold ToksOK; infer_instance
instance (fs : List (List Tok)) : Decidable (FiltersOK fs) := by unfold FiltersOK; infer_instance

/-- tokens of `EQ(name,"a'")` and `EQ(note," ) OR 1=1 --")` -/
def exFilters : List (List Tok) :=
  [[⟨.ident, "EQ".toList⟩, ⟨.special, ['(']⟩, ⟨.ident, "name".toList⟩, ⟨.special, [',']⟩, ⟨.str, "a'".toList⟩,
    ⟨.special, [')']⟩, ⟨.special, [';']⟩],
   [⟨.ident, "EQ".toList⟩, ⟨.special, ['(']⟩, ⟨.ident, "note".toList⟩, ⟨.special, [',']⟩,
    ⟨.str, " ) OR 1=1 --".toList⟩, ⟨.special, [')']⟩, ⟨.special, [';']⟩]]

def exSel : SelReq where
  select := false
  table := "t1".toList
  columns := []
  filters := exFilters
  sort := none
  lim := none
  start := none

def exReq : Req := .selectDelete exSel

example : FiltersOK exReq.filters := by decide

example : (gen exReq).toOption.map (fun ps => String.ofList (render ps)) =
    some "DELETE FROM \"t1\" WHERE (\"name\" = 'a''') AND (\"note\" = ' ) OR 1=1 --')" := by
  decide +kernel

/-! ## the statements the unrepaired handlers executed (recorded by the harness) -/

/-- `sort=(select 1);delete from canary;--`: a second statement and a comment -/
theorem C14_unfixed_sort_counterexample :
    LTok.semi ∈ sqlLex "SELECT * FROM \"t1\" ORDER BY (select 1);delete from canary;--  LIMIT 1000".toList ∧
    LTok.comment ∈ sqlLex "SELECT * FROM \"t1\" ORDER BY (select 1);delete from canary;--  LIMIT 1000".toList := by
  -- a literal unfolds to `String.ofList` of its characters, so `toList_ofList` yields them as written; evaluating
  -- `String.toList` on the literal decodes its UTF-8 bytes one by one, which is slow to check
  rw [String.toList_ofList]
  decide

/-- `EQ(name,"a'")` + `EQ(note," ) OR 1=1 --")`: the first literal swallows the text up to the second value,
which is then live SQL -/
theorem C14_unfixed_quote_counterexample :
    sqlLex "WHERE (\"name\" = 'a'') AND (\"note\" = ' ) OR 1=1 --')".toList =
      ("WHERE (".toList.map LTok.ch) ++ [.qid "name".toList] ++ (" = ".toList.map LTok.ch) ++
      [.str "a') AND (\"note\" = ".toList] ++ (" ) OR 1=1 ".toList.map LTok.ch) ++ [.comment] := by
  repeat rw [String.toList_ofList]
  decide

/-- `columns=count(*) from canary --` (abstract read): the addressed table is commented out -/
theorem C14_unfixed_count_counterexample :
    sqlLex "SELECT count(*) from canary -- FROM \"t1\"  LIMIT 1000".toList =
      ("SELECT count(*) from canary ".toList.map LTok.ch) ++ [.comment] := by
  repeat rw [String.toList_ofList]
  decide

/-- `EQ(id,-"1 OR 1=1")`: the client text is outside every literal -/
theorem C14_unfixed_signed_counterexample :
    (sqlLex "DELETE FROM \"t1\" WHERE (\"id\" = -1 OR 1=1)".toList).filterMap LTok.literal =
      [(true, "t1".toList), (true, "id".toList)] := by
  repeat rw [String.toList_ofList]
  decide

end EgoVerif.C14
