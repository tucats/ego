import EgoVerif.C14.Gen
/-
C14 — every statement builder writes a chain of well-formed pieces.
-/
namespace EgoVerif.C14

def FiltersOK (fs : List (List Tok)) : Prop := ∀ f ∈ fs, ToksOK f

theorem clauseLoop_good (fuel : Nat) : ∀ (n : Nat) (toks : List Tok), ToksOK toks → Good (clauseLoop n fuel toks)
  | 0, _, _ => ok_error _
  | n + 1, toks, hok => by
    simp only [clauseLoop]
    refine good_bind ((filter_good fuel).1 _ hok) fun ps ts hp hts => ?_
    split
    · exact good_ok hp hts
    · exact good_bind (clauseLoop_good fuel n _ (isNext_ok hts ‹_›)) fun rest ts hr hts =>
        good_ok (chain_append hp (safe_kw (vocab_at 14) hr)) hts

/-- from the second filter on the text begins with ` AND ` (or is empty), so it may follow anything -/
theorem whereExprs_ok : ∀ (fs : List (List Tok)) (i : Nat), FiltersOK fs →
    Ok (fun r => Chain r ∧ (i > 0 → NoQuoteStart r)) (whereExprs i fs)
  | [], _, _ => ok_ok ⟨.nil, fun _ => nqs_nil⟩
  | f :: fs, i, hok => by
    have ih : Ok Safe (whereExprs (i + 1) fs) := fun r e =>
      have h := whereExprs_ok fs (i + 1) (fun g hg => hok g (List.mem_cons_of_mem _ hg)) r e
      ⟨h.1, h.2 i.succ_pos⟩
    simp only [whereExprs]
    split
    · exact fun r e => ⟨(ih r e).1, fun _ => (ih r e).2⟩
    · refine good_bind (clauseLoop_good _ _ _ (hok f List.mem_cons_self)) fun ps ts hp _ => ?_
      split
      · exact ok_error _
      · refine ok_bind ih fun rest hr => ok_ok ?_
        have hbody := chain_append hp hr
        split
        · exact ⟨chain_kw (vocab_at 14) hbody, fun _ => nqs_kw (vocab_at 14)⟩
        · exact ⟨hbody, fun h => absurd h ‹_›⟩

theorem whereClause_ok {fs : List (List Tok)} (hok : FiltersOK fs) : Ok Safe (whereClause fs) := by
  unfold whereClause
  split
  · exact ok_ok safe_nil
  · exact ok_bind (whereExprs_ok _ _ hok) fun ps hps => ok_ok (safe_kw (vocab_at 9) hps.1)

theorem nqs_wss {cur add : List Piece} (hc : NoQuoteStart cur) (hne : render cur ≠ []) : NoQuoteStart (wss cur add) := by
  intro rest _
  -- only the first character of a text decides `Follow`, and `cur` supplies it
  have key : ∀ x : List Piece, Follow (render (cur ++ x) ++ rest) := fun x => by
    rw [render_append, List.append_assoc]
    have h := hc [] follow_nil
    cases hr : render cur with
    | nil => exact absurd hr hne
    | cons c cs => rw [hr] at h; exact h
  unfold wss
  split <;> exact key _

variable {p : Piece} {ps w x rid cur add : List Piece} {table : List Char} {keys : List (List Char)}
  {fs : List (List Tok)} {rowid : Bool}

theorem chain_item (first : Bool) (h : Chain (p :: ps)) :
    Chain ((if first then [p] else [.kw [','], p]) ++ ps) ∧ Safe ([.kw [','], p] ++ ps) := by
  have hs : Safe (.kw [','] :: p :: ps) := safe_kw (vocab_at 10) h
  cases first
  · exact ⟨hs.1, hs⟩
  · exact ⟨h, hs⟩

theorem colNames_chain : ∀ (ns : List (List Char)) (first : Bool), Chain (colNames first ns) ∧ Safe (colNames false ns)
  | [], _ => ⟨.nil, safe_nil⟩
  | n :: ns, first => by
    have hS := (colNames_chain ns false).2
    simp only [colNames]
    split
    · have hv : trimSpace n ∈ vocab := by
        rcases ‹_ ∨ _› with h | h <;> rw [h]
        · exact vocab_at 37
        · exact vocab_at 38
      exact chain_item first (chain_kw hv hS.1)
    · split
      · exact ⟨(colNames_chain ns first).1, hS⟩
      · exact chain_item first (chain_ident hS)

theorem columnList_chain (c : List Char) : Chain (columnList c) := by
  unfold columnList
  split
  · exact chain_kw (vocab_at 7) .nil
  · have h := (colNames_chain (splitOn ',' c) true).1
    generalize colNames true (splitOn ',' c) = r at h ⊢
    cases r with
    | nil => exact chain_kw (vocab_at 7) .nil
    | cons p ps => exact h

theorem sortName_ok (s : List Char) : PieceOK (sortName s) := by
  unfold sortName
  split
  · trivial
  · split
    · rename_i h
      simp only [Bool.and_eq_true, List.all_eq_true] at h
      refine ⟨by simp, fun d hd => ?_⟩
      rcases List.mem_cons.mp hd with rfl | hd
      · simp [isIdentChar, h.1]
      · exact h.2 d hd
    · trivial

theorem sortParts_chain : ∀ (ss : List (List Char)) (first : Bool), Chain (sortParts first ss) ∧ Safe (sortParts false ss)
  | [], _ => ⟨.nil, safe_nil⟩
  | s :: ss, first =>
    have hS := (sortParts_chain ss false).2
    chain_item first (.cons (sortName_ok s) hS.1 fun _ => hS.2)

theorem sortValues_safe : ∀ (vs : List (List Char)) (first asc : Bool), Safe (sortValues first asc vs).1
  | [], _, _ => safe_nil
  | v :: vs, first, asc =>
    safe_kw (ite_vocab (vocab_at 26) (vocab_at 10))
      (chain_append (sortParts_chain _ true).1 (sortValues_safe vs false _))

theorem sortList_safe (vals : Option (List (List Char))) : Safe (sortList vals) := by
  cases vals with
  | none => exact safe_nil
  | some vs =>
    have h := sortValues_safe (vs.filter fun v => trimSpace v ≠ []) true true
    simp only [sortList]
    split
    · exact safe_append h (safe_kw (vocab_at 27) .nil)
    · exact h

theorem pagingClauses_safe (lim : Option Int) (start : Option (Option Int)) : Safe (pagingClauses lim start) := by
  refine safe_kw (vocab_at 28) (chain_unq trivial rfl ?_)
  cases start with
  | none => exact .nil
  | some s =>
    simp only [offsetClause]
    split
    · exact chain_kw (vocab_at 29) (chain_unq trivial rfl .nil)
    · exact .nil

theorem fullNameParts_chain : ∀ parts : List (List Char), Chain (fullNameParts parts)
  | [] => .nil
  | [_] => chain_single trivial
  | _ :: q :: ps => chain_ident (safe_kw (vocab_at 11) (fullNameParts_chain (q :: ps)))

theorem fullName_chain (t : List Char) : Chain (fullName t) := fullNameParts_chain _

theorem wss_chain (hc : Chain cur) (ha : Safe add) : Chain (wss cur add) := by
  unfold wss
  split
  · exact chain_append hc ha
  · exact chain_append hc (safe_kw (vocab_at 6) ha.1)

theorem wss_chain_blank (hc : Chain cur) (ha : Chain add) (hb : (render cur).getLast? ≠ some ' ') :
    Chain (wss cur add) := by
  unfold wss
  rw [if_neg hb]
  exact chain_append hc (safe_kw (vocab_at 6) ha)

/-- `if x != "" { writeSpaceString(b, x) }` -/
theorem wssOpt_chain (hc : Chain cur) (hx : Safe x) : Chain (if x ≠ [] then wss cur x else cur) := by
  split
  · exact wss_chain hc hx
  · exact hc

theorem selHead_chain (r : SelReq) : Chain (selHead r) := by
  have hfrom : Safe (Piece.kw "FROM ".toList :: fullName r.table) := safe_kw (vocab_at 8) (fullName_chain r.table)
  unfold selHead
  split
  · exact wss_chain (wss_chain_blank (chain_kw (vocab_at 0) .nil) (columnList_chain _) (by decide)) hfrom
  · exact wss_chain (chain_kw (vocab_at 1) .nil) hfrom

theorem selTail_chain (r : SelReq) (hw : Safe w) : Chain (selTail r w) := by
  have h3 := wssOpt_chain (selHead_chain r) hw
  unfold selTail
  cases r.select with
  | false => exact h3
  | true => exact wss_chain (wssOpt_chain h3 (sortList_safe r.sort)) (pagingClauses_safe r.lim r.start)

theorem setList_safe (sep eq : List Char) (hs : sep ∈ vocab) (he : eq ∈ vocab) :
    ∀ (ks : List (List Char)) (n : Nat), Safe (setList sep eq n ks)
  | [], _ => safe_nil
  | k :: ks, n =>
    safe_kw (ite_vocab (vocab_at 31) hs)
      (chain_ident (safe_kw he (chain_unq trivial rfl (setList_safe sep eq hs he ks (n + 1)).1)))

/-- the WHERE part of the update builders: the filters, and the row-id condition if the items carry one -/
theorem optRowId_safe (b : Bool) (n : Nat) (hw : Safe w) (hr : Chain rid) :
    Safe (if b = true then withRowId w rid n else w) := by
  have tail : Chain (rid ++ [Piece.kw " = $".toList, Piece.nat n]) :=
    chain_append hr (safe_kw (vocab_at 33) (chain_unq trivial rfl .nil))
  split
  · unfold withRowId
    split
    · exact safe_kw (vocab_at 9) tail
    · exact safe_append hw (safe_kw (vocab_at 14) tail)
  · exact hw

/-- the blank and the WHERE part that the two hand-written UPDATE builders append -/
theorem optBlank_safe (hx : Safe x) : Safe (if x ≠ [] then Piece.kw [' '] :: x else []) := by
  split
  · exact safe_kw (vocab_at 6) hx.1
  · exact safe_nil

theorem updHead_chain (table : List Char) (keys : List (List Char)) : Chain (updHead table keys) := by
  have h0 : Chain (wss [Piece.kw "UPDATE".toList] (fullName table)) :=
    wss_chain_blank (chain_kw (vocab_at 2) .nil) (fullName_chain table) (by decide)
  cases keys with
  | nil => exact h0
  | cons k ks =>
    exact wss_chain h0 (safe_kw (vocab_at 30) (chain_ident (safe_kw (vocab_at 32) (chain_unq trivial rfl
      (setList_safe [','] ['=', '$'] (vocab_at 10) (vocab_at 32) ks 1).1))))

theorem updateQuery_ok (hok : FiltersOK fs) : Ok Chain (updateQuery table keys fs rowid) :=
  ok_bind (whereClause_ok hok) fun _ hw => ok_ok <| wssOpt_chain (updHead_chain table keys)
    (optRowId_safe rowid (keys.length + 1) hw (chain_single (p := .ident "_row_id_".toList) trivial))

theorem nameList_safe : ∀ (ks : List (List Char)) (first : Bool), Safe (nameList first ks)
  | [], _ => safe_nil
  | k :: ks, first => by
    have hv : [if first = true then '(' else ','] ∈ vocab := by
      cases first
      · exact vocab_at 10
      · exact vocab_at 12
    exact safe_kw hv (chain_ident (nameList_safe ks false))

theorem placeholders_safe : ∀ (n i : Nat), Safe (placeholders i n)
  | 0, _ => safe_nil
  | n + 1, i => by
    have body : Safe (Piece.kw ['$'] :: Piece.nat (i + 1) :: placeholders (i + 1) n) :=
      safe_kw (vocab_at 35) (chain_unq trivial rfl (placeholders_safe n (i + 1)).1)
    simp only [placeholders]
    split
    · exact safe_kw (vocab_at 10) body.1
    · exact body

theorem insertQuery_chain (table : List Char) (keys : List (List Char)) (n : Nat) :
    Chain (insertQuery (fullName table) keys n) :=
  chain_kw (vocab_at 4) (chain_kw (vocab_at 5) (chain_append
    (chain_append (fullName_chain table) (nameList_safe keys true))
    (safe_kw (vocab_at 36) (chain_append (placeholders_safe n 0).1 (safe_kw (vocab_at 13) .nil)))))

theorem abstractUpdate_ok (hok : FiltersOK fs) : Ok Chain (abstractUpdate table keys fs rowid) :=
  ok_bind (whereClause_ok hok) fun _ hw => ok_ok <|
    chain_kw (vocab_at 2) (chain_kw (vocab_at 6) (chain_append (fullName_chain table)
      (safe_append (setList_safe ", ".toList " = $".toList (vocab_at 34) (vocab_at 33) keys 0)
        (optBlank_safe (optRowId_safe rowid (keys.length + 1) hw
          (chain_kw (s := "_row_id_".toList) (vocab_at 39) .nil))))))

theorem txUpdate_ok (hok : FiltersOK fs) : Ok Chain (txUpdate table keys fs) :=
  ok_bind (whereClause_ok hok) fun _ hw => ok_ok <|
    chain_kw (vocab_at 3) (chain_append (fullName_chain table)
      (safe_append (setList_safe ", ".toList " = $".toList (vocab_at 34) (vocab_at 33) keys 0) (optBlank_safe hw)))

end EgoVerif.C14
