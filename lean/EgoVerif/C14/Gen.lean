import EgoVerif.C14.Lex
/-
C14 — the filter generator (`filterClause` and its loops) only ever writes chains of well-formed pieces.
-/
namespace EgoVerif.C14

/-- the tokenizer's contract used by the repaired `sqlTerm`: Integer, Float and Boolean tokens are spelled
with numeric characters, without `--`, and neither begin nor end with `-` (checked on every harness case) -/
def TokOK (t : Tok) : Prop :=
  (t.cls = .int ∨ t.cls = .float ∨ t.cls = .bool) → (numText t.sp = true ∧ t.sp.head? ≠ some '-' ∧ t.sp ≠ [])

def ToksOK (ts : List Tok) : Prop := ∀ t ∈ ts, TokOK t

/-- what `sqlTerm` needs of the (possibly rewritten) operand token -/
def OpOK (t : Tok) : Prop := (t.cls = .int ∨ t.cls = .float ∨ t.cls = .bool) → numText t.sp = true

variable {op t : Tok} {toks ts ts' : List Tok}

theorem toksOK_tail (h : ToksOK (t :: ts)) : ToksOK ts :=
  fun x hx => h x (List.mem_cons_of_mem _ hx)

theorem next_ok (h : ToksOK ts) : TokOK (next ts).1 ∧ ToksOK (next ts).2 := by
  cases ts with
  | nil => exact ⟨by simp [next, EOT, TokOK], h⟩
  | cons t ts => exact ⟨h t (by simp), toksOK_tail h⟩

theorem isNext_ok {c : Char} (h : ToksOK ts) (e : isNext c ts = some ts') : ToksOK ts' := by
  cases ts with
  | nil => simp [isNext] at e
  | cons t ts =>
    simp only [isNext] at e
    split at e
    · cases e; exact toksOK_tail h
    · cases e

theorem drop_ok (n : Nat) (h : ToksOK ts) : ToksOK (ts.drop n) :=
  fun x hx => h x (List.mem_of_mem_drop hx)

theorem numText_sign {s : List Char} (hs : numText s = true) (hh : s.head? ≠ some '-') (hne : s ≠ []) :
    numText ('-' :: s) = true ∧ numText ('+' :: s) = true := by
  cases s with
  | nil => exact absurd rfl hne
  | cons d s =>
    have hd : d ≠ '-' := fun e => hh (e ▸ rfl)
    constructor <;> simp [numText, hs, hd] <;> decide

theorem signedStage_ok (h : ToksOK toks) (e : signedStage toks = some (op, ts)) :
    OpOK op ∧ ToksOK ts := by
  have h0 := next_ok h
  have h1 := next_ok h0.2
  unfold signedStage at e
  split at e
  · rename_i hsign
    split at e
    · rename_i hnum
      cases e
      refine ⟨fun _ => ?_, h1.2⟩
      have hk := h1.1 (hnum.imp_right .inl)
      have := numText_sign hk.1 hk.2.1 hk.2.2
      rcases hsign with hs | hs <;> rw [hs] <;> simp [this]
    · cases e
  · obtain ⟨rfl, rfl⟩ := Prod.ext_iff.mp (Option.some.inj e)
    exact ⟨fun hc => (h0.1 hc).1, h0.2⟩

theorem prelude_ok (h : ToksOK toks) (e : prelude toks = some (op, ts)) :
    OpOK op ∧ ToksOK ts := by
  unfold prelude at e
  split at e
  · cases e
  · rename_i op1 ts1 hs
    have h1 := signedStage_ok h hs
    unfold nullStage at e
    split at e
    · cases e
      exact ⟨fun _ => by decide, (next_ok h1.2).2⟩
    · cases e
      exact h1

theorem sqlTerm_ok {p : Piece} {a b : Bool} (h : OpOK op) (e : sqlTerm op a b = .ok p) : PieceOK p := by
  unfold sqlTerm at e
  split at e
  · cases e; trivial
  · split at e
    · cases e; trivial
    · split at e
      · -- the only unquoted operand: a numeric or Boolean token, or `NULL`
        rename_i hnum
        cases e
        simp only [Bool.or_eq_true, decide_eq_true_eq] at hnum
        show numText op.sp = true
        rcases hnum with hc | hc
        · exact h (or_assoc.mp hc)
        · rw [hc]; decide
      · cases e

theorem ite_some_all {α} {P : α → Prop} {c : Prop} [Decidable c] {a : α} {r : Option α}
    (ha : P a) (hr : ∀ x, r = some x → P x) : ∀ x, (if c then some a else r) = some x → P x := by
  intro x e
  split at e
  · cases e; exact ha
  · exact hr x e

theorem dyadic_vocab {u infx : List Char} {la : Bool} (e : dyadic u = some (infx, la)) : infx ∈ vocab :=
  ite_some_all (P := fun x => x.1 ∈ vocab) (vocab_at 17) (ite_some_all (vocab_at 18) (ite_some_all (vocab_at 19)
    (ite_some_all (vocab_at 20) (ite_some_all (vocab_at 21) (ite_some_all (vocab_at 14) (ite_some_all (vocab_at 15)
    (fun _ h => by cases h))))))) _ e

def Ok {β} (P : β → Prop) (x : Except Err β) : Prop := ∀ b, x = .ok b → P b

theorem ok_error {β} {P : β → Prop} (e : Err) : Ok P (.error e) := fun _ h => nomatch h

theorem ok_ok {β} {P : β → Prop} {b : β} (h : P b) : Ok P (.ok b) := fun _ e => by cases e; exact h

/-- the step all generators are made of: run a part, stop on its error, go on with its result -/
theorem ok_bind {P Q : List Piece → Prop} {x : Except Err (List Piece)} {K : List Piece → Except Err (List Piece)}
    (hx : Ok P x) (hK : ∀ a, P a → Ok Q (K a)) :
    Ok Q (match (generalizing := false) x with | .error e => .error e | .ok a => K a) := by
  obtain _ | a := x
  · exact ok_error _
  · exact hK a (hx a rfl)

abbrev Good : R → Prop := Ok fun r => Chain r.1 ∧ ToksOK r.2

theorem good_ok {ps : List Piece} {ts : List Tok} (hp : Chain ps) (ht : ToksOK ts) : Good (.ok (ps, ts)) :=
  ok_ok ⟨hp, ht⟩

theorem good_bind {β} {Q : β → Prop} {x : R} {K : List Piece → List Tok → Except Err β} (hx : Good x)
    (hK : ∀ a ts, Chain a → ToksOK ts → Ok Q (K a ts)) :
    Ok Q (match (generalizing := false) x with | .error e => .error e | .ok (a, ts) => K a ts) := by
  obtain _ | ⟨a, ts⟩ := x
  · exact ok_error _
  · exact hK a ts (hx _ rfl).1 (hx _ rfl).2

theorem good_close {ps : List Piece} {ts : List Tok} (hp : Chain ps) (ht : ToksOK ts) :
    Good (match isNext ')' ts with | none => .error .paren | some ts => .ok (ps, ts)) := by
  split
  · exact ok_error _
  · exact good_ok hp (isNext_ok ht ‹_›)

theorem filter_good : ∀ fuel : Nat,
    (∀ toks, ToksOK toks → Good (filterClause fuel toks)) ∧
    (∀ term conj count toks, ToksOK toks → Chain term → conj ∈ vocab → Good (hasLoop fuel term conj count toks)) ∧
    (∀ infx la count term toks, ToksOK toks → Chain term → infx ∈ vocab →
      Good (termLoop fuel infx la count term toks)) := by
  intro fuel
  induction fuel with
  | zero => exact ⟨fun _ _ => ok_error _, fun _ _ _ _ _ _ _ => ok_error _, fun _ _ _ _ _ _ _ _ => ok_error _⟩
  | succ fuel ih =>
    obtain ⟨ihF, ihH, ihT⟩ := ih
    refine ⟨?_, ?_, ?_⟩
    · intro toks hok
      simp only [filterClause]
      split
      · exact ok_error _
      · rename_i op ts0 hpre
        have hp := prelude_ok hok hpre
        split
        · -- scalar operand
          split
          · exact good_ok (chain_single (sqlTerm_ok hp.1 ‹_›)) hp.2
          · exact ok_error _
        · have hts1 := isNext_ok hp.2 ‹_›
          split
          · -- CONTAINS / HAS family
            exact good_bind (ihF _ hts1) fun term ts hterm hts =>
              good_bind (ihH _ _ _ _ hts hterm (ite_vocab (vocab_at 14) (vocab_at 15))) fun ps ts hps hts =>
              good_close hps hts
          · split
            · -- NOT
              exact good_bind (ihF _ hts1) fun term ts hterm hts =>
                good_close (chain_kw (vocab_at 16) (chain_kw (vocab_at 6) hterm)) hts
            · -- dyadic operators
              split
              · exact ok_error _
              · exact good_bind (ihF _ hts1) fun term ts hterm hts =>
                  good_bind (ihT _ _ _ _ _ hts hterm (dyadic_vocab ‹_›)) fun ps ts hps hts =>
                  good_close (chain_kw (vocab_at 12) (chain_append hps (safe_kw (vocab_at 13) .nil))) hts
    · intro term conj count toks hok hterm hconj
      simp only [hasLoop]
      split
      · exact good_ok .nil hok
      · refine good_bind (ihF _ (isNext_ok hok ‹_›)) fun value ts hv hts =>
          good_bind (ihH _ _ _ _ hts hterm hconj) fun rest ts hr hts => good_ok ?_ hts
        have body := chain_kw (vocab_at 23) (chain_append hv
          (safe_kw (vocab_at 24) (chain_append hterm (safe_kw (vocab_at 25) hr))))
        split
        · exact chain_kw hconj body
        · exact body
    · intro infx la count term toks hok hterm hinfx
      simp only [termLoop]
      split
      · split
        · exact ok_error _
        · split
          · exact ok_error _
          · exact good_ok hterm hok
      · have hts1 := isNext_ok hok ‹_›
        split
        · exact good_bind (ihT _ _ _ _ _ (drop_ok 2 hts1) .nil hinfx) fun rest ts hr hts =>
            good_ok (chain_append hterm (safe_kw (vocab_at 22) hr)) hts
        · exact good_bind (ihF _ hts1) fun t2 ts ht2 hts =>
            good_bind (ihT _ _ _ _ _ hts ht2 hinfx) fun rest ts hr hts =>
            good_ok (chain_append hterm (safe_kw (vocab_at 6) (chain_kw hinfx (chain_kw (vocab_at 6) hr)))) hts

end EgoVerif.C14
