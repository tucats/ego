import EgoVerif.C14.Model
/-
C14 — the model of SQLite's tokenizer on plain text, numeric text, string literals and quoted identifiers; a chain
of well-formed pieces, no quoted piece followed by a quote, lexes to the skeleton of its pieces (`chain_structure`);
the lemmas by which the generators' texts are shown to be chains.
-/
namespace EgoVerif.C14

def plain (c : Char) : Bool := c != '-' && c != '/' && c != ';' && c != '\'' && c != '"'

theorem run_cons_plain {c : Char} (h : plain c = true) (xs : List Char) :
    run .norm (c :: xs) = .ch c :: run .norm xs := by
  simp [plain] at h
  simp [run, step, stepNorm, h]

theorem run_plain (s : List Char) (hs : ∀ c ∈ s, plain c = true) (rest : List Char) :
    run .norm (s ++ rest) = s.map .ch ++ run .norm rest := by
  induction s with
  | nil => rfl
  | cons c cs ih =>
    rw [List.cons_append, run_cons_plain (hs c List.mem_cons_self), ih fun d hd => hs d (List.mem_cons_of_mem _ hd)]
    rfl

theorem run_minus {d : Char} (hd : d ≠ '-') (xs : List Char) :
    run .norm ('-' :: d :: xs) = .ch '-' :: run .norm (d :: xs) := by
  simp [run, step, stepNorm, hd]

/-- the characters an Integer, Float or Boolean token of Ego's tokenizer may be spelled with -/
def numChar (c : Char) : Bool :=
  ('0' ≤ c && c ≤ '9') || ('a' ≤ c && c ≤ 'z') || ('A' ≤ c && c ≤ 'Z') || c = '.' || c = '_' || c = '+' || c = '-'

/-- numeric characters, placed so that no `--` comment opens within the text or across its end -/
def numText : List Char → Bool
  | [] => true
  | [c] => numChar c && c != '-'
  | c :: d :: s => numChar c && (c != '-' || d != '-') && numText (d :: s)

theorem plain_of_class {P : Char → Bool} (hP : ['-', '/', ';', '\'', '"'].all (fun d => !P d) = true) {c : Char}
    (hc : P c = true) : plain c = true := by
  have ne : ∀ d ∈ ['-', '/', ';', '\'', '"'], c ≠ d := fun d hd e => by
    have := List.all_eq_true.mp hP d hd
    rw [← e, hc] at this
    cases this
  simp [plain, ne]

theorem numChar_plain {c : Char} (h : numChar c = true) (hd : c ≠ '-') : plain c = true :=
  plain_of_class (P := fun c => numChar c && c != '-') (by decide) (by simp [h, hd])

theorem run_num : ∀ (s : List Char), numText s = true → ∀ rest, run .norm (s ++ rest) = s.map .ch ++ run .norm rest
  | [], _, _ => rfl
  | [c], h, rest => by
    simp [numText] at h
    exact run_cons_plain (numChar_plain h.1 h.2) rest
  | c :: d :: s, h, rest => by
    simp only [numText, Bool.and_eq_true, Bool.or_eq_true, bne_iff_ne, ne_eq] at h
    have ih := run_num (d :: s) h.2 rest
    by_cases hdash : c = '-'
    · subst hdash
      rw [List.cons_append, List.cons_append, run_minus (h.1.2.resolve_left (· rfl))]
      exact congrArg _ ih
    · rw [List.cons_append, run_cons_plain (numChar_plain h.1.1 hdash), ih]
      rfl

theorem digit_plain : ∀ k, k < 10 → plain (Char.ofNat (48 + k)) = true := by decide

theorem natDigits_plain (n : Nat) : ∀ c ∈ natDigits n, plain c = true := by
  induction n using Nat.strongRecOn with
  | _ n ih =>
    rw [natDigits]
    split
    · simpa using digit_plain n ‹_›
    · intro c hc
      rcases List.mem_append.mp hc with hc | hc
      · exact ih _ (by omega) c hc
      · rw [List.mem_singleton.mp hc]
        exact digit_plain _ (by omega)

theorem natDigits_ne_nil (n : Nat) : natDigits n ≠ [] := by
  rw [natDigits]
  split <;> simp

theorem isIdentChar_plain {c : Char} (h : isIdentChar c = true) : plain c = true := plain_of_class (by decide) h

/-- what may follow a quoted piece: a quote there would be read as a doubled one and continue the literal -/
def Follow (rest : List Char) : Prop := rest.head? ≠ some '\'' ∧ rest.head? ≠ some '"'

theorem follow_nil : Follow [] := by simp [Follow]

theorem run_str_body (v acc rest : List Char) :
    run (.str acc) (escS v ++ '\'' :: rest) = run (.strQ (acc ++ v)) rest := by
  induction v generalizing acc with
  | nil => simp [escS, run, step]
  | cons c cs ih => by_cases hc : c = '\'' <;> simp [escS, run, step, hc, ih]

theorem run_qid_body (v acc rest : List Char) :
    run (.qid acc) (escD v ++ '"' :: rest) = run (.qidQ (acc ++ v)) rest := by
  induction v generalizing acc with
  | nil => simp [escD, run, step]
  | cons c cs ih => by_cases hc : c = '"' <;> simp [escD, run, step, hc, ih]

theorem run_str (v rest : List Char) (h : Follow rest) :
    run .norm ((Piece.str v).text ++ rest) = .str v :: run .norm rest := by
  have hq : ∀ acc, run (.strQ acc) rest = .str acc :: run .norm rest := by
    cases rest <;> simp_all [Follow, run, step, flush]
  simp [Piece.text, run, step, stepNorm, run_str_body, hq]

theorem run_ident (v rest : List Char) (h : Follow rest) :
    run .norm ((Piece.ident v).text ++ rest) = .qid v :: run .norm rest := by
  have hq : ∀ acc, run (.qidQ acc) rest = .qid acc :: run .norm rest := by
    cases rest <;> simp_all [Follow, run, step, flush]
  simp [Piece.text, run, step, stepNorm, run_qid_body, hq]

/-- every literal the generators write themselves -/
def vocab : List (List Char) :=
  ["SELECT", "DELETE", "UPDATE", "UPDATE ", "INSERT", " INTO ", " ", "*", "FROM ", "WHERE ", ",", ".", "(", ")", " AND ", " OR ",
   " NOT ", "=", "<", "<=", ">", ">=", " IS NULL ", "POSITION(", " IN ", ") > 0", "ORDER BY ", " DESC", " LIMIT ",
   " OFFSET ", "SET ", " SET ", "=$", " = $", ", ", "$", ") VALUES (", "count(*)", "count(*) as count",
   "_row_id_", "SELECT * FROM ", " WHERE 1=0"].map String.toList

theorem vocab_plain : ∀ s ∈ vocab, s ≠ [] ∧ ∀ c ∈ s, plain c = true := by
  have h : vocab.all (fun s => !s.isEmpty && s.all plain) = true := by decide +kernel
  intro s hs
  have := List.all_eq_true.mp h s hs
  simp only [Bool.and_eq_true, Bool.not_eq_true', List.isEmpty_eq_false_iff, List.all_eq_true] at this
  exact this

/-- membership by position: `vocab_at i : s ∈ vocab` asks the type checker to walk to entry `i` and find the literal
`s` there as it is written.  Deciding `s ∈ vocab` instead runs `String.toList` on every entry up to `s`, which is
slow to check at each of the many places a keyword is written. -/
theorem vocab_at {s : List Char} (i : Nat) (h : vocab[i]? = some s := by rfl) : s ∈ vocab := List.mem_of_getElem? h

theorem ite_vocab {c : Prop} [Decidable c] {a b : List Char} (ha : a ∈ vocab) (hb : b ∈ vocab) :
    (if c then a else b) ∈ vocab := by
  split <;> assumption

def PieceOK : Piece → Prop
  | .kw s => s ∈ vocab
  | .num s => numText s = true
  | .bare s => s ≠ [] ∧ ∀ c ∈ s, isIdentChar c = true
  | _ => True

def Piece.quoted : Piece → Bool
  | .str _ => true
  | .ident _ => true
  | _ => false

theorem render_append (a b : List Piece) : render (a ++ b) = render a ++ render b := by
  induction a with
  | nil => rfl
  | cons p ps ih => simp [render, ih]

theorem pieceToks_append (a b : List Piece) : pieceToks (a ++ b) = pieceToks a ++ pieceToks b := by
  induction a with
  | nil => rfl
  | cons p ps ih => simp [pieceToks, ih]

def NoQuoteStart (ps : List Piece) : Prop := ∀ rest, Follow rest → Follow (render ps ++ rest)

inductive Chain : List Piece → Prop
  | nil : Chain []
  | cons {p : Piece} {ps : List Piece} : PieceOK p → Chain ps → (p.quoted = true → NoQuoteStart ps) → Chain (p :: ps)

theorem piece_lex (p : Piece) (hp : PieceOK p) (rest : List Char) (hf : p.quoted = true → Follow rest) :
    run .norm (p.text ++ rest) = p.toks ++ run .norm rest := by
  cases p with
  | kw s => exact run_plain s (vocab_plain s hp).2 rest
  | nat n => exact run_plain _ (natDigits_plain n) rest
  | int i =>
    cases i with
    | ofNat n => exact run_plain _ (natDigits_plain n) rest
    | negSucc n =>
      have hpl := natDigits_plain (n + 1)
      cases hd : natDigits (n + 1) with
      | nil => exact absurd hd (natDigits_ne_nil _)
      | cons d ds =>
        rw [hd] at hpl
        have hdd : d ≠ '-' := by intro e; subst e; exact absurd (hpl _ List.mem_cons_self) (by decide)
        simp only [Piece.text, Piece.toks, intDigits, hd, List.cons_append, List.map_cons]
        rw [run_minus hdd]
        exact congrArg _ (run_plain (d :: ds) hpl rest)
  | num s => exact run_num s hp rest
  | bare s => exact run_plain s (fun c hc => isIdentChar_plain (hp.2 c hc)) rest
  | str v => exact run_str v rest (hf rfl)
  | ident v => exact run_ident v rest (hf rfl)

theorem chain_lex (ps : List Piece) (h : Chain ps) :
    ∀ rest, Follow rest → run .norm (render ps ++ rest) = pieceToks ps ++ run .norm rest := by
  induction h with
  | nil => intro rest _; rfl
  | cons hp _ hq ih =>
    intro rest hf
    simp only [render, pieceToks, List.append_assoc]
    rw [piece_lex _ hp _ fun hquo => hq hquo rest hf, ih rest hf]

theorem chain_all {ps : List Piece} (h : Chain ps) : ∀ p ∈ ps, PieceOK p := by
  induction h with
  | nil => exact fun _ hp => nomatch hp
  | cons hp _ _ ih => exact List.forall_mem_cons.mpr ⟨hp, ih⟩

theorem chain_structure {ps : List Piece} (h : Chain ps) :
    sqlLex (render ps) = pieceToks ps ∧ ∀ p ∈ ps, PieceOK p := by
  refine ⟨?_, chain_all h⟩
  have := chain_lex ps h [] follow_nil
  simpa [sqlLex, run, flush] using this

theorem nqs_nil : NoQuoteStart [] := fun _ h => h

theorem nqs_kw {s : List Char} {ps : List Piece} (h : s ∈ vocab) : NoQuoteStart (.kw s :: ps) := by
  obtain ⟨hne, hpl⟩ := vocab_plain s h
  intro rest _
  cases s with
  | nil => exact absurd rfl hne
  | cons c cs =>
    have := hpl c List.mem_cons_self
    simp [plain] at this
    simp [render, Piece.text, Follow, this]

theorem nqs_append {a b : List Piece} (ha : NoQuoteStart a) (hb : NoQuoteStart b) : NoQuoteStart (a ++ b) := by
  intro rest hf
  rw [render_append, List.append_assoc]
  exact ha _ (hb rest hf)

/-- a chain that may be written after any other: the shape of what every builder appends -/
def Safe (ps : List Piece) : Prop := Chain ps ∧ NoQuoteStart ps

theorem safe_nil : Safe [] := ⟨.nil, nqs_nil⟩

theorem chain_kw {s : List Char} {ps : List Piece} (h : s ∈ vocab) (hc : Chain ps) : Chain (.kw s :: ps) :=
  .cons h hc fun hq => nomatch hq

theorem safe_kw {s : List Char} {ps : List Piece} (h : s ∈ vocab) (hc : Chain ps) : Safe (.kw s :: ps) :=
  ⟨chain_kw h hc, nqs_kw h⟩

theorem chain_unq {p : Piece} {ps : List Piece} (hp : PieceOK p) (hq : p.quoted = false) (hc : Chain ps) :
    Chain (p :: ps) := .cons hp hc (by simp [hq])

theorem chain_ident {v : List Char} {ps : List Piece} (hs : Safe ps) : Chain (.ident v :: ps) :=
  .cons trivial hs.1 fun _ => hs.2

theorem chain_single {p : Piece} (hp : PieceOK p) : Chain [p] := .cons hp .nil fun _ => nqs_nil

theorem chain_append {a b : List Piece} (ha : Chain a) (hb : Safe b) : Chain (a ++ b) := by
  induction ha with
  | nil => exact hb.1
  | cons hp _ hq ih => exact .cons hp ih fun h => nqs_append (hq h) hb.2

theorem safe_append {a b : List Piece} (ha : Safe a) (hb : Safe b) : Safe (a ++ b) :=
  ⟨chain_append ha.1 hb, nqs_append ha.2 hb.2⟩

end EgoVerif.C14
