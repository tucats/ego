import EgoVerif.C36.Model
/-
C36 — crash safety of rewriteFile.

The checkers of the model run an abstract interpreter over an operation list.  Here the interpreter is
shown sound for the relation `R` between abstract and concrete file systems, so that a list the checkers
accept is crash safe (`C36_*_of_check`, used on the list extracted from the source); for the lists of the
model the checkers are evaluated.
-/
namespace EgoVerif.C36

/-- concretisation of an abstract value -/
def γ (orig new : Bytes) : AV → Option Bytes → Prop
  | .absent, v => v = none
  | .orig, v => v = some orig
  | .new, v => v = some new
  | .empty, v => v = some []
  | .any, _ => True

def R (orig new : Bytes) (a : AFS) (fs : FS) : Prop := ∀ n, γ orig new (a n) (fs n)

theorem γ_any (orig new : Bytes) (v : Option Bytes) : γ orig new .any v := trivial

section soundness
variable {orig new : Bytes} {a : AFS} {fs : FS}

theorem R_at (h : R orig new a fs) {n : Name} {av : AV} (e : a n = av) : γ orig new av (fs n) := e ▸ h n

theorem R_set (h : R orig new a fs) (n : Name) {av : AV} {v : Option Bytes} (hv : γ orig new av v) :
    R orig new (a.set n av) (fs.set n v) := by
  intro m
  unfold AFS.set FS.set
  split
  · exact hv
  · exact h m

theorem γ_some_ne {av : AV} {c : Bytes} (h : γ orig new av (some c)) : av ≠ .absent := by
  rintro rfl
  cases h

theorem γ_some {av : AV} {v : Option Bytes} (h : γ orig new av v) (h1 : av ≠ .absent) (h2 : av ≠ .any) :
    ∃ c, v = some c := by
  cases av
  · exact absurd rfl h1
  · exact ⟨_, h⟩
  · exact ⟨_, h⟩
  · exact ⟨_, h⟩
  · exact absurd rfl h2

theorem aexec_rename (a : AFS) (x y : Name) (hx : a x ≠ .absent) :
    aexec a (.rename x y) = if x = y then some a else some ((a.set y (a x)).set x .absent) := by
  -- the equation of `aexec` for this case asks for `a x ≠ .absent` and finds `hx` among the hypotheses
  simp only [aexec]

theorem aexec_sound (h : R orig new a fs) {op : Op} {fs' : FS} (he : exec new fs op = some fs') :
    ∃ a', aexec a op = some a' ∧ R orig new a' fs' := by
  cases op with
  | createExcl n =>
    have hn := h n
    simp only [exec] at he
    split at he
    · cases he
    · next hf =>
      cases he
      rw [hf] at hn
      simp only [aexec]
      -- the name was free: its abstract value is `absent` or `any`
      split
      · exact ⟨_, rfl, R_set h n rfl⟩
      · exact ⟨_, rfl, R_set h n rfl⟩
      · next h1 h2 =>
        obtain ⟨c, hc⟩ := γ_some hn h1 h2
        cases hc
  | write n =>
    have hn := h n
    simp only [exec] at he
    split at he
    · next c hf =>
      cases he
      rw [hf] at hn
      simp only [aexec]
      split
      · next ha => exact absurd ha (γ_some_ne hn)
      · next ha =>
        rw [ha] at hn
        cases hn
        exact ⟨_, rfl, R_set h n rfl⟩
      · exact ⟨_, rfl, R_set h n trivial⟩
    · cases he
  | rename x y =>
    have hx := h x
    simp only [exec] at he
    split at he
    · cases he
    · next c hf =>
      rw [hf] at hx
      rw [aexec_rename a x y (γ_some_ne hx)]
      split at he
      · next hxy => cases he; exact ⟨a, if_pos hxy, h⟩
      · next hxy => cases he; exact ⟨_, if_neg hxy, R_set (R_set h y hx) x rfl⟩
  | createTrunc n | remove n => cases he; exact ⟨_, rfl, R_set h n rfl⟩
  | close n | sync n | stat n | chmod n => cases he; exact ⟨_, rfl, h⟩

theorem amust_sound (h : R orig new a fs) {op : Op} (hm : amust a op = true) : ∃ fs', exec new fs op = some fs' := by
  cases op with
  | createExcl n =>
    simp only [amust, beq_iff_eq] at hm
    rw [exec, show fs n = none from R_at h hm]
    exact ⟨_, rfl⟩
  | write n =>
    simp only [amust, Bool.and_eq_true, bne_iff_ne, ne_eq] at hm
    obtain ⟨c, hc⟩ := γ_some (h n) hm.1 hm.2
    rw [exec, hc]
    exact ⟨_, rfl⟩
  | rename x y =>
    simp only [amust, Bool.and_eq_true, bne_iff_ne, ne_eq] at hm
    obtain ⟨c, hc⟩ := γ_some (h x) hm.1 hm.2
    simp only [exec, hc]
    split <;> exact ⟨_, rfl⟩
  | createTrunc n | close n | sync n | stat n | chmod n | remove n => exact ⟨_, rfl⟩

theorem arunMust_sound {ops : List Op} {a' : AFS} (h : R orig new a fs) (hr : arunMust a ops = some a') :
    ∃ s, run new fs ops = some s ∧ R orig new a' s := by
  induction ops generalizing a fs with
  | nil => cases hr; exact ⟨fs, rfl, h⟩
  | cons op ops ih =>
    simp only [arunMust] at hr
    split at hr
    · next hm =>
      obtain ⟨fs', he⟩ := amust_sound h hm
      obtain ⟨a1, ha1, hr1⟩ := aexec_sound h he
      rw [ha1] at hr
      obtain ⟨s, hs, hrs⟩ := ih hr1 hr
      exact ⟨s, by simp [run, he, hs], hrs⟩
    · cases hr

theorem acrash_sound {ops : List Op} {s : FS} (h : R orig new a fs) (hs : Crash new fs ops s) :
    ∃ a' ∈ acrash a ops, R orig new a' s := by
  induction ops generalizing a fs with
  | nil =>
    cases hs
    exact ⟨a, by simp [acrash], h⟩
  | cons op ops ih =>
    rcases hs with hs | ⟨n, c, j, hop, hc, hs⟩ | ⟨fs', he, hs⟩
    · subst hs
      exact ⟨a, by simp [acrash], h⟩
    · subst hs hop
      exact ⟨a.set n .any, by simp [acrash], R_set h n trivial⟩
    · obtain ⟨a1, ha1, hr1⟩ := aexec_sound h he
      obtain ⟨a', ha', hr⟩ := ih hr1 hs
      exact ⟨a', by simp [acrash, ha1, ha'], hr⟩

theorem isClean_sound {s : FS} (h : R orig new a s) (hc : isClean a = true) :
    s .target = some new ∧ s .tmp = none ∧ s .bak = none := by
  simp only [isClean, Bool.and_eq_true, beq_iff_eq] at hc
  obtain ⟨⟨h1, h2⟩, h3⟩ := hc
  exact ⟨R_at h h1, R_at h h2, R_at h h3⟩

theorem cleanAfter_sound {ops : List Op} (h : R orig new a fs) (hc : cleanAfter a ops = true) :
    ∃ s, run new fs ops = some s ∧ s .target = some new ∧ s .tmp = none ∧ s .bak = none := by
  unfold cleanAfter at hc
  split at hc
  · cases hc
  · next a' ha =>
    obtain ⟨s, hs, hr⟩ := arunMust_sound h ha
    exact ⟨s, hs, isClean_sound hr hc⟩

end soundness

theorem crash_prefix {new : Bytes} {ops : List Op} {fs s : FS} (k : Nat)
    (h : run new fs (ops.take k) = some s) : Crash new fs ops s := by
  induction ops generalizing fs k with
  | nil =>
    rw [List.take_nil] at h
    cases h
    rfl
  | cons op ops ih =>
    cases k with
    | zero =>
      cases h
      exact .inl rfl
    | succ k =>
      simp only [List.take_succ_cons, run] at h
      split at h
      · cases h
      · next fs' he => exact Or.inr (Or.inr ⟨fs', he, ih k h⟩)

theorem R_aAny {orig : Bytes} (new : Bytes) {fs : FS} (h : fs .target = some orig) : R orig new aAny fs
  | .target => h
  | .tmp => trivial
  | .bak => trivial

theorem R_aNoBak {orig : Bytes} (new : Bytes) {fs : FS} (h : fs .target = some orig) (hb : fs .bak = none) :
    R orig new aNoBak fs
  | .target => h
  | .tmp => trivial
  | .bak => hb

theorem R_aFresh {orig : Bytes} (new : Bytes) {fs : FS} (h : fs .target = some orig) (ht : fs .tmp = none)
    (hb : fs .bak = none) : R orig new aFresh fs
  | .target => h
  | .tmp => ht
  | .bak => hb

/-- **C36 (atomic), for any operation list that passes the check.**  Whatever the original and the new
content are, and whatever stale temporary/backup file exists, at every point where the process can
stop the target path holds the complete original or the complete new content. -/
theorem C36_atomic_of_check (ops : List Op) (hc : checkAtomic ops = true) (orig new : Bytes) (fs : FS)
    (h : fs .target = some orig) (s : FS) (hs : Crash new fs ops s) :
    s .target = some orig ∨ s .target = some new := by
  obtain ⟨a', ha', hr⟩ := acrash_sound (R_aAny new h) hs
  have hok := List.all_eq_true.1 hc a' ha'
  simp only [targetOK, Bool.or_eq_true, beq_iff_eq] at hok
  exact hok.imp (R_at hr) (R_at hr)

/-- **C36 (clean), for any operation list that passes the check.**  A complete run succeeds and leaves
the new content at the path and neither a temporary nor a backup file (a stale temporary file is consumed). -/
theorem C36_clean_of_check (ops : List Op) (hc : checkClean ops = true) (orig new : Bytes) (fs : FS)
    (h : fs .target = some orig) (hb : fs .bak = none) :
    ∃ s, run new fs ops = some s ∧ s .target = some new ∧ s .tmp = none ∧ s .bak = none :=
  cleanAfter_sound (R_aNoBak new h hb) hc

/-- **C36 (later run), for any operation list that passes the check.**  Start with only the original
file, the new content differing from it; stop a first run anywhere.  Then a later complete run succeeds and
leaves exactly the new file, and if the path already held the new content nothing else was left behind. -/
theorem C36_rerun_of_check (ops : List Op) (hc : checkRerun ops = true) (orig new : Bytes) (hne : orig ≠ new)
    (fs : FS) (h : fs .target = some orig) (ht : fs .tmp = none) (hb : fs .bak = none)
    (s : FS) (hs : Crash new fs ops s) :
    (∃ s2, run new s ops = some s2 ∧ s2 .target = some new ∧ s2 .tmp = none ∧ s2 .bak = none) ∧
    (s .target = some new → s .tmp = none ∧ s .bak = none) := by
  obtain ⟨a', ha', hr⟩ := acrash_sound (R_aFresh new h ht hb) hs
  have hok := List.all_eq_true.1 hc a' ha'
  simp only [Bool.and_eq_true, Bool.or_eq_true, beq_iff_eq] at hok
  obtain ⟨h1, h2⟩ := hok
  refine ⟨cleanAfter_sound hr h1, fun hnew => ?_⟩
  rcases h2 with h2 | ⟨h2, h3⟩
  · exact absurd (Option.some.inj ((R_at hr h2).symm.trans hnew)) hne
  · exact ⟨R_at hr h2, R_at hr h3⟩

/-! ### the fixed code -/

theorem C36_atomic (orig new : Bytes) (fs : FS) (h : fs .target = some orig) (s : FS)
    (hs : Crash new fs steps s) : s .target = some orig ∨ s .target = some new :=
  C36_atomic_of_check steps (by decide) orig new fs h s hs

/-- in particular after every prefix of the operations -/
theorem C36_atomic_prefix (orig new : Bytes) (fs s : FS) (h : fs .target = some orig) (k : Nat)
    (hk : run new fs (steps.take k) = some s) : s .target = some orig ∨ s .target = some new :=
  C36_atomic orig new fs h s (crash_prefix k hk)

theorem C36_clean (orig new : Bytes) (fs : FS) (h : fs .target = some orig) (hb : fs .bak = none) :
    ∃ s, run new fs steps = some s ∧ s .target = some new ∧ s .tmp = none ∧ s .bak = none :=
  C36_clean_of_check steps (by decide) orig new fs h hb

theorem C36_later_run_clean (orig new : Bytes) (hne : orig ≠ new) (fs : FS) (h : fs .target = some orig)
    (ht : fs .tmp = none) (hb : fs .bak = none) (s : FS) (hs : Crash new fs steps s) :
    (∃ s2, run new s steps = some s2 ∧ s2 .target = some new ∧ s2 .tmp = none ∧ s2 .bak = none) ∧
    (s .target = some new → s .tmp = none ∧ s .bak = none) :=
  C36_rerun_of_check steps (by decide) orig new hne fs h ht hb s hs

/-! ### the code before the fix -/

/-- **counterexample**: with the rename-aside sequence the path does not exist after the 6th
operation (`Rename(path, bak)`), for every original and new content. -/
theorem C36_old_counterexample (orig new : Bytes) (fs : FS) (h : fs .target = some orig) (ht : fs .tmp = none) :
    ∃ s, Crash new fs oldSteps s ∧ s .target = none := by
  have hr : run new fs (oldSteps.take 6) =
      some ((((fs.set .tmp (some [])).set .tmp (some ([] ++ new))).set .bak (some orig)).set .target none) := by
    simp [oldSteps, run, exec, FS.set, ht, h]
  exact ⟨_, crash_prefix 6 hr, by simp [FS.set]⟩

/-- the checker rejects the old sequence (so the obligation generated from the unpatched source fails) -/
theorem C36_old_rejected : checkAtomic oldSteps = false := by decide

/-- a CreateTemp variant with a single rename is accepted as atomic (the checker is not tied to one fix) -/
example : checkAtomic [.createExcl .tmp, .write .tmp, .close .tmp, .stat .target, .chmod .tmp, .rename .tmp .target] = true := by
  decide

/-- non-vacuity: a concrete run of the fixed code from a directory with a stale temporary file -/
example : ((run [3] (fun n => match n with | .target => some [1, 2] | .tmp => some [9] | .bak => none) steps).map
    fun s => (s .target, s .tmp)) = some (some [3], none) := by decide

example : ∃ s, Crash [3] (fun n => match n with | .target => some [1] | _ => none) steps s ∧ s .tmp = some [] :=
  ⟨_, crash_prefix 1 rfl, by decide⟩

end EgoVerif.C36
