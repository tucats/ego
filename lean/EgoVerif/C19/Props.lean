import EgoVerif.C19.Model
/-
C19 — JSONMinify keeps exactly the tokens of the handler's JSON.  Lexically a JSON text is a sequence of
tokens separated by optional whitespace, where a token is either a string literal  `"` item* `"`  (an item is
a character other than `"` and `\`, or a backslash followed by ANY character) or a single non-space character
that is not a quote or a backslash (punctuation, and the characters of numbers / true / false / null).
`renderGaps` writes such a token list with arbitrary whitespace gaps (what MarshalIndent produces);
`renderTight` writes it with none (what Marshal produces).  The last section is about `WriteMaybeCompressed`:
whatever it decides, the client decodes the payload to the body.
-/
namespace EgoVerif.C19

inductive SItem where
  | plain (c : Char)
  | esc (c : Char)
  deriving Repr

def SItem.ok : SItem → Bool
  | .plain c => c != '"' && c != '\\'
  | .esc _ => true

def SItem.chars : SItem → List Char
  | .plain c => [c]
  | .esc c => ['\\', c]

inductive Tok where
  | str (items : List SItem)
  | atom (c : Char)
  deriving Repr

def Tok.ok : Tok → Bool
  | .str items => items.all SItem.ok
  | .atom c => !isSpace c && c != '"' && c != '\\'

def bodyChars (items : List SItem) : List Char := items.flatMap SItem.chars

def Tok.chars : Tok → List Char
  | .str items => '"' :: (bodyChars items ++ ['"'])
  | .atom c => [c]

def renderTight (toks : List Tok) : List Char := toks.flatMap Tok.chars

def renderGaps (toks : List (List Char × Tok)) (trail : List Char) : List Char :=
  toks.flatMap (fun p => p.1 ++ p.2.chars) ++ trail

def gapsOk (toks : List (List Char × Tok)) (trail : List Char) : Bool :=
  toks.all (fun p => p.1.all isSpace && p.2.ok) && trail.all isSpace

theorem run_cons (s : St) (c : Char) (cs : List Char) :
    run s (c :: cs) = (step s c).2 ++ run (step s c).1 cs := rfl

theorem run_append (s : St) (a b : List Char) :
    run s (a ++ b) = run s a ++ run (a.foldl (fun st c => (step st c).1) s) b := by
  induction a generalizing s with
  | nil => rfl
  | cons c cs ih => simp only [List.cons_append, run_cons, ih, List.foldl_cons, List.append_assoc]

theorem isSpace_quote : isSpace '"' = false := by decide
theorem isSpace_bslash : isSpace '\\' = false := by decide

theorem run_gap (g rest : List Char) (hg : g.all isSpace = true) :
    run ⟨false, false⟩ (g ++ rest) = run ⟨false, false⟩ rest := by
  induction g with
  | nil => rfl
  | cons c cs ih =>
    simp only [List.all_cons, Bool.and_eq_true] at hg
    have hq : c ≠ '"' := by rintro rfl; simp [isSpace_quote] at hg
    simp [run_cons, step, hq, hg.1, ih hg.2]

theorem run_flatMap {α : Type} (s : St) (f g : α → List Char) (l : List α)
    (h : ∀ a ∈ l, ∀ rest, run s (f a ++ rest) = g a ++ run s rest) (rest : List Char) :
    run s (l.flatMap f ++ rest) = l.flatMap g ++ run s rest := by
  induction l with
  | nil => rfl
  | cons a l ih =>
    rw [List.flatMap_cons, List.append_assoc, h a List.mem_cons_self,
      ih fun b hb => h b (List.mem_cons_of_mem a hb), List.flatMap_cons, List.append_assoc]

theorem run_item (it : SItem) (rest : List Char) (h : it.ok = true) :
    run ⟨true, false⟩ (it.chars ++ rest) = it.chars ++ run ⟨true, false⟩ rest := by
  cases it with
  | plain c =>
    simp only [SItem.ok, Bool.and_eq_true, bne_iff_ne] at h
    simp [SItem.chars, run_cons, step, h.1, beq_eq_false_iff_ne.2 h.2]
  | esc c => simp [SItem.chars, run_cons, step]

theorem run_body (items : List SItem) (rest : List Char) (h : items.all SItem.ok = true) :
    run ⟨true, false⟩ (bodyChars items ++ rest) = bodyChars items ++ run ⟨true, false⟩ rest :=
  run_flatMap _ _ _ items (fun it hit rest => run_item it rest (List.all_eq_true.1 h it hit)) rest

theorem run_tok (t : Tok) (rest : List Char) (h : t.ok = true) :
    run ⟨false, false⟩ (t.chars ++ rest) = t.chars ++ run ⟨false, false⟩ rest := by
  cases t with
  | atom c =>
    simp only [Tok.ok, Bool.and_eq_true, Bool.not_eq_true', bne_iff_ne] at h
    simp [Tok.chars, run_cons, step, h.1.1, h.1.2, beq_eq_false_iff_ne.2 h.2]
  | str items => simp [Tok.chars, run_cons, step, run_body items _ h]

theorem minify_tight (toks : List Tok) (h : toks.all Tok.ok = true) :
    minify (renderTight toks) = renderTight toks := by
  have := run_flatMap ⟨false, false⟩ _ Tok.chars toks
    (fun t ht rest => run_tok t rest (List.all_eq_true.1 h t ht)) []
  simpa [minify, renderTight, run] using this

/-- **C19 (full strength, token level).** Minifying any whitespace-padded rendering of a
token list yields exactly the unpadded rendering. -/
theorem C19_minify_tokens (toks : List (List Char × Tok)) (trail : List Char)
    (h : gapsOk toks trail = true) :
    minify (renderGaps toks trail) = renderTight (toks.map Prod.snd) := by
  simp only [gapsOk, Bool.and_eq_true] at h
  -- outside a string a gap is skipped and the token after it is copied
  have hstep : ∀ p ∈ toks, ∀ rest,
      run ⟨false, false⟩ ((p.1 ++ p.2.chars) ++ rest) = p.2.chars ++ run ⟨false, false⟩ rest := by
    intro p hp rest
    have hp' := List.all_eq_true.1 h.1 p hp
    rw [Bool.and_eq_true] at hp'
    rw [List.append_assoc, run_gap _ _ hp'.1, run_tok _ _ hp'.2]
  unfold minify renderGaps renderTight
  rw [run_flatMap _ _ _ toks hstep, List.flatMap_map]
  simpa [run] using run_gap trail [] h.2

/-- String contents are never altered: a string token survives verbatim wherever it is. -/
theorem C19_string_verbatim (pre post : List (List Char × Tok)) (g trail : List Char)
    (items : List SItem)
    (h : gapsOk (pre ++ (g, Tok.str items) :: post) trail = true) :
    ∃ a b, minify (renderGaps (pre ++ (g, Tok.str items) :: post) trail)
        = a ++ ('"' :: (bodyChars items ++ ['"'])) ++ b := by
  refine ⟨renderTight (pre.map Prod.snd), renderTight (post.map Prod.snd), ?_⟩
  rw [C19_minify_tokens _ _ h]
  simp [renderTight, Tok.chars]

/-- Minification is idempotent on JSON texts. -/
theorem C19_idempotent (toks : List (List Char × Tok)) (trail : List Char)
    (h : gapsOk toks trail = true) :
    minify (minify (renderGaps toks trail)) = minify (renderGaps toks trail) := by
  rw [C19_minify_tokens _ _ h]
  apply minify_tight
  simp only [gapsOk, Bool.and_eq_true, List.all_eq_true] at h
  rw [List.all_map, List.all_eq_true]
  exact fun p hp => (h.1 p hp).2

/-! The input `{"a": "x\\", "b": "y z"}`, on which the code before the repair failed, meets the
hypotheses and is minified correctly by the model of the repaired code. -/
def exToks : List (List Char × Tok) :=
  [([], .atom '{'), ([], .str [.plain 'a']), ([], .atom ':'),
   ([' '], .str [.plain 'x', .esc '\\']), ([], .atom ','),
   ([' '], .str [.plain 'b']), ([], .atom ':'), ([' '], .str [.plain 'y', .plain ' ', .plain 'z']),
   (['\n'], .atom '}')]

example : gapsOk exToks ['\n'] = true := by decide
example : String.ofList (minify (renderGaps exToks ['\n'])) = "{\"a\":\"x\\\\\",\"b\":\"y z\"}" := by decide

/-! ### `WriteMaybeCompressed` -/

/-- **C19 (compression is transparent).** Whatever the threshold, the Accept-Encoding verdict
and the body, the client recovers exactly the body. -/
theorem C19_compress_transparent (gz : Gz) (threshold : Nat) (accepts : Bool) (body : List UInt8) :
    clientDecode gz (respond gz threshold accepts body) = some body := by
  unfold respond clientDecode
  cases h : gz.gzip body with
  | none => simp
  | some c =>
    by_cases hd : compressDecision threshold accepts body.length (some c.length) = true
    · simp [hd, gz.inv body c h]
    · simp [hd]

/-- a compressed body is only ever sent to a client that accepts gzip, and only when it is smaller -/
theorem C19_compress_only_if_accepted (threshold : Nat) (accepts : Bool) (n : Nat) (g : Option Nat)
    (h : compressDecision threshold accepts n g = true) :
    accepts = true ∧ threshold > 0 ∧ n ≥ threshold ∧ ∃ k, g = some k ∧ k < n := by
  cases g with
  | none => simp [compressDecision] at h
  | some k =>
    simp [compressDecision] at h
    exact ⟨h.1.2, h.1.1.1, h.1.1.2, k, rfl, h.2⟩

end EgoVerif.C19
