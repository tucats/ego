import EgoVerif.C39.Model
/-
C39 — property theorems (all about `fixed = true`, i.e. the code with fixes/C39.patch, except
the `C39_orig_*` counterexamples which exhibit the defects of the code before the patch).
The parser and, for sizes below 2^48, the range reader never reach a `Res.panic`: each equals `.ok` of a pure
function (`parseHeader_eq`, `parseRange_eq`, `readAssetRange_eq`).  `handle_eq` and `handle_ranged` write the
handler in terms of these, and the properties are read off that form.
-/
namespace EgoVerif.C39

theorem wrap64_id (x : Int) (h0 : -9223372036854775808 ≤ x) (h1 : x ≤ 9223372036854775807) : wrap64 x = x := by
  unfold wrap64 two63 two64
  omega

/-- what the (patched) parser computes, as a pure function -/
def parseSpec (h : Bytes) : Except Nat Parsed :=
  match splitOn dash (removeAll bytesEq h) with
  | r0 :: r1 :: _ =>
    match parseInt r0 with
    | none => .error 400
    | some s =>
      if r1.isEmpty then .ok ⟨s, endOfData, true⟩
      else match parseInt r1 with
        | none => .error 400
        | some e => .ok ⟨s, e, true⟩
  | _ => .error 400

theorem parseHeader_eq (h : Bytes) : parseHeader true h = .ok (parseSpec h) := by
  unfold parseHeader parseSpec
  dsimp only
  generalize splitOn dash (removeAll bytesEq h) = ranges
  rcases ranges with _ | ⟨r0, _ | ⟨r1, rest⟩⟩
  · rfl
  · rfl
  · -- two pieces or more: the length test passes and both index operations succeed
    have h2 : ¬ (r0 :: r1 :: rest).length < 2 := Nat.not_lt.2 (Nat.le_add_left 2 _)
    have h1 : (r0 :: r1 :: rest).length > 1 := Nat.le_add_left 2 _
    simp only [Bool.true_and, decide_eq_true_eq, if_neg h2, if_pos h1, goIndex, List.getElem?_cons_zero, List.getElem?_cons_succ,
      bind, pure]
    cases parseInt r0 with
    | none => rfl
    | some s =>
      cases r1 with
      | nil => rfl
      | cons c cs => cases parseInt (c :: cs) <;> rfl

def parseRangeSpec (hdr : Option Bytes) : Except Nat Parsed :=
  match (match hdr with
    | none => (.ok ⟨startOfData, endOfData, false⟩ : Except Nat Parsed)
    | some h => parseSpec h) with
  | .error s => .error s
  | .ok p => if p.start < 0 || (p.stop != endOfData && p.stop < p.start) then .error 400 else .ok p

theorem parseRange_eq (hdr : Option Bytes) : parseRange true hdr = .ok (parseRangeSpec hdr) := by
  unfold parseRange parseRangeSpec
  cases hdr with
  | none => simp [bind, pure, startOfData, endOfData, maxInt64]
  | some h =>
    simp only [parseHeader_eq, bind, pure]
    cases parseSpec h with
    | error s => rfl
    | ok p => by_cases hc : (p.start < 0 || (p.stop != endOfData && p.stop < p.start)) = true <;> simp [hc]

theorem parseInt_le (s : Bytes) (v : Int) (h : parseInt s = some v) : v ≤ maxInt64 := by
  unfold parseInt at h
  unfold maxInt64
  split at h
  · cases h
  · simp only at h
    split at h
    · cases h
    · split at h
      · cases h
      · split at h <;> split at h <;> cases h <;> omega

theorem parseSpec_cases (h : Bytes) :
    parseSpec h = .error 400 ∨
    ∃ p, parseSpec h = .ok p ∧ p.hasRange = true ∧ p.start ≤ maxInt64 ∧ p.stop ≤ maxInt64 := by
  unfold parseSpec
  split
  · rename_i r0 r1 _ _
    cases h0 : parseInt r0 with
    | none => exact .inl rfl
    | some s =>
      have hs := parseInt_le _ _ h0
      dsimp only
      split
      · exact .inr ⟨_, rfl, rfl, hs, Int.le_refl _⟩
      · cases h1 : parseInt r1 with
        | none => exact .inl rfl
        | some e => exact .inr ⟨_, rfl, rfl, hs, parseInt_le _ _ h1⟩
  · exact .inl rfl

theorem parseRangeSpec_cases (hdr : Option Bytes) :
    parseRangeSpec hdr = .error 400 ∨
    ∃ p, parseRangeSpec hdr = .ok p ∧ 0 ≤ p.start ∧ p.start ≤ p.stop ∧ p.stop ≤ maxInt64 ∧
      (p.hasRange = true ∨ p = ⟨startOfData, endOfData, false⟩) := by
  unfold parseRangeSpec
  cases hdr with
  | none => exact .inr ⟨_, rfl, Int.le_refl _, by decide, Int.le_refl _, .inr rfl⟩
  | some h =>
    dsimp only
    rcases parseSpec_cases h with he | ⟨q, hq, hr, hs, hem⟩
    · rw [he]; exact .inl rfl
    rw [hq]
    dsimp only
    split
    · exact .inl rfl
    · rename_i hc
      simp only [Bool.or_eq_true, decide_eq_true_eq, Bool.and_eq_true, bne_iff_ne, ne_eq, not_or, not_and,
        Int.not_lt] at hc
      refine .inr ⟨q, rfl, hc.1, ?_, hem, .inl hr⟩
      -- an open end is the largest int64; an explicit one passed the check against `start`
      by_cases hend : q.stop = endOfData
      · rw [hend]; exact hs
      · exact hc.2 hend

theorem parseRangeSpec_of_parseSpec (h : Bytes) (p : Parsed) (hp : parseSpec h = .ok p) (h0 : 0 ≤ p.start)
    (hs : p.stop = endOfData ∨ p.start ≤ p.stop) : parseRangeSpec (some h) = .ok p := by
  unfold parseRangeSpec
  simp only [hp]
  rw [if_neg]
  simp only [Bool.or_eq_true, decide_eq_true_eq, Bool.and_eq_true, bne_iff_ne, ne_eq]
  omega

/-- sizes for which `make([]byte, n)` cannot fail: files and directories below 2^48 bytes -/
def nodeOk : Node → Prop
  | .missing => True
  | .dir sz => sz ≤ 281474976710656
  | .file f => f.length ≤ 281474976710656

/-- `min stop (len-1)`: the last byte index actually served -/
def lastIdx (stop : Int) (len : Nat) : Int := if stop ≥ (len : Int) then (len : Int) - 1 else stop

/-- `R[start .. e]` inclusive -/
def slice (R : Bytes) (start e : Int) : Bytes := (R.drop start.toNat).take (e - start + 1).toNat

theorem lastIdx_ge (start stop : Int) (len : Nat) (h1 : start < (len : Int)) (h2 : start ≤ stop) :
    start ≤ lastIdx stop len ∧ lastIdx stop len < (len : Int) := by
  unfold lastIdx; split <;> omega

theorem slice_length (R : Bytes) (start e : Int) (h0 : 0 ≤ start) (h1 : start ≤ e) (h2 : e < (R.length : Int)) :
    ((slice R start e).length : Int) = e - start + 1 := by
  simp only [slice, List.length_take, List.length_drop]
  omega

theorem lastIdx_endOfData (len : Nat) (h : len ≤ 281474976710656) : lastIdx endOfData len = (len : Int) - 1 := by
  unfold lastIdx endOfData maxInt64
  split
  · rfl
  · omega

theorem slice_whole (R : Bytes) (h : R.length ≤ 281474976710656) :
    (if startOfData ≥ (R.length : Int) then [] else slice R startOfData (lastIdx endOfData R.length)) = R := by
  unfold startOfData
  split
  · exact (List.eq_nil_of_length_eq_zero (by omega)).symm
  · rw [lastIdx_endOfData _ h]
    simp only [slice, Int.toNat_zero, List.drop_zero]
    exact List.take_of_length_le (by omega)

/-- the clamping of `end` done by readAssetRange and again by the handler -/
theorem reportEnd_eq (stop : Int) (total : Nat) (hmax : stop ≤ maxInt64) (ht : total ≤ 281474976710656) :
    (if (stop == endOfData || decide (stop ≥ (total : Int))) = true then wrap64 ((total : Int) - 1) else stop)
      = lastIdx stop total := by
  unfold lastIdx
  have hmax : stop ≤ 9223372036854775807 := hmax
  by_cases hge : stop ≥ (total : Int)
  · simp only [hge, decide_true, Bool.or_true, if_true]
    exact wrap64_id _ (by omega) (by omega)
  · have hne : (stop == endOfData) = false := by
      simp only [beq_eq_false_iff_ne, ne_eq]; unfold endOfData maxInt64; omega
    simp [hne, hge]

/-- the buffer readAssetRange allocates for a range that starts inside `total` bytes: no int64
    operation wraps and `make` succeeds -/
theorem goMake_range (total : Nat) (start stop : Int) (h0 : 0 ≤ start) (hlt : start < (total : Int))
    (hs : start ≤ stop) (hmax : stop ≤ maxInt64) (hsz : total ≤ 281474976710656) :
    goMake (wrap64 (wrap64 ((if (stop == endOfData || decide (stop ≥ (total : Int))) = true
        then wrap64 ((total : Int) - 1) else stop) - start) + 1)) =
      .ok (lastIdx stop total - start + 1).toNat := by
  rw [reportEnd_eq stop total hmax hsz]
  obtain ⟨h1, h2⟩ := lastIdx_ge start stop total hlt hs
  generalize lastIdx stop total = e at h1 h2
  rw [wrap64_id (e - start) (by omega) (by omega), wrap64_id (e - start + 1) (by omega) (by omega)]
  unfold goMake
  rw [if_neg (by omega), if_neg (by omega)]

theorem goSliceTo_self (d : Bytes) (n : Nat) (h : d.length ≤ n) : goSliceTo d n d.length = .ok d := by
  simp [goSliceTo, h]

theorem readAt_length (f : Bytes) (size off : Nat) : (readAt f size off).length ≤ size := by
  simp [readAt, List.length_take]; omega

theorem readAssetRange_eq (node : Node) (start stop : Int) (h0 : 0 ≤ start) (hs : start ≤ stop)
    (hmax : stop ≤ maxInt64) (hn : nodeOk node) :
    readAssetRange true node start stop = .ok (match (generalizing := false) node with
      | .missing => none
      | .dir sz => if start ≥ (sz : Int) then some ([], (sz : Int)) else none
      | .file f => some (if start ≥ (f.length : Int) then [] else slice f start (lastIdx stop f.length),
          (f.length : Int))) := by
  unfold readAssetRange
  cases node with
  | missing => rfl
  | dir sz =>
    by_cases hge : start ≥ (sz : Int)
    · simp [hge, pure]
    · simp only [Bool.true_and, decide_eq_true_eq, hge, if_false, bind, pure,
        goMake_range sz start stop h0 (Int.not_le.1 hge) hs hmax hn]
  | file f =>
    by_cases hge : start ≥ (f.length : Int)
    · simp [hge, pure]
    · simp only [Bool.true_and, decide_eq_true_eq, hge, if_false, bind, pure,
        goMake_range f.length start stop h0 (Int.not_le.1 hge) hs hmax hn, goSliceTo_self _ _ (readAt_length ..)]
      rfl

/-- cached data is the representation of the file on disk (files are static while cached) -/
def cacheOk (P : Prims) (node : Node) (cache : Option Bytes) : Prop :=
  ∀ d, cache = some d → ∃ f, node = .file f ∧ d = P.xform f

/-- the full representation (after minification) also fits the allocation bound -/
def reprOk (P : Prims) (node : Node) : Prop :=
  ∀ f, node = .file f → (P.xform f).length ≤ 281474976710656

/-- what a response may be: an error status, 416 for a start at/after the end, the whole
    representation, or exactly the requested slice with the Content-Range built from the same numbers -/
def RespOk (P : Prims) (r : Req) : Resp → Prop
  | .err s => s = 400 ∨ s = 403 ∨ s = 404
  | .unsat cr => ∃ p, ∃ total : Nat, parseRangeSpec r.range = .ok p ∧ p.hasRange = true ∧
      cr = contentRangeUnsat total ∧ p.start ≥ (total : Int) ∧
      (r.node = .dir total ∨ ∃ f, r.node = .file f ∧ (total = f.length ∨ total = (P.xform f).length))
  | .full clen body => ∃ f, r.node = .file f ∧
      clen = (if hasSuffix mdSuffix r.path then P.md (P.xform f) else P.xform f).length ∧
      body = if r.head then [] else (if hasSuffix mdSuffix r.path then P.md (P.xform f) else P.xform f)
  | .part cr clen body => ∃ f p R, r.node = .file f ∧ parseRangeSpec r.range = .ok p ∧ p.hasRange = true ∧
      (R = f ∨ R = P.xform f) ∧ 0 ≤ p.start ∧ p.start < (R.length : Int) ∧ p.start ≤ lastIdx p.stop R.length ∧
      cr = contentRange p.start (lastIdx p.stop R.length) R.length ∧
      clen = (slice R p.start (lastIdx p.stop R.length)).length ∧
      body = if r.head then [] else slice R p.start (lastIdx p.stop R.length)

theorem finish_part (P : Prims) (r : Req) (p : Parsed) (R : Bytes)
    (hr : p.hasRange = true) (hlt : p.start < (R.length : Int)) (hmax : p.stop ≤ maxInt64)
    (hR : R.length ≤ 281474976710656) :
    finish true P r false p (slice R p.start (lastIdx p.stop R.length)) (R.length : Int) =
      .part (contentRange p.start (lastIdx p.stop R.length) R.length)
        (slice R p.start (lastIdx p.stop R.length)).length
        (if r.head then [] else slice R p.start (lastIdx p.stop R.length)) := by
  unfold finish
  have hn : ¬ (p.start ≥ (R.length : Int)) := by omega
  simp only [hr, Bool.true_and, decide_eq_true_eq, hn, if_false, Bool.false_eq_true, if_true]
  rw [reportEnd_eq p.stop R.length hmax hR]

theorem respOk_ranged (P : Prims) (r : Req) (f R : Bytes) (p : Parsed) (hnode : r.node = .file f)
    (hR : R = f ∨ R = P.xform f) (hsz : R.length ≤ 281474976710656)
    (hp : parseRangeSpec r.range = .ok p) (hr : p.hasRange = true)
    (h0 : 0 ≤ p.start) (hs : p.start ≤ p.stop) (hmax : p.stop ≤ maxInt64) :
    RespOk P r (finish true P r false p
      (if p.start ≥ (R.length : Int) then [] else slice R p.start (lastIdx p.stop R.length)) R.length) := by
  split
  · rename_i hge
    simp only [finish, hr, Bool.true_and, hge, decide_true, if_true, RespOk]
    exact ⟨p, R.length, hp, hr, rfl, hge, .inr ⟨f, hnode, hR.imp (congrArg _) (congrArg _)⟩⟩
  · rename_i hge
    have hlt := Int.not_le.1 hge
    rw [finish_part P r p R hr hlt hmax hsz]
    exact ⟨f, p, R, hnode, hp, hr, hR, h0, hlt, (lastIdx_ge p.start p.stop R.length hlt hs).1, rfl, rfl, rfl⟩

theorem respOk_whole (P : Prims) (r : Req) (f : Bytes) (p : Parsed) (hnode : r.node = .file f)
    (hrep : (P.xform f).length ≤ 281474976710656) (hp : parseRangeSpec r.range = .ok p)
    (hw : hasSuffix mdSuffix r.path = true ∨ (p.start = startOfData ∧ p.stop = endOfData)) :
    RespOk P r (finish true P r (hasSuffix mdSuffix r.path)
      (if hasSuffix mdSuffix r.path = true then ⟨startOfData, endOfData, false⟩ else p)
      (P.xform f) ((P.xform f).length : Int)) := by
  split
  · exact ⟨f, hnode, rfl, rfl⟩
  · rename_i hmd
    obtain ⟨h1, h2⟩ := hw.resolve_left hmd
    obtain ⟨_, _, hasRange⟩ := p
    subst h1 h2
    cases hasRange with
    | false => exact ⟨f, hnode, rfl, rfl⟩
    | true =>
      -- `bytes=0-`: the default range, but answered 206 (416 when the representation is empty)
      have := respOk_ranged P r f (P.xform f) _ hnode (.inr rfl) hrep hp rfl (Int.le_refl _) (by decide) (Int.le_refl _)
      rwa [slice_whole _ hrep, ← Bool.eq_false_iff.2 hmd] at this

theorem handle_eq (P : Prims) (r : Req) (hf : forbiddenPath r.path = false) :
    handle true P r =
      match parseRangeSpec r.range with
      | .error s => .ok (.err s, r.cache)
      | .ok p =>
        let p := if hasSuffix mdSuffix r.path then ⟨startOfData, endOfData, false⟩ else p
        match loader true P r.node r.cache p.start p.stop with
        | .ok none => .ok (.err 404, r.cache)
        | .ok (some (d, t, c')) => .ok (finish true P r (hasSuffix mdSuffix r.path) p d t, c')
        | .panic w => .panic w := by
  unfold handle
  simp only [hf, Bool.false_eq_true, if_false, parseRange_eq, bind, pure, Bool.true_and]
  cases parseRangeSpec r.range with
  | error s => rfl
  | ok p =>
    dsimp only
    generalize loader true P _ _ _ _ = l
    rcases l with (_ | ⟨d, t, c⟩) | w <;> rfl

theorem loader_full (P : Prims) (node : Node) (cache : Option Bytes) (hc : cacheOk P node cache) :
    loader true P node cache startOfData endOfData = .ok none ∨
    ∃ f c', node = .file f ∧ cacheOk P node c' ∧
      loader true P node cache startOfData endOfData = .ok (some (P.xform f, ((P.xform f).length : Int), c')) := by
  unfold loader
  have h1 : ¬ (startOfData < 0 ∨ endOfData < 0) := by unfold startOfData endOfData maxInt64; omega
  simp only [Bool.or_eq_true, decide_eq_true_eq, h1, if_false, beq_self_eq_true, Bool.and_self, if_true, pure]
  cases hcache : cache with
  | some d =>
    obtain ⟨f, hnode, rfl⟩ := hc d hcache
    exact .inr ⟨f, _, hnode, hcache ▸ hc, rfl⟩
  | none =>
    cases node with
    | file f =>
      refine .inr ⟨f, _, rfl, fun d hd => ?_, rfl⟩
      split at hd <;> cases hd
      exact ⟨f, rfl, rfl⟩
    | _ => exact .inl rfl

theorem handle_ranged (P : Prims) (r : Req) (p : Parsed) (hf : forbiddenPath r.path = false)
    (hmd : hasSuffix mdSuffix r.path = false) (hp : parseRangeSpec r.range = .ok p)
    (h0 : 0 ≤ p.start) (hs : p.start ≤ p.stop) (hne : ¬ (p.start = startOfData ∧ p.stop = endOfData)) :
    handle true P r =
      match readAssetRange true r.node p.start p.stop with
      | .ok none => .ok (.err 404, r.cache)
      | .ok (some (d, t)) => .ok (finish true P r false p d t, r.cache)
      | .panic w => .panic w := by
  rw [handle_eq P r hf, hp]
  simp only [hmd, Bool.false_eq_true, if_false]
  unfold loader
  have h2 : ¬ (p.start < 0 ∨ p.stop < 0) := by omega
  have h3 : (p.start == startOfData && p.stop == endOfData) = false := by simpa using hne
  simp only [Bool.or_eq_true, decide_eq_true_eq, h2, if_false, h3, Bool.false_eq_true, bind, pure]
  generalize readAssetRange true r.node p.start p.stop = x
  rcases x with (_ | ⟨d, t⟩) | w <;> rfl

theorem served_of_parsed (P : Prims) (r : Req) (f : Bytes) (p : Parsed)
    (hprs : parseRangeSpec r.range = .ok p) (hr : p.hasRange = true)
    (hnode : r.node = .file f) (hsz : f.length ≤ 281474976710656)
    (hpath : forbiddenPath r.path = false) (hmd : hasSuffix mdSuffix r.path = false)
    (hpos : 0 < p.start) (halen : p.start < (f.length : Int)) :
    handle true P r = .ok
      (.part (contentRange p.start (lastIdx p.stop f.length) f.length)
         (slice f p.start (lastIdx p.stop f.length)).length
         (if r.head then [] else slice f p.start (lastIdx p.stop f.length)), r.cache) := by
  rcases parseRangeSpec_cases r.range with he | ⟨q, hq, h0, hs, hmax, _⟩
  · rw [he] at hprs; cases hprs
  rw [hq] at hprs; cases hprs
  rw [handle_ranged P r p hpath hmd hq h0 hs (fun h => by have := h.1; simp only [startOfData] at this; omega),
    hnode, readAssetRange_eq (.file f) _ _ h0 hs hmax hsz]
  dsimp only
  rw [if_neg (Int.not_le.2 halen), ← finish_part P r p f hr halen hmax hsz]

/-- for every Range header byte string, path, method, node whose size and representation are below
    2^48 bytes and cache holding the file's representation, the patched handler does not panic and
    answers an error status, 416, the whole representation, or exactly `R[start .. min(end, len-1)]`
    (`R` the file or its representation) with the matching Content-Range; the cache keeps holding the
    representation. -/
theorem C39_range (P : Prims) (r : Req) (hn : nodeOk r.node) (hrep : reprOk P r.node)
    (hc : cacheOk P r.node r.cache) :
    ∃ resp c', handle true P r = .ok (resp, c') ∧ RespOk P r resp ∧ cacheOk P r.node c' := by
  rcases Bool.eq_false_or_eq_true (forbiddenPath r.path) with hf | hf
  · exact ⟨.err 403, r.cache, by simp [handle, hf, pure], .inr (.inl rfl), hc⟩
  rcases parseRangeSpec_cases r.range with hp | ⟨p, hp, h0, hs, hmax, hdflt⟩
  · exact ⟨.err 400, r.cache, by rw [handle_eq P r hf, hp], .inl rfl, hc⟩
  by_cases hw : hasSuffix mdSuffix r.path = true ∨ (p.start = startOfData ∧ p.stop = endOfData)
  · -- Markdown (the Range header is ignored) or the default range: the cache path of Loader
    rw [handle_eq P r hf, hp]
    dsimp only
    generalize hq : (if hasSuffix mdSuffix r.path = true then (⟨startOfData, endOfData, false⟩ : Parsed) else p) = q
    have hq' : q.start = startOfData ∧ q.stop = endOfData := by
      split at hq <;> subst hq
      · exact ⟨rfl, rfl⟩
      · exact hw.resolve_left ‹_›
    rw [hq'.1, hq'.2]
    rcases loader_full P r.node r.cache hc with hl | ⟨f, c', hnode, hc', hl⟩ <;> rw [hl]
    · exact ⟨_, _, rfl, .inr (.inr rfl), hc⟩
    · exact ⟨_, _, rfl, hq ▸ respOk_whole P r f p hnode (hrep f hnode) hp hw, hc'⟩
  -- a real range: readAssetRange, the cache is not touched
  have hmd : hasSuffix mdSuffix r.path = false := by simpa using fun h => hw (.inl h)
  have hdef := fun h => hw (.inr h)
  have hrng := hdflt.resolve_right fun h => hdef (h ▸ ⟨rfl, rfl⟩)
  suffices ∃ resp, handle true P r = .ok (resp, r.cache) ∧ RespOk P r resp from
    let ⟨resp, h1, h2⟩ := this; ⟨resp, _, h1, h2, hc⟩
  rw [handle_ranged P r p hf hmd hp h0 hs hdef, readAssetRange_eq _ _ _ h0 hs hmax hn]
  cases hnode : r.node with
  | missing => exact ⟨.err 404, rfl, .inr (.inr rfl)⟩
  | dir sz =>
    dsimp only
    by_cases hge : p.start ≥ (sz : Int)
    · rw [if_pos hge]
      refine ⟨_, rfl, ?_⟩
      simp only [finish, hrng, Bool.true_and, hge, decide_true, if_true, RespOk]
      exact ⟨p, sz, hp, hrng, rfl, hge, .inl hnode⟩
    · rw [if_neg hge]
      exact ⟨.err 404, rfl, .inr (.inr rfl)⟩
  | file f =>
    exact ⟨_, rfl, respOk_ranged P r f f p hnode (.inl rfl) (by rw [hnode] at hn; exact hn) hp hrng h0 hs hmax⟩

/-- no Range header, path or method makes the patched handler panic, for a node and cache as in `C39_range` -/
theorem C39_total (P : Prims) (r : Req) (hn : nodeOk r.node) (hrep : reprOk P r.node)
    (hc : cacheOk P r.node r.cache) : (handle true P r).isPanic = false := by
  obtain ⟨resp, c', h, _⟩ := C39_range P r hn hrep hc
  rw [h]; rfl

/-- the cache entry left behind is again the representation of the file: the step that carries
    `cacheOk` through a history of requests on an unchanged file -/
theorem C39_cache_invariant (P : Prims) (r : Req) (hn : nodeOk r.node) (hrep : reprOk P r.node)
    (hc : cacheOk P r.node r.cache) (resp : Resp) (c' : Option Bytes)
    (h : handle true P r = .ok (resp, c')) : cacheOk P r.node c' := by
  obtain ⟨resp', c'', h', _, hc'⟩ := C39_range P r hn hrep hc
  rw [h'] at h
  cases h
  exact hc'

/-- the parser alone: total on every byte string -/
theorem C39_parse_total (h : Bytes) : (parseHeader true h).isPanic = false := by
  rw [parseHeader_eq]; rfl

/-! ### well-formed ranges are understood as written -/

theorem digitsVal_digits : ∀ (ds : Bytes) (acc v : Nat), digitsVal acc ds = some v → ∀ c ∈ ds, isDigit c = true
  | [], _, _, _ => nofun
  | d :: ds, acc, v, h => by
    simp only [digitsVal] at h
    split at h
    · exact List.forall_mem_cons.2 ⟨‹_›, digitsVal_digits ds _ v h⟩
    · cases h

theorem isDigit_ne (c : UInt8) (h : isDigit c = true) : c ≠ 98 ∧ c ≠ 45 ∧ c ≠ 43 := by
  simp only [isDigit, Bool.and_eq_true, decide_eq_true_eq] at h
  refine ⟨?_, ?_, ?_⟩ <;> (intro hc; subst hc; revert h; decide)

theorem removeAux_noB (s : Bytes) (h : ∀ c ∈ s, c ≠ 98) : removeAux bytesEq 0 s = s := by
  induction s with
  | nil => rfl
  | cons c cs ih =>
    have hc : c ≠ 98 := h c (List.mem_cons_self ..)
    have hp : hasPrefix bytesEq (c :: cs) = false := by
      simp only [bytesEq, hasPrefix, Bool.and_eq_false_iff, beq_eq_false_iff_ne, ne_eq]
      exact Or.inl (fun e => hc e.symm)
    simp only [removeAux, hp, Bool.false_eq_true, if_false]
    rw [ih (fun c hc' => h c (List.mem_cons_of_mem _ hc'))]

theorem removeAll_bytesEq_prefix (s : Bytes) (h : ∀ c ∈ s, c ≠ 98) : removeAll bytesEq (bytesEq ++ s) = s := by
  simp only [removeAll, bytesEq, List.cons_append, List.nil_append, removeAux, hasPrefix, beq_self_eq_true, Bool.and_self,
    if_true, List.length_cons, List.length_nil]
  exact removeAux_noB s h

theorem splitOn_ne_nil (sep : UInt8) (s : Bytes) : splitOn sep s ≠ [] := by
  induction s with
  | nil => simp [splitOn]
  | cons c cs ih =>
    simp only [splitOn]
    split
    · simp
    · split <;> simp

theorem splitOn_sep_cons (sep : UInt8) (s : Bytes) : splitOn sep (sep :: s) = [] :: splitOn sep s := by
  simp [splitOn]

theorem splitOn_noSep (sep : UInt8) (s : Bytes) (h : ∀ c ∈ s, c ≠ sep) : splitOn sep s = [s] := by
  induction s with
  | nil => rfl
  | cons c cs ih =>
    have hc : (c == sep) = false := by simpa using h c (List.mem_cons_self ..)
    simp only [splitOn, hc, Bool.false_eq_true, if_false, ih (fun c hc' => h c (List.mem_cons_of_mem _ hc'))]

theorem splitOn_append_sep (sep : UInt8) (a b : Bytes) :
    splitOn sep (a ++ sep :: b) = splitOn sep a ++ splitOn sep b := by
  induction a with
  | nil => simp [splitOn]
  | cons c cs ih =>
    simp only [List.cons_append, splitOn]
    split
    · rw [ih]; rfl
    · rw [ih]
      obtain ⟨h, t, e⟩ := List.exists_cons_of_ne_nil (splitOn_ne_nil sep cs)
      rw [e]; rfl

theorem parseInt_digits (ds : Bytes) (v : Nat) (hne : ds ≠ []) (hv : digitsVal 0 ds = some v) (hle : v ≤ 9223372036854775807) :
    parseInt ds = some (v : Int) := by
  cases ds with
  | nil => exact absurd rfl hne
  | cons c cs =>
    have hd := digitsVal_digits (c :: cs) 0 v hv c (List.mem_cons_self ..)
    obtain ⟨_, h45, h43⟩ := isDigit_ne c hd
    have e45 : (c == 45) = false := by simpa using h45
    have e43 : (c == 43) = false := by simpa using h43
    simp only [parseInt, e45, e43, Bool.or_self, Bool.false_eq_true, if_false, hv, hle, if_true]

/-- a header `bytes=<digits>-<digits>` / `bytes=<digits>-` (the RFC 9110 single-range grammar, any
    number of leading zeros) with values up to 2^63-1 is parsed to exactly those numbers -/
theorem C39_wellformed_parsed (da db : Bytes) (a b : Nat) (hne : da ≠ [])
    (ha : digitsVal 0 da = some a) (hb : digitsVal 0 db = some b)
    (hla : a ≤ 9223372036854775807) (hlb : b ≤ 9223372036854775807) :
    parseSpec (bytesEq ++ da ++ dash :: db) =
      .ok ⟨(a : Int), if db.isEmpty then endOfData else (b : Int), true⟩ := by
  have hda := fun c h => isDigit_ne c (digitsVal_digits da 0 a ha c h)
  have hdb := fun c h => isDigit_ne c (digitsVal_digits db 0 b hb c h)
  have hnoB : ∀ c ∈ da ++ dash :: db, c ≠ 98 :=
    List.forall_mem_append.2 ⟨fun c h => (hda c h).1, List.forall_mem_cons.2 ⟨by decide, fun c h => (hdb c h).1⟩⟩
  have hsplit : splitOn dash (da ++ dash :: db) = [da, db] := by
    rw [splitOn_append_sep, splitOn_noSep dash da (fun c h => (hda c h).2.1),
        splitOn_noSep dash db (fun c h => (hdb c h).2.1)]
    rfl
  unfold parseSpec
  rw [List.append_assoc, removeAll_bytesEq_prefix _ hnoB, hsplit]
  simp only [parseInt_digits da a hne ha hla]
  cases db with
  | nil => simp
  | cons c cs => simp [parseInt_digits (c :: cs) b (by simp) hb hlb]

/-- … and is served: for a regular file below 2^48 bytes on an admissible path that is not Markdown, a
    well-formed `bytes=a-b` with `a ≤ b` and `0 < a < len` gets 206 with exactly bytes `a .. min(b, len-1)`
    (`a = 0` is left out: `bytes=0-` and `bytes=0-9223372036854775807`, Go's marker of an open end, are
    the default range and are answered with the whole representation, `respOk_whole`) -/
theorem C39_wellformed_served (P : Prims) (r : Req) (f da db : Bytes) (a b : Nat) (hne : da ≠ []) (hne' : db ≠ [])
    (ha : digitsVal 0 da = some a) (hb : digitsVal 0 db = some b)
    (hla : a ≤ 9223372036854775807) (hlb : b ≤ 9223372036854775807)
    (hrange : r.range = some (bytesEq ++ da ++ dash :: db))
    (hnode : r.node = .file f) (hsz : f.length ≤ 281474976710656)
    (hpath : forbiddenPath r.path = false) (hmd : hasSuffix mdSuffix r.path = false)
    (hab : a ≤ b) (halen : a < f.length) (hpos : 0 < a) :
    handle true P r = .ok
      (.part (contentRange a (lastIdx b f.length) f.length) (slice f a (lastIdx b f.length)).length
         (if r.head then [] else slice f a (lastIdx b f.length)), r.cache) := by
  obtain ⟨c, cs, rfl⟩ := List.exists_cons_of_ne_nil hne'
  have hprs : parseRangeSpec r.range = .ok ⟨(a : Int), (b : Int), true⟩ := by
    rw [hrange]
    exact parseRangeSpec_of_parseSpec _ _ (C39_wellformed_parsed da (c :: cs) a b hne ha hb hla hlb) (by simp)
      (Or.inr (by simp; omega))
  exact served_of_parsed P r f ⟨(a : Int), (b : Int), true⟩ hprs rfl hnode hsz hpath hmd (by simp; omega) (by simp; omega)

/-- the open-ended form `bytes=a-`: bytes `a .. len-1` -/
theorem C39_wellformed_served_open (P : Prims) (r : Req) (f da : Bytes) (a : Nat) (hne : da ≠ [])
    (ha : digitsVal 0 da = some a) (hla : a ≤ 9223372036854775807)
    (hrange : r.range = some (bytesEq ++ da ++ [dash]))
    (hnode : r.node = .file f) (hsz : f.length ≤ 281474976710656)
    (hpath : forbiddenPath r.path = false) (hmd : hasSuffix mdSuffix r.path = false)
    (halen : a < f.length) (hpos : 0 < a) :
    handle true P r = .ok
      (.part (contentRange a ((f.length : Int) - 1) f.length) (slice f a ((f.length : Int) - 1)).length
         (if r.head then [] else slice f a ((f.length : Int) - 1)), r.cache) := by
  have hprs : parseRangeSpec r.range = .ok ⟨(a : Int), endOfData, true⟩ := by
    rw [hrange]
    exact parseRangeSpec_of_parseSpec _ _ (C39_wellformed_parsed da [] a 0 hne ha rfl hla (by omega)) (by simp) (Or.inl rfl)
  have := served_of_parsed P r f ⟨(a : Int), endOfData, true⟩ hprs rfl hnode hsz hpath hmd (by simp; omega) (by simp; omega)
  rwa [lastIdx_endOfData _ hsz] at this

/-! ### containment: the path handed to the OS stays below the asset root -/

theorem splitOn_pieces_noSep (sep : UInt8) (s : Bytes) : ∀ p ∈ splitOn sep s, ∀ x ∈ p, x ≠ sep := by
  induction s with
  | nil => simp [splitOn]
  | cons c cs ih =>
    obtain ⟨h, t, e⟩ := List.exists_cons_of_ne_nil (splitOn_ne_nil sep cs)
    rw [e, List.forall_mem_cons] at ih
    simp only [splitOn, e]
    split
    · exact List.forall_mem_cons.2 ⟨nofun, List.forall_mem_cons.2 ih⟩
    · rename_i hc
      exact List.forall_mem_cons.2 ⟨List.forall_mem_cons.2 ⟨by simpa using hc, ih.1⟩, ih.2⟩

theorem splitOn_joinSlash (cs : List Bytes) (hne : cs ≠ []) (h : ∀ c ∈ cs, ∀ x ∈ c, x ≠ slash) :
    splitOn slash (joinSlash cs) = cs := by
  induction cs with
  | nil => exact absurd rfl hne
  | cons c rest ih =>
    cases rest with
    | nil => simp only [joinSlash]; exact splitOn_noSep slash c (h c (List.mem_cons_self ..))
    | cons d ds =>
      simp only [joinSlash]
      rw [splitOn_append_sep, splitOn_noSep slash c (h c (List.mem_cons_self ..)),
          ih (by simp) (fun c hc => h c (List.mem_cons_of_mem _ hc))]
      rfl

def stackOk (rooted : Bool) (l : List Bytes) : Prop :=
  ∀ c ∈ l, c ≠ [] ∧ (∀ x ∈ c, x ≠ slash) ∧ c ≠ dot ∧ (rooted = true → c ≠ dotdot)

theorem cleanStep_ok (rooted : Bool) (stack : List Bytes) (c : Bytes) (hs : stackOk rooted stack)
    (hc : ∀ x ∈ c, x ≠ slash) : stackOk rooted (cleanStep rooted stack c) := by
  unfold cleanStep
  split
  · exact hs
  rename_i h1
  simp only [Bool.or_eq_true, List.isEmpty_iff, beq_iff_eq, not_or] at h1
  split
  · -- `..` is pushed on an empty relative stack, or on top of another `..`
    split
    · split
      · exact nofun
      · rename_i hr
        exact List.forall_mem_cons.2 ⟨⟨by decide, by decide, by decide, fun h => absurd h hr⟩, hs⟩
    · split
      · rename_i top _ ht
        exact List.forall_mem_cons.2 ⟨beq_iff_eq.1 ht ▸ hs top (List.mem_cons_self ..), hs⟩
      · exact fun x hx => hs x (List.mem_cons_of_mem _ hx)
  · rename_i h2
    exact List.forall_mem_cons.2 ⟨⟨h1.1, hc, h1.2, fun _ => by simpa using h2⟩, hs⟩

theorem cleanComps_ok (rooted : Bool) (comps : List Bytes) (h : ∀ c ∈ comps, ∀ x ∈ c, x ≠ slash) :
    stackOk rooted (cleanComps rooted comps) := by
  suffices ∀ stack, stackOk rooted stack → stackOk rooted (comps.foldl (cleanStep rooted) stack) from
    fun c hc => this [] nofun c (List.mem_reverse.1 hc)
  induction comps with
  | nil => exact fun _ hs => hs
  | cons c cs ih =>
    rw [List.forall_mem_cons] at h
    exact fun stack hs => ih h.2 _ (cleanStep_ok rooted stack c hs h.1)

theorem clean_rooted_form (p : Bytes) (h : (clean p).head? = some slash) :
    ∃ cs, stackOk true cs ∧ clean p = slash :: joinSlash cs := by
  unfold clean at h ⊢
  by_cases hr : (p.head? == some slash) = true
  · exact ⟨_, cleanComps_ok true _ (splitOn_pieces_noSep slash p), by
      simp only [hr, if_true, List.cons_append, List.nil_append, List.isEmpty_cons, Bool.false_eq_true, if_false]⟩
  · exfalso
    simp only [hr, Bool.false_eq_true, if_false, List.nil_append] at h
    have hok := cleanComps_ok false _ (splitOn_pieces_noSep slash p)
    cases hcs : cleanComps false (splitOn slash p) with
    | nil => rw [hcs] at h; simp [joinSlash, dot, slash] at h
    | cons c rest =>
      rw [hcs] at h hok
      -- the first component is not empty and holds no slash, and the result begins with its first byte
      obtain ⟨hc1, hc2, -⟩ := hok c (List.mem_cons_self ..)
      obtain ⟨x, xs, rfl⟩ := List.exists_cons_of_ne_nil hc1
      obtain ⟨t, ht⟩ : ∃ t, joinSlash ((x :: xs) :: rest) = x :: t := by cases rest <;> exact ⟨_, rfl⟩
      rw [ht] at h
      exact hc2 x (List.mem_cons_self ..) (by simpa using h)

theorem hasPrefix_eq_isPrefixOf : ∀ p s : Bytes, hasPrefix p s = p.isPrefixOf s
  | [], _ => by simp [hasPrefix]
  | _ :: _, [] => rfl
  | a :: as, c :: cs => by simp [hasPrefix, List.isPrefixOf, hasPrefix_eq_isPrefixOf as cs]

/-- for an absolute asset root and EVERY request path (any number of `..`, `.`,
    empty or odd components), normalizeAssetPath returns either the fixed name
    `Join(root,"__invalid__")` (which does not depend on the request) or `root/` followed by
    components none of which is empty, `.` or `..` — a path lexically below the root. -/
theorem C39_contained (root path : Bytes) (habs : root.head? = some slash) :
    normalize root path = join2 root invalidName ∨
    ∃ rest, normalize root path = root ++ slash :: rest ∧
      ∀ c ∈ splitOn slash rest, c ≠ [] ∧ c ≠ dot ∧ c ≠ dotdot := by
  unfold normalize
  by_cases hp : hasPrefix (root ++ [slash]) (clean (join2 root path)) = true
  · right
    simp only [hp, Bool.not_true, Bool.false_eq_true, if_false]
    obtain ⟨rest, e⟩ := List.isPrefixOf_iff_prefix.1 (hasPrefix_eq_isPrefixOf _ _ ▸ hp)
    replace e : clean (join2 root path) = root ++ slash :: rest := by rw [← e, List.append_assoc]; rfl
    refine ⟨rest, e, ?_⟩
    obtain ⟨rs, rfl⟩ : ∃ rs, root = slash :: rs := by
      cases root with
      | nil => cases habs
      | cons r0 rs => exact ⟨rs, by rw [Option.some.inj habs]⟩
    obtain ⟨cs, hok, hform⟩ := clean_rooted_form _ (by rw [e]; rfl)
    rw [hform] at e
    have hcsne : cs ≠ [] := by rintro rfl; simp [joinSlash] at e
    -- both sides of `e` cut at the slashes: the components of `rest` are among `cs`
    have h := congrArg (splitOn slash) e
    rw [splitOn_sep_cons, splitOn_joinSlash cs hcsne (fun c hc => (hok c hc).2.1), splitOn_append_sep,
      splitOn_sep_cons] at h
    intro c hc
    have := hok c (by rw [(List.cons.inj h).2]; exact List.mem_append_right _ hc)
    exact ⟨this.1, this.2.2.1, this.2.2.2 rfl⟩
  · left
    simp [hp]

/-- why the root must be absolute: with the (absurd) relative root `..` the prefix test passes for
    a path that climbs further up -/
example : normalize [46, 46] [47, 46, 46, 47, 120] = [46, 46, 47, 46, 46, 47, 120] := by decide

/-! ### the unpatched code violates the property (model with `fixed = false`) -/

def tenBytes : Bytes := [48, 49, 50, 51, 52, 53, 54, 55, 56, 57]
def fTxt : Bytes := [47, 102, 46, 116, 120, 116]          -- "/f.txt"
def pMd : Bytes := [47, 112, 46, 109, 100]                -- "/p.md"

/-- `Range: bytes=5` (no dash): `ranges[1]` is indexed in a one-element slice -/
theorem C39_orig_nodash_counterexample (P : Prims) :
    (handle false P ⟨fTxt, some [98, 121, 116, 101, 115, 61, 53], false, .file tenBytes, none⟩).isPanic = true := by
  rfl

/-- `Range: bytes=20-` on a 10-byte file: `make([]byte, 9-20+1)` -/
theorem C39_orig_beyond_counterexample (P : Prims) :
    (handle false P ⟨fTxt, some [98, 121, 116, 101, 115, 61, 50, 48, 45], false, .file tenBytes, none⟩).isPanic = true := by
  rfl

/-- `Range: bytes=0-` on a cached asset: totalSize stays 0, the header says `bytes 0--1/0` -/
theorem C39_orig_cached_counterexample (P : Prims) :
    handle false P ⟨fTxt, some [98, 121, 116, 101, 115, 61, 48, 45], false, .file tenBytes, some tenBytes⟩ =
      .ok (.part (contentRange 0 (-1) 0) 10 tenBytes, some tenBytes) := by
  rfl

/-- a range on a Markdown file: the body is the rendering of a fragment, labelled with offsets of the source -/
theorem C39_orig_markdown_counterexample (P : Prims) :
    handle false P ⟨pMd, some [98, 121, 116, 101, 115, 61, 50, 45, 53], false, .file tenBytes, none⟩ =
      .ok (.part (contentRange 2 5 10) (P.md [50, 51, 52, 53]).length (P.md [50, 51, 52, 53]), none) := by
  rfl

/-- the same four requests on the patched code -/
example (P : Prims) : handle true P ⟨fTxt, some [98, 121, 116, 101, 115, 61, 53], false, .file tenBytes, none⟩ =
    .ok (.err 400, none) := by rfl
example (P : Prims) : handle true P ⟨fTxt, some [98, 121, 116, 101, 115, 61, 50, 48, 45], false, .file tenBytes, none⟩ =
    .ok (.unsat (contentRangeUnsat 10), none) := by rfl
example (P : Prims) : handle true P ⟨fTxt, some [98, 121, 116, 101, 115, 61, 48, 45], false, .file tenBytes, some tenBytes⟩ =
    .ok (.part (contentRange 0 9 10) 10 tenBytes, some tenBytes) := by rfl
example (P : Prims) : handle true P ⟨pMd, some [98, 121, 116, 101, 115, 61, 50, 45, 53], false, .file tenBytes, none⟩ =
    .ok (.full (P.md (P.xform tenBytes)).length (P.md (P.xform tenBytes)),
         if (P.xform tenBytes).length > cacheLimit then none else some (P.xform tenBytes)) := by rfl

/-! ### non-vacuity of the hypotheses used above -/

example : nodeOk (.file tenBytes) := by simp [nodeOk, tenBytes]
example : reprOk ⟨id, id⟩ (.file tenBytes) := by intro f h; cases h; simp [tenBytes]
example : cacheOk ⟨id, id⟩ (.file tenBytes) (some tenBytes) := by intro d h; cases h; exact ⟨_, rfl, rfl⟩
example : cacheOk ⟨id, id⟩ (.file tenBytes) none := by intro d h; cases h
example : digitsVal 0 [50] = some 2 ∧ digitsVal 0 [53] = some 5 := by decide
/-- `bytes=2-5` on the ten-byte file meets every hypothesis of `C39_wellformed_served` and yields `2345` -/
example : handle true ⟨id, id⟩ ⟨fTxt, some (bytesEq ++ [50] ++ dash :: [53]), false, .file tenBytes, none⟩ =
    .ok (.part (contentRange 2 5 10) 4 [50, 51, 52, 53], none) := by
  have := C39_wellformed_served ⟨id, id⟩ ⟨fTxt, some (bytesEq ++ [50] ++ dash :: [53]), false, .file tenBytes, none⟩
    tenBytes [50] [53] 2 5 (by simp) (by simp) (by decide) (by decide) (by omega) (by omega) rfl rfl (by simp [tenBytes])
    (by decide) (by decide) (by omega) (by simp [tenBytes]) (by omega)
  rw [this]; rfl
/-- an absolute root and a hostile path: the second disjunct of `C39_contained` is inhabited -/
example : normalize [47, 114] [47, 47, 97, 47, 46, 47, 98, 47, 46, 46, 47, 99] = [47, 114, 47, 97, 47, 99] := by decide
example : normalize [47, 114] [47, 97, 47, 46, 46, 47, 46, 46, 47, 120] = join2 [47, 114] invalidName := by decide

end EgoVerif.C39
