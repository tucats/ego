import EgoVerif.C15.Model
/-
C15 — theorems.  All of them quantify over EVERY schema / case table / tree / session; the facts about
the current Go source enter only through the decidable hypotheses `schemaComplete`, `casesComplete`
and `ddlAdmin`, which ./check discharges by `decide` over the data the translator regenerates from the
source on every run (generated obligation file `C15Obl.lean`).
-/
namespace EgoVerif.C15

def fieldNames (e : NodeSchema) : List String := e.nodeFields.map (fun q => q.1)

/-- every node-holding field of every struct is handed to `nodes()` by its `Children()` -/
def schemaComplete (S : Schema) : Bool :=
  S.all (fun e => (fieldNames e).all (fun f => e.visited.contains f))

/-- local well-typedness of one node against the schema: each populated field is a declared
node-holding field and its children have the field's static element type -/
def wtNode (S : Schema) (n : Node) : Bool :=
  n.kids.all (fun p => (S.entry n.ty).nodeFields.any
    (fun q => q.1 == p.1 && p.2.all (fun c => q.2 == "Node" || c.ty == q.2)))

/-- a tree is well typed when every node in it is (what a reflection dump of a real AST always is) -/
def WT (S : Schema) (n : Node) : Prop := ∀ x ∈ desc n, wtNode S x = true

/-- SPEC (hand written, independent of the Tables() switch): the object a statement of each type
creates / alters / drops / modifies, where its name is stored, and the usage mode that requires. -/
structure Target where
  ty : String
  field : String
  isStr : Bool
  mode : Mode

def spec : List Target := [
  ⟨"InsertStmt", "Table", false, .write⟩, ⟨"UpdateStmt", "Table", false, .write⟩,
  ⟨"DeleteStmt", "Table", false, .write⟩,
  ⟨"CreateTableStmt", "Table", false, .admin⟩, ⟨"DropTableStmt", "Table", false, .admin⟩,
  ⟨"AlterTableStmt", "Table", false, .admin⟩,
  ⟨"CreateIndexStmt", "Table", true, .admin⟩, ⟨"DropIndexStmt", "Name", true, .admin⟩,
  ⟨"CreateViewStmt", "Name", true, .admin⟩, ⟨"DropViewStmt", "Name", true, .admin⟩]

def targetNames (n : Node) (t : Target) : List String :=
  if t.isStr then [strField n.strs t.field] else (pick t.field n.kids).map (fun c => tableRefName c.strs)

/-- every table reference anywhere in the tree (full structural traversal, all fields) -/
def refs (n : Node) : List String := (desc n).filterMap refName

/-- what the statement touches: its target object with the target's mode, and every table
reference anywhere below it (subqueries in any expression position, CTEs, joins, …) for reading -/
def touched (n : Node) : List Usage :=
  (spec.filter (fun t => t.ty == n.ty)).flatMap
      (fun t => (targetNames n t).map (fun s => ({ name := s, mode := t.mode } : Usage)))
    ++ (refs n).map (fun s => ({ name := s, mode := .read } : Usage))

def covers (e : NodeSchema) (acts : List Action) (q : String × String) : Bool :=
  acts.any (fun a => match a with
    | .readSelf => e.visited.contains q.1
    | .read g => g == q.1
    | .write g => g == q.1 && q.2 == refTy
    | .adminRef g => g == q.1 && q.2 == refTy
    | .adminStr _ => false)

def targetAction (t : Target) (a : Action) : Bool :=
  match a with
  | .write f => !t.isStr && f == t.field && t.mode.rank ≤ Mode.write.rank
  | .adminRef f => !t.isStr && f == t.field
  | .adminStr f => t.isStr && f == t.field
  | _ => false

/-- the `Tables()` switch handles every statement struct, every node-holding field of it, and its
target with at least the specified mode; the closures drop nothing; `TableRef` is a leaf -/
def casesComplete (S : Schema) (C : List StmtCase) (cfg : Cfg) : Bool :=
  !cfg.adminSkipsEmpty && !cfg.writeSkipsEmpty &&
  (S.entry refTy).nodeFields.isEmpty && !(S.entry refTy).isStmt &&
  S.all (fun e => !e.isStmt ||
    match findCase C e.ty with
    | none => false
    | some c => e.nodeFields.all (covers e c.actions) &&
                (spec.filter (fun t => t.ty == e.ty)).all (fun t => c.actions.any (targetAction t)))

def isAdminAction : Action → Bool
  | .adminRef _ => true
  | .adminStr _ => true
  | _ => false

/-- every case whose StatementKind is schema-altering performs an `admin(…)` -/
def ddlAdmin (C : List StmtCase) (alt : List String) : Bool :=
  C.all (fun c => !alt.contains c.kind || c.actions.any isAdminAction)

/-! ## list forms of the mutual definitions -/

theorem walkList_eq (S : Schema) (ns : List Node) : walkList S ns = ns.flatMap (walk S) := by
  induction ns with
  | nil => simp [walkList]
  | cons n ns ih => simp [walkList, ih]

theorem walkFields_eq (S : Schema) (kids : List (String × List Node)) :
    walkFields S kids = kids.map (fun p => (p.1, p.2.flatMap (walk S))) := by
  induction kids with
  | nil => simp [walkFields]
  | cons p rest ih => cases p; simp [walkFields, ih, walkList_eq]

theorem descList_eq (ns : List Node) : descList ns = ns.flatMap desc := by
  induction ns with
  | nil => simp [descList]
  | cons n ns ih => simp [descList, ih]

theorem descFields_eq (kids : List (String × List Node)) :
    descFields kids = kids.flatMap (fun p => p.2.flatMap desc) := by
  induction kids with
  | nil => simp [descFields]
  | cons p rest ih => cases p; simp [descFields, ih, descList_eq]

theorem desc_mk (ty : String) (strs : List (String × String)) (kids : List (String × List Node)) :
    desc (.mk ty strs kids) = .mk ty strs kids :: kids.flatMap (fun p => p.2.flatMap desc) := by
  simp [desc, descFields_eq]

theorem walk_mk (S : Schema) (ty : String) (strs : List (String × String)) (kids : List (String × List Node)) :
    walk S (.mk ty strs kids) = .mk ty strs kids ::
      (S.entry ty).visited.flatMap (fun f => pick f (kids.map (fun p => (p.1, p.2.flatMap (walk S))))) := by
  simp [walk, walkFields_eq]

theorem mem_pick {α : Type} {f : String} {l : List (String × List α)} {x : α} :
    x ∈ pick f l ↔ ∃ p ∈ l, p.1 = f ∧ x ∈ p.2 := by
  simp only [pick, List.mem_flatMap, List.mem_filter, beq_iff_eq, and_assoc]

theorem mem_desc {d n : Node} : d ∈ desc n ↔ d = n ∨ ∃ p ∈ n.kids, ∃ c ∈ p.2, d ∈ desc c := by
  cases n; simp only [desc_mk, Node.kids, List.mem_cons, List.mem_flatMap]

theorem walk_child {S : Schema} {d c n : Node} {p : String × List Node} (hp : p ∈ n.kids)
    (hv : p.1 ∈ (S.entry n.ty).visited) (hc : c ∈ p.2) (hd : d ∈ walk S c) : d ∈ walk S n := by
  cases n
  rw [walk_mk]
  exact List.mem_cons_of_mem _ (List.mem_flatMap.2 ⟨p.1, hv, mem_pick.2
    ⟨(p.1, p.2.flatMap (walk S)), List.mem_map.2 ⟨p, hp, rfl⟩, rfl, List.mem_flatMap.2 ⟨c, hc, hd⟩⟩⟩)

theorem self_mem_desc (n : Node) : n ∈ desc n := mem_desc.2 (.inl rfl)

theorem self_mem_walk (S : Schema) (n : Node) : n ∈ walk S n := by
  cases n; rw [walk_mk]; exact List.mem_cons_self

theorem Node.induct {P : Node → Prop}
    (h : ∀ ty strs kids, (∀ p ∈ kids, ∀ c ∈ p.2, P c) → P (.mk ty strs kids)) : ∀ n, P n :=
  Node.rec (motive_1 := P) (motive_2 := fun kids => ∀ p ∈ kids, ∀ c ∈ p.2, P c)
    (motive_3 := fun p => ∀ c ∈ p.2, P c) (motive_4 := fun l => ∀ c ∈ l, P c)
    h (fun _ hp => nomatch hp) (fun _ _ h1 h2 => List.forall_mem_cons.2 ⟨h1, h2⟩) (fun _ _ h => h)
    (fun _ hc => nomatch hc) (fun _ _ h1 h2 => List.forall_mem_cons.2 ⟨h1, h2⟩)

theorem WT_child {S : Schema} {n c : Node} {p : String × List Node} (h : WT S n) (hp : p ∈ n.kids)
    (hc : c ∈ p.2) : WT S c :=
  fun x hx => h x (mem_desc.2 (.inr ⟨p, hp, c, hc, hx⟩))

theorem Schema.entry_cases (S : Schema) (ty : String) :
    (S.entry ty ∈ S ∧ (S.entry ty).ty = ty) ∨
      S.entry ty = { ty := ty, isStmt := false, nodeFields := [], visited := [] } := by
  unfold Schema.entry
  cases h : S.find? (fun e => e.ty == ty) with
  | none => exact .inr rfl
  | some e => exact .inl ⟨List.mem_of_find?_eq_some h, by simpa using List.find?_some h⟩

theorem entry_mem {S : Schema} {ty : String} (h : (S.entry ty).isStmt = true) :
    S.entry ty ∈ S ∧ (S.entry ty).ty = ty :=
  (S.entry_cases ty).resolve_right fun hd => by rw [hd] at h; cases h

theorem entry_complete {S : Schema} (hS : schemaComplete S = true) (ty f : String)
    (hf : f ∈ fieldNames (S.entry ty)) : f ∈ (S.entry ty).visited := by
  rcases S.entry_cases ty with ⟨he, -⟩ | hd
  · simp only [schemaComplete, List.all_eq_true] at hS
    simpa using hS _ he f hf
  · rw [hd] at hf; cases hf

theorem wt_field {S : Schema} {n : Node} (h : wtNode S n = true) {p : String × List Node} (hp : p ∈ n.kids) :
    ∃ q ∈ (S.entry n.ty).nodeFields, q.1 = p.1 ∧ ∀ c ∈ p.2, q.2 = "Node" ∨ c.ty = q.2 := by
  simp only [wtNode, List.all_eq_true, List.any_eq_true, Bool.and_eq_true, beq_iff_eq, Bool.or_eq_true] at h
  exact h p hp

/-- **Walk is complete.**  If every node-holding field of every struct is returned by its
`Children()` (decidable over the generated schema), then `ast.Walk` visits every descendant of every
well-typed tree — whatever field it sits in and however deep. -/
theorem C15_walk_complete (S : Schema) (hS : schemaComplete S = true) :
    ∀ n, WT S n → ∀ d ∈ desc n, d ∈ walk S n := by
  intro n
  induction n using Node.induct with
  | h ty strs kids ih =>
    intro hwt d hd
    rcases mem_desc.1 hd with rfl | ⟨p, hp, c, hc, hdc⟩
    · exact self_mem_walk S _
    · -- the field holding `c` is declared (well-typedness), hence visited (completeness)
      obtain ⟨q, hq, hq1, _⟩ := wt_field (hwt _ (self_mem_desc _)) hp
      exact walk_child hp (entry_complete hS ty p.1 (List.mem_map.2 ⟨q, hq, hq1⟩)) hc
        (ih p hp c hc (WT_child hwt hp hc) d hdc)

theorem read_complete (S : Schema) (hS : schemaComplete S = true) (n : Node) (hwt : WT S n) :
    ∀ r ∈ refs n, ({ name := r, mode := .read } : Usage) ∈ readNode S n := by
  intro r hr
  simp only [refs, List.mem_filterMap] at hr
  obtain ⟨d, hd, hdr⟩ := hr
  simp only [readNode, List.mem_filterMap]
  exact ⟨d, C15_walk_complete S hS n hwt d hd, by simp [refUsage, hdr]⟩

theorem refName_eq_some {n : Node} {r : String} :
    refName n = some r ↔ n.ty = refTy ∧ tableRefName n.strs = r := by
  simp [refName]

theorem refs_node {n : Node} {r : String} (h : r ∈ refs n) :
    refName n = some r ∨ ∃ p ∈ n.kids, ∃ c ∈ p.2, r ∈ refs c := by
  simp only [refs, List.mem_filterMap] at h ⊢
  obtain ⟨d, hd, hdr⟩ := h
  rcases mem_desc.1 hd with rfl | ⟨p, hp, c, hc, hdc⟩
  · exact .inl hdr
  · exact .inr ⟨p, hp, c, hc, d, hdc, hdr⟩

theorem refs_leaf {S : Schema} (hleaf : (S.entry refTy).nodeFields.isEmpty = true) {c : Node}
    (hty : c.ty = refTy) (hwt : wtNode S c = true) {r : String} (hr : r ∈ refs c) :
    r = tableRefName c.strs := by
  rcases refs_node hr with h | ⟨p, hp, -⟩
  · exact (refName_eq_some.1 h).2.symm
  · obtain ⟨q, hq, -⟩ := wt_field hwt hp
    rw [hty, List.isEmpty_iff.1 hleaf] at hq
    cases hq

theorem emit_noskip (name : String) (m : Mode) : emit false name m = [{ name := name, mode := m }] := by
  simp [emit]

section
variable {S : Schema} {C : List StmtCase} {cfg : Cfg} {n k : Node} {f : String}

theorem write_mem (hW : cfg.writeSkipsEmpty = false) (hk : k ∈ pick f n.kids) :
    ({ name := tableRefName k.strs, mode := .write } : Usage) ∈ runAction S cfg n (.write f) := by
  simp only [runAction, hW, emit_noskip, List.mem_flatMap, List.mem_singleton]
  exact ⟨k, hk, rfl⟩

theorem adminRef_mem (hA : cfg.adminSkipsEmpty = false) (hk : k ∈ pick f n.kids) :
    ({ name := tableRefName k.strs, mode := .admin } : Usage) ∈ runAction S cfg n (.adminRef f) := by
  simp only [runAction, hA, emit_noskip]
  cases hpk : pick f n.kids with
  | nil => rw [hpk] at hk; cases hk
  | cons k0 ks =>
    simp only [List.mem_flatMap, List.mem_singleton]
    exact ⟨k, hpk ▸ hk, rfl⟩

theorem adminStr_mem (hA : cfg.adminSkipsEmpty = false) :
    ({ name := strField n.strs f, mode := .admin } : Usage) ∈ runAction S cfg n (.adminStr f) := by
  simp [runAction, hA, emit_noskip]

/-- an `admin(…)` reports an admin usage even when the field it names is empty -/
theorem admin_emits {a : Action} (hA : cfg.adminSkipsEmpty = false) (ha : isAdminAction a = true) :
    ∃ v ∈ runAction S cfg n a, v.mode = .admin := by
  cases a with
  | adminStr f => exact ⟨_, adminStr_mem hA, rfl⟩
  | adminRef f =>
    cases hpk : pick f n.kids with
    | nil => exact ⟨⟨"", .admin⟩, by simp [runAction, hpk, hA, emit_noskip], rfl⟩
    | cons k ks => exact ⟨_, adminRef_mem hA (hpk ▸ List.mem_cons_self), rfl⟩
  | _ => cases ha

theorem mem_tablesModel {c : StmtCase} {a : Action} {v : Usage} (hfc : findCase C n.ty = some c)
    (ha : a ∈ c.actions) (hv : v ∈ runAction S cfg n a) : v ∈ tablesModel S C cfg n := by
  simp only [tablesModel, hfc, List.mem_flatMap]
  exact ⟨a, ha, hv⟩

theorem Mode.rank_le_admin (m : Mode) : m.rank ≤ Mode.admin.rank := by
  cases m <;> decide

theorem target_covered {t : Target} {a : Action} {s : String}
    (hA : cfg.adminSkipsEmpty = false) (hW : cfg.writeSkipsEmpty = false)
    (hat : targetAction t a = true) (hs : s ∈ targetNames n t) :
    ∃ v ∈ runAction S cfg n a, v.name = s ∧ t.mode.rank ≤ v.mode.rank := by
  cases a with
  | readSelf => cases hat
  | read f => cases hat
  | adminStr f =>
    simp only [targetAction, Bool.and_eq_true, beq_iff_eq] at hat
    simp only [targetNames, hat.1, if_true, List.mem_singleton] at hs
    exact ⟨_, adminStr_mem hA, by rw [hs, hat.2], t.mode.rank_le_admin⟩
  | write f =>
    simp only [targetAction, Bool.and_eq_true, Bool.not_eq_true', beq_iff_eq, decide_eq_true_eq] at hat
    simp only [targetNames, hat.1.1, Bool.false_eq_true, if_false, List.mem_map] at hs
    obtain ⟨k, hk, rfl⟩ := hs
    exact ⟨_, write_mem hW (hat.1.2 ▸ hk), rfl, hat.2⟩
  | adminRef f =>
    simp only [targetAction, Bool.and_eq_true, Bool.not_eq_true', beq_iff_eq] at hat
    simp only [targetNames, hat.1, Bool.false_eq_true, if_false, List.mem_map] at hs
    obtain ⟨k, hk, rfl⟩ := hs
    exact ⟨_, adminRef_mem hA (hat.2 ▸ hk), rfl, t.mode.rank_le_admin⟩

end

/-- **Tables() covers everything the statement touches.**  If `Children()` is complete (`schemaComplete`) and
the `Tables()` switch handles each node-holding field of every statement struct and its target (`casesComplete`;
both decidable over the generated data), then every table a well-typed statement touches — its target, and every
table reference in any expression position at any depth — is reported under the same name with at least that mode. -/
theorem C15_tables_cover (S : Schema) (C : List StmtCase) (cfg : Cfg)
    (hS : schemaComplete S = true) (hC : casesComplete S C cfg = true)
    (n : Node) (hstmt : (S.entry n.ty).isStmt = true) (hwt : WT S n) :
    ∀ u ∈ touched n, ∃ v ∈ tablesModel S C cfg n, v.name = u.name ∧ u.mode.rank ≤ v.mode.rank := by
  simp only [casesComplete, Bool.and_eq_true, Bool.not_eq_true', List.all_eq_true, Bool.or_eq_true] at hC
  obtain ⟨⟨⟨⟨hA, hW⟩, hleaf⟩, hrefNotStmt⟩, hall⟩ := hC
  obtain ⟨hmem, hety⟩ := entry_mem hstmt
  have hcase := hall _ hmem
  rw [hstmt, hety] at hcase
  cases hfc : findCase C n.ty with
  | none => simp [hfc] at hcase
  | some c =>
  simp only [hfc, Bool.true_eq_false, false_or, Bool.and_eq_true, List.all_eq_true,
    List.mem_filter, beq_iff_eq, List.any_eq_true, and_imp] at hcase
  obtain ⟨hfields, htargets⟩ := hcase
  intro u hu
  simp only [touched, List.mem_append, List.mem_flatMap, List.mem_map, List.mem_filter, beq_iff_eq] at hu
  rcases hu with ⟨t, ⟨hts, htty⟩, s, hs, rfl⟩ | ⟨r, hr, rfl⟩
  · obtain ⟨a, ha, hat⟩ := htargets t hts htty
    obtain ⟨v, hv, h1, h2⟩ := target_covered hA hW hat hs
    exact ⟨v, mem_tablesModel hfc ha hv, h1, h2⟩
  · rcases refs_node hr with hroot | ⟨p, hp, k, hk, hrk⟩
    · -- the statement struct itself is not a TableRef
      rw [(refName_eq_some.1 hroot).1, hrefNotStmt] at hstmt
      cases hstmt
    · -- a reference below the child `k` of field `p.1`, which some action `a` of the case handles
      obtain ⟨q, hq, hq1, hq2⟩ := wt_field (hwt _ (self_mem_desc n)) hp
      obtain ⟨a, ha, hcov⟩ := List.any_eq_true.1 (hfields q hq)
      have hwk : WT S k := WT_child hwt hp hk
      have hkpick : k ∈ pick q.1 n.kids := mem_pick.2 ⟨p, hp, hq1.symm, hk⟩
      -- a field of static type `TableRef` holds leaves: the reference below `k` is `k` itself
      have hself (hel : q.2 = refTy) : tableRefName k.strs = r :=
        have hkty : k.ty = refTy := ((hq2 k hk).resolve_left (by rw [hel]; decide)).trans hel
        (refs_leaf hleaf hkty (hwk k (self_mem_desc k)) hrk).symm
      suffices ∃ v ∈ runAction S cfg n a, v.name = r from
        let ⟨v, hv, h1⟩ := this; ⟨v, mem_tablesModel hfc ha hv, h1, Nat.zero_le _⟩
      cases a with
      | adminStr f => cases hcov
      | readSelf => exact ⟨⟨r, .read⟩, read_complete S hS n hwt r hr, rfl⟩
      | read f =>
        simp only [beq_iff_eq] at hcov
        refine ⟨⟨r, .read⟩, ?_, rfl⟩
        simp only [runAction, List.mem_flatMap]
        exact ⟨k, hcov ▸ hkpick, read_complete S hS k hwk r hrk⟩
      | write f =>
        simp only [Bool.and_eq_true, beq_iff_eq] at hcov
        exact ⟨_, write_mem hW (hcov.1 ▸ hkpick), hself hcov.2⟩
      | adminRef f =>
        simp only [Bool.and_eq_true, beq_iff_eq] at hcov
        exact ⟨_, adminRef_mem hA (hcov.1 ▸ hkpick), hself hcov.2⟩

theorem authLoop_snd (s : Sess) (pm : PermMap) (kind : String) (us : List Usage) :
    (authLoop s pm kind us).2 = (us.map (checkFor pm kind)).find? (fun c => !c.holds s) := by
  induction us with
  | nil => rfl
  | cons u us ih =>
    rw [authLoop]
    by_cases hc : (checkFor pm kind u).holds s = true <;> simp [hc, ih]

/-- **allow ⇒ every reported usage had its check made and held.** -/
theorem C15_authz (s : Sess) (pm : PermMap) (kind : String) (us : List Usage)
    (h : (authLoop s pm kind us).2 = none) :
    ∀ u ∈ us, (checkFor pm kind u).holds s = true ∧ checkFor pm kind u ∈ (authLoop s pm kind us).1 := by
  induction us with
  | nil => simp
  | cons u us ih =>
    rw [authLoop] at h ⊢
    by_cases hc : (checkFor pm kind u).holds s = true
    · simp only [hc, if_true] at h ⊢
      exact List.forall_mem_cons.2 ⟨⟨hc, List.mem_cons_self⟩,
        fun v hv => ⟨(ih h v hv).1, List.mem_cons_of_mem _ (ih h v hv).2⟩⟩
    · simp [hc] at h

/-- a denial names a check that really failed and that belongs to a reported usage -/
theorem C15_deny_justified (s : Sess) (pm : PermMap) (kind : String) (us : List Usage) (c : Check)
    (h : (authLoop s pm kind us).2 = some c) :
    c.holds s = false ∧ ∃ u ∈ us, c = checkFor pm kind u := by
  rw [authLoop_snd] at h
  obtain ⟨u, hu, rfl⟩ := List.mem_map.1 (List.mem_of_find?_eq_some h)
  exact ⟨by simpa using List.find?_some h, u, hu, rfl⟩

/-- **End to end.**  If the statement is allowed, every table it touches was checked with a
permission at least as strong as the way it is touched. -/
theorem C15_sound (S : Schema) (C : List StmtCase) (cfg : Cfg) (pm : PermMap) (s : Sess)
    (hS : schemaComplete S = true) (hC : casesComplete S C cfg = true)
    (n : Node) (hstmt : (S.entry n.ty).isStmt = true) (hwt : WT S n)
    (hallow : (authorize S C cfg pm s n).2 = none) :
    ∀ u ∈ touched n, ∃ v : Usage, v.name = u.name ∧ u.mode.rank ≤ v.mode.rank ∧
      (checkFor pm (kindModel C n) v).holds s = true ∧
      checkFor pm (kindModel C n) v ∈ (authorize S C cfg pm s n).1 := by
  intro u hu
  obtain ⟨v, hv, hname, hmode⟩ := C15_tables_cover S C cfg hS hC n hstmt hwt u hu
  have := C15_authz s pm (kindModel C n) (tablesModel S C cfg n) hallow v hv
  exact ⟨v, hname, hmode, this.1, this.2⟩

/-- **Schema-changing statements need DSN-admin.**  If every case of a schema-altering kind performs an
`admin(…)` and the closure drops nothing, an allowed statement of such a kind had the DSN-admin check. -/
theorem C15_ddl_needs_admin (S : Schema) (C : List StmtCase) (cfg : Cfg) (pm : PermMap) (s : Sess)
    (alt : List String) (hD : ddlAdmin C alt = true) (hunk : "StmtUnknown" ∉ alt)
    (hcfg : cfg.adminSkipsEmpty = false)
    (n : Node) (hk : kindModel C n ∈ alt) (hallow : (authorize S C cfg pm s n).2 = none) :
    s.dsnAdmin = true := by
  simp only [kindModel] at hk
  cases hfc : findCase C n.ty with
  | none => rw [hfc] at hk; exact absurd hk hunk
  | some c =>
    simp only [hfc] at hk
    simp only [ddlAdmin, List.all_eq_true, Bool.or_eq_true, Bool.not_eq_true', List.any_eq_true] at hD
    rcases hD c (List.mem_of_find?_eq_some hfc) with h | ⟨a, ha, haa⟩
    · simp [hk] at h
    · obtain ⟨v, hv, hvm⟩ := admin_emits (S := S) (n := n) hcfg haa
      have := (C15_authz s pm _ _ hallow v (mem_tablesModel hfc ha hv)).1
      simpa [checkFor, hvm, Check.holds] using this

/-! ## multi-statement @sql requests: every statement, every usage, with the permission of ITS OWN kind -/

theorem authorizeBatch_cons (S : Schema) (C : List StmtCase) (cfg : Cfg) (pm : PermMap) (s : Sess)
    (n : Node) (ns : List Node) :
    authorizeBatch S C cfg pm s (n :: ns) =
      match (authorize S C cfg pm s n).2 with
      | some c => ((authorize S C cfg pm s n).1, some (0, c))
      | none => ((authorize S C cfg pm s n).1 ++ (authorizeBatch S C cfg pm s ns).1,
          (authorizeBatch S C cfg pm s ns).2.map (fun p => (p.1 + 1, p.2))) := rfl

/-- a request is allowed exactly when each of its statements, taken alone, is allowed -/
theorem C15_batch_allow_iff (S : Schema) (C : List StmtCase) (cfg : Cfg) (pm : PermMap) (s : Sess)
    (ns : List Node) :
    (authorizeBatch S C cfg pm s ns).2 = none ↔ ∀ n ∈ ns, (authorize S C cfg pm s n).2 = none := by
  induction ns with
  | nil => simp [authorizeBatch]
  | cons n ns ih =>
    cases h : (authorize S C cfg pm s n).2 with
    | some c => simp [authorizeBatch_cons, h]
    | none => simp [authorizeBatch_cons, h, ih]

theorem authorizeBatch_checks (S : Schema) (C : List StmtCase) (cfg : Cfg) (pm : PermMap) (s : Sess)
    (ns : List Node) (hallow : ∀ n ∈ ns, (authorize S C cfg pm s n).2 = none) :
    (authorizeBatch S C cfg pm s ns).1 = ns.flatMap fun n => (authorize S C cfg pm s n).1 := by
  induction ns with
  | nil => rfl
  | cons n ns ih =>
    rw [authorizeBatch_cons, hallow n List.mem_cons_self, List.flatMap_cons,
      ih fun m hm => hallow m (List.mem_cons_of_mem n hm)]

/-- **End to end for a multi-statement request.**  If the request is allowed then for EVERY statement in
it, every table that statement touches was checked with a permission at least as strong as the way it is
touched — and a written table with the permission `writePermissionForKind` gives for that statement's own
kind (`kindModel C n`), not the kind of some other statement of the request. -/
theorem C15_batch_sound (S : Schema) (C : List StmtCase) (cfg : Cfg) (pm : PermMap) (s : Sess)
    (hS : schemaComplete S = true) (hC : casesComplete S C cfg = true) (ns : List Node)
    (hstmt : ∀ n ∈ ns, (S.entry n.ty).isStmt = true ∧ WT S n)
    (hallow : (authorizeBatch S C cfg pm s ns).2 = none) :
    ∀ n ∈ ns, ∀ u ∈ touched n, ∃ v : Usage, v.name = u.name ∧ u.mode.rank ≤ v.mode.rank ∧
      (checkFor pm (kindModel C n) v).holds s = true ∧
      checkFor pm (kindModel C n) v ∈ (authorizeBatch S C cfg pm s ns).1 := by
  intro n hn u hu
  have hall := (C15_batch_allow_iff S C cfg pm s ns).mp hallow
  obtain ⟨v, h1, h2, h3, h4⟩ :=
    C15_sound S C cfg pm s hS hC n (hstmt n hn).1 (hstmt n hn).2 (hall n hn) u hu
  rw [authorizeBatch_checks S C cfg pm s ns hall]
  exact ⟨v, h1, h2, h3, List.mem_flatMap.2 ⟨n, hn, h4⟩⟩

/-- a refused request names a statement of the request and a check of that statement that really failed;
every earlier statement was allowed on its own -/
theorem C15_batch_deny_justified (S : Schema) (C : List StmtCase) (cfg : Cfg) (pm : PermMap) (s : Sess)
    (ns : List Node) (i : Nat) (c : Check) (h : (authorizeBatch S C cfg pm s ns).2 = some (i, c)) :
    c.holds s = false ∧ (∃ n, ns[i]? = some n ∧ (authorize S C cfg pm s n).2 = some c) ∧
    ∀ j, j < i → ∀ m, ns[j]? = some m → (authorize S C cfg pm s m).2 = none := by
  induction ns generalizing i with
  | nil => simp [authorizeBatch] at h
  | cons n ns ih =>
    cases h' : (authorize S C cfg pm s n).2 with
    | some c0 =>
      simp only [authorizeBatch_cons, h', Option.some.injEq, Prod.mk.injEq] at h
      obtain ⟨rfl, rfl⟩ := h
      exact ⟨(C15_deny_justified s pm _ _ _ h').1, ⟨n, rfl, h'⟩, fun j hj => absurd hj (Nat.not_lt_zero j)⟩
    | none =>
      simp only [authorizeBatch_cons, h', Option.map_eq_some_iff, Prod.mk.injEq] at h
      obtain ⟨⟨i0, c0⟩, hq, rfl, rfl⟩ := h
      obtain ⟨g1, g2, g3⟩ := ih i0 hq
      refine ⟨g1, g2, fun j hj m hm => ?_⟩
      cases j with
      | zero => exact Option.some.inj hm ▸ h'
      | succ j => exact g3 j (Nat.lt_of_succ_lt_succ hj) m hm

/-! ## witnesses: the defects the hypotheses rule out, and non-vacuity of every implication -/

namespace Demo

def tref (name : String) : Node := .mk "TableRef" [("Schema", ""), ("Name", name)] []

/-- an excerpt of the real schema: two statements, two expression structs, the leaf -/
def S0 : Schema := [
  { ty := "UpdateStmt", isStmt := true,
    nodeFields := [("Table", "TableRef"), ("Set", "SetClause"), ("Where", "Node")],
    visited := ["Table", "Set", "Where"] },
  { ty := "DropIndexStmt", isStmt := true, nodeFields := [], visited := [] },
  { ty := "SetClause", isStmt := false, nodeFields := [("Value", "Node")], visited := ["Value"] },
  { ty := "Subquery", isStmt := false, nodeFields := [("Select", "Node")], visited := ["Select"] },
  { ty := "TableRef", isStmt := false, nodeFields := [], visited := [] }]

/-- `UPDATE t SET a = (SELECT … FROM secret)` -/
def upd : Node :=
  .mk "UpdateStmt" [] [("Table", [tref "t"]),
    ("Set", [.mk "SetClause" [] [("Value", [.mk "Subquery" [] [("Select", [tref "secret"])]])]]),
    ("Where", [])]

/-- `DROP INDEX idx1` -/
def dropIdx : Node := .mk "DropIndexStmt" [("Schema", ""), ("Name", "idx1")] []

/-- the two cases as they were before fixes/C15.patch … -/
def oldCases : List StmtCase := [
  { ty := "UpdateStmt", kind := "StmtUpdate", actions := [.write "Table", .read "Where"] },
  { ty := "DropIndexStmt", kind := "StmtDropIndex", actions := [] }]
def oldCfg : Cfg := ⟨true, true⟩

/-- … and after it -/
def newCases : List StmtCase := [
  { ty := "UpdateStmt", kind := "StmtUpdate", actions := [.write "Table", .read "Where", .read "Set"] },
  { ty := "DropIndexStmt", kind := "StmtDropIndex", actions := [.adminStr "Name"] }]
def newCfg : Cfg := ⟨false, false⟩

def pm : PermMap := { cases := [("StmtUpdate", "TableUpdatePermission")], dflt := "TableWritePermission" }

/-- a caller who may update `t` and nothing else -/
def onlyT : Sess := { table := fun t p => t == "t" && p == "TableUpdatePermission", dsnAdmin := false }

end Demo

open Demo in
/-- **The UPDATE … SET defect.**  With the unpatched case table the statement touches `secret` for
reading, `Tables()` reports only `t`, and a caller holding nothing on `secret` is allowed. -/
theorem C15_update_set_counterexample :
    ({ name := "secret", mode := .read } : Usage) ∈ touched upd ∧
    tablesModel S0 oldCases oldCfg upd = [{ name := "t", mode := .write }] ∧
    (authorize S0 oldCases oldCfg pm onlyT upd).2 = none ∧
    casesComplete S0 oldCases oldCfg = false := by decide +kernel

open Demo in
/-- **The DROP INDEX defect.**  Unpatched, a schema-altering statement reports nothing, so it is allowed
without DSN-admin; `ddlAdmin` is the hypothesis that rules it out. -/
theorem C15_drop_index_counterexample :
    tablesModel S0 oldCases oldCfg dropIdx = [] ∧
    (authorize S0 oldCases oldCfg pm onlyT dropIdx).2 = none ∧ onlyT.dsnAdmin = false ∧
    ddlAdmin oldCases ["StmtDropIndex"] = false := by decide

open Demo in
/-- **The empty-name defect.**  Unpatched, `DELETE FROM ""` (write closure drops the empty name) is unchecked. -/
theorem C15_empty_name_counterexample :
    runAction S0 oldCfg (.mk "DeleteStmt" [] [("Table", [tref ""])]) (.write "Table") = [] ∧
    runAction S0 newCfg (.mk "DeleteStmt" [] [("Table", [tref ""])]) (.write "Table")
      = [{ name := "", mode := .write }] := by decide

/-! non-vacuity: the hypotheses of the theorems are met by the patched excerpt, and the conclusions bite -/
open Demo in
example : schemaComplete S0 = true ∧ casesComplete S0 newCases newCfg = true ∧
    ddlAdmin newCases ["StmtDropIndex"] = true := by decide +kernel
open Demo in
example : (S0.entry upd.ty).isStmt = true := by decide
open Demo in
example : (desc upd).all (wtNode S0) = true := by decide +kernel
open Demo in
example : tablesModel S0 newCases newCfg upd =
    [{ name := "t", mode := .write }, { name := "secret", mode := .read }] := by decide +kernel
open Demo in
example : (authorize S0 newCases newCfg pm onlyT upd) =
    ([.table "t" "TableUpdatePermission", .table "secret" "TableReadPermission"],
     some (.table "secret" "TableReadPermission")) := by decide +kernel
open Demo in
example : (authorize S0 newCases newCfg pm onlyT dropIdx).2 = some .dsnAdmin := by decide
open Demo in
example : (authorize S0 newCases newCfg pm
    { table := fun _ _ => true, dsnAdmin := true } upd).2 = none := by decide +kernel
example : baseTableName "main.secret" = "secret" ∧ baseTableName "t0" = "t0" := by decide
/-- a tree whose `Children()` skipped a field would not be covered: completeness is a real hypothesis -/
example : schemaComplete [⟨"UpdateStmt", true, [("Set", "SetClause")], []⟩] = false := by decide

/-! ### why nothing may be carried from one statement of a request to the next

`UsageWrite` stands for three different permissions (insert / update / delete) depending on the kind of the
statement the reference came from.  A loop that remembers "this (table, usage) was allowed earlier in the
request" and skips the lookup for it answers for the wrong permission. -/
namespace Demo

/-- the loop of authorizeStatement with a per-request memory of allowed references keyed by
(base table name, usage mode) -/
def authLoopMemo (s : Sess) (pm : PermMap) (kind : String) :
    List Usage → List (String × Mode) → Option Check × List (String × Mode)
  | [], g => (none, g)
  | u :: us, g =>
    let key := (baseTableName u.name, u.mode)
    if g.contains key then authLoopMemo s pm kind us g
    else
      let c := checkFor pm kind u
      if c.holds s then authLoopMemo s pm kind us (key :: g) else (some c, g)

def authorizeBatchMemo (S : Schema) (C : List StmtCase) (cfg : Cfg) (pm : PermMap) (s : Sess) :
    List Node → List (String × Mode) → Option Check
  | [], _ => none
  | n :: ns, g =>
    let r := authLoopMemo s pm (kindModel C n) (tablesModel S C cfg n) g
    match r.1 with
    | some c => some c
    | none => authorizeBatchMemo S C cfg pm s ns r.2

def dmlCases : List StmtCase := [
  { ty := "InsertStmt", kind := "StmtInsert", actions := [.write "Table"] },
  { ty := "UpdateStmt", kind := "StmtUpdate", actions := [.write "Table", .read "Where", .read "Set"] },
  { ty := "DeleteStmt", kind := "StmtDelete", actions := [.write "Table", .read "Where"] }]

def pm3 : PermMap :=
  { cases := [("StmtUpdate", "TableUpdatePermission"), ("StmtDelete", "TableDeletePermission")],
    dflt := "TableWritePermission" }

/-- `INSERT INTO t …` ; `DELETE FROM t` -/
def insT : Node := .mk "InsertStmt" [] [("Table", [tref "t"])]
def delT : Node := .mk "DeleteStmt" [] [("Table", [tref "t"]), ("Where", [])]

/-- a caller who may insert into `t` and nothing else -/
def insertOnly : Sess := { table := fun t p => t == "t" && p == "TableWritePermission", dsnAdmin := false }

end Demo

open Demo in
/-- **Cross-statement carry-over is unsound.**  `INSERT INTO t; DELETE FROM t` from a caller holding only
the insert permission: the code's loop refuses the request at statement 1 for the delete permission; the
remembering loop allows it, although the DELETE alone is refused. -/
theorem C15_batch_memo_counterexample :
    (authorizeBatch S0 dmlCases newCfg pm3 insertOnly [insT, delT]).2
      = some (1, .table "t" "TableDeletePermission") ∧
    (authorize S0 dmlCases newCfg pm3 insertOnly delT).2 = some (.table "t" "TableDeletePermission") ∧
    authorizeBatchMemo S0 dmlCases newCfg pm3 insertOnly [insT, delT] [] = none := by decide +kernel

/-! non-vacuity of the batch theorems -/
open Demo in
example : (authorizeBatch S0 dmlCases newCfg pm3
    { table := fun _ _ => true, dsnAdmin := false } [insT, delT]) =
    ([.table "t" "TableWritePermission", .table "t" "TableDeletePermission"], none) := by decide +kernel
open Demo in
example : (authorizeBatch S0 newCases newCfg pm onlyT [upd, dropIdx]).2
    = some (0, .table "secret" "TableReadPermission") := by decide +kernel
open Demo in
example : (authorizeBatch S0 newCases newCfg pm
    { table := fun _ _ => true, dsnAdmin := false } [upd, dropIdx]).2 = some (1, .dsnAdmin) := by decide +kernel

end EgoVerif.C15
