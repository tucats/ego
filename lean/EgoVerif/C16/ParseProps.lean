import EgoVerif.C16.ParseLemmas
/-
C16 — the ladder parser reads the token list of a parser-shaped, well-formed expression back (`parse_toks`):
each expression is read at its own tier and passes untouched through the tiers below it.  Conversely every
expression the parser returns is parser-shaped (`parse_canon_all`).
-/
namespace EgoVerif.C16

/-- the parse statement at one level: after `toks e`, the level's loop continues with `e` as its left operand -/
def ParsesAt (e : Expr) (l : Nat) : Prop :=
  ∀ (R : List Tok) (res : PR), Follow (l + 1) R → Ev (fun n => loop n l e R) res →
    Ev (fun n => parseAt n l (toks e ++ R)) res

theorem ParsesAt.of_ok {e : Expr} {l : Nat} (hl : l = 2 ∨ l = 8 ∨ l = 9)
    (h : ∀ R, Follow (l + 1) R → Ev (fun n => parseAt n l (toks e ++ R)) (.ok e R)) : ParsesAt e l :=
  fun R _ hF hres => Ev.unique hres (loop_id hl e R) ▸ h R hF

theorem ParsesAt.ok {e : Expr} {l : Nat} {R : List Tok} (h : ParsesAt e l) (hF : Follow l R) :
    Ev (fun n => parseAt n l (toks e ++ R)) (.ok e R) :=
  h R _ (hF.mono (Nat.le_succ l)) (loop_stop hF)

theorem ParsesAt.primary {e : Expr}
    (h : ∀ R, Follow 10 R → Ev (fun n => parsePrimary n (toks e ++ R)) (.ok e R)) : ParsesAt e 9 :=
  .of_ok (.inr (.inr rfl)) fun R hF => (h R hF).of_succ fun n hn => by
    rw [parseAt_primary n _ (Nat.le_refl 9), hn]
    simp only [(follow_head_facts hF).1, Bool.false_eq_true, if_false]

theorem pass_through {e : Expr} {l : Nat} (hl : l < 9) (hc : canon (l + 1) e = true) (hw : wf e = true)
    (hnext : ParsesAt e (l + 1)) : ParsesAt e l := by
  obtain ⟨t, rest, htk, _, _, _, hnot, hun⟩ := toks_head e hw
  by_cases h2 : l = 2
  · subst h2
    refine .of_ok (.inl rfl) fun R hF => Ev.step (fun n => ?_) (hnext.ok hF)
    rw [htk, List.cons_append, parseAt_not_cons, hnot 3 hc (Nat.le_refl 3), Bool.false_and, if_neg Bool.false_ne_true]
  · by_cases h8 : l = 8
    · subst h8
      refine .of_ok (.inr (.inl rfl)) fun R hF => Ev.step (fun n => ?_) (hnext.ok hF)
      rw [htk, List.cons_append, parseAt_unary_cons, hnot 9 hc (by omega), Bool.false_and,
        if_neg Bool.false_ne_true, hun hc]
    · exact fun R res hF hres => Ev.step (parseAt_bin · _ h2 h8 hl) (ev_bind (hnext.ok hF) hres)

theorem ParsesAt.descend {e : Expr} {l : Nat} (hw : wf e = true) (hc : canon l e = true)
    (h : ParsesAt e e.tier) : ParsesAt e l := by
  obtain ⟨hl, hct⟩ := canon_tier.1 hc
  obtain ⟨d, hd⟩ := Nat.le.dest hl
  clear hc hl
  induction d generalizing l with
  | zero => exact (show l = e.tier from hd) ▸ h
  | succ d ih =>
    have := e.tier_le
    exact pass_through (by omega) (canon_mono hct (by omega)) hw (ih (by omega))

theorem parse_toks (e : Expr) : ∀ l, canon l e = true → wf e = true → ParsesAt e l := by
  induction e with intro l hc hw
  | col s t c =>
    refine .descend hw hc (.primary fun R hF => .of_succ_const fun n => ?_)
    obtain ⟨hst, hsafe⟩ : (s.isEmpty || !t.isEmpty) = true ∧ nameSafe (firstPart s t c) = true := by
      simpa only [wf, Bool.and_eq_true] using hw
    have hk := fun k => isKw_idTok (k := k) hsafe
    simp only [kwBad, List.forall_mem_cons, idTok] at hk
    obtain ⟨rest, hr⟩ := toks_col_head s t c
    rw [hr, List.cons_append, idTok, parsePrimary_ident]
    simp only [hk, Bool.or_self, Bool.false_eq_true, if_false]
    have hpar := (follow_head_facts hF).2
    by_cases hs : s = []
    · by_cases ht : t = []
      · obtain ⟨-, rfl⟩ : _ ∧ rest = [] := by simpa [toks, hs, ht] using hr
        simp [firstPart, hs, ht, identChain_stop hF, hpar]
      · obtain ⟨-, rfl⟩ : _ ∧ [.punct '.', idTok c] = rest := by simpa [toks, hs, ht] using hr
        simp [firstPart, hs, ht, idTok, identChain, identChain_stop hF, hpar]
    · have ht : t ≠ [] := fun e => by simp [hs, e] at hst
      obtain ⟨-, rfl⟩ : _ ∧ [.punct '.', idTok t, .punct '.', idTok c] = rest := by simpa [toks, hs, ht] using hr
      simp [firstPart, hs, idTok, identChain, identChain_stop hF, hpar]
  | paren x ih =>
    obtain ⟨t, rest, htk, _, hsel, hwith, _, _⟩ := toks_head x hw
    refine .descend hw hc (.primary fun R _ => ?_)
    simp [canon] at hc
    refine ((ih 0 hc.2 hw).ok (.inr (.inl ⟨R, rfl⟩))).of_succ fun n hn => ?_
    have e : toks (.paren x) ++ R = .punct '(' :: t :: (rest ++ .punct ')' :: R) := by simp [toks, htk]
    rw [htk, List.cons_append] at hn
    rw [e, parsePrimary_lparen]
    simp only [headKw, hsel, hwith, hn, Bool.or_self, Bool.false_eq_true, if_false]
    rfl
  | not x ih =>
    obtain ⟨t, rest, htk, hex, _⟩ := toks_head x hw
    refine .descend hw hc (.of_ok (.inl rfl) fun R hF => ?_)
    simp [canon] at hc
    refine (ih 2 hc.2 hw R _ hF (loop_id (.inl rfl) x R)).of_succ fun n hn => ?_
    have h2 : headKw (toks x ++ R) "exists".toList = false := by rw [htk]; exact hex
    show parseAt (n + 1) 2 (.ident "NOT".toList false :: (toks x ++ R)) = _
    rw [parseAt_not_cons, h2, hn]
    rfl
  | un op x ih =>
    refine .descend hw hc (.of_ok (.inr (.inl rfl)) fun R hF => ?_)
    simp [canon] at hc
    refine (ih 8 hc.2 hw R _ hF (loop_id (.inr (.inl rfl)) x R)).of_succ fun n hn => ?_
    show parseAt (n + 1) 8 (.op op.text :: (toks x ++ R)) = _
    rw [parseAt_unary_cons, hn]
    cases op <;> rfl
  | bin op x y ihx ihy =>
    refine .descend hw hc fun R res hF hres => ?_
    simp [canon] at hc
    simp [wf] at hw
    -- the loop of the operator's tier, entered with `x`, reads the operator and `y` and goes on with `x op y`
    have hloop : Ev (fun n => loop n op.level x (binTok op :: (toks y ++ R))) res :=
      Ev.step (fun n => by rw [loop_cons, binAt_binTok, if_pos rfl])
        (ev_bind (g := fun n b r => loop n op.level (.bin op x b) r) ((ihy _ hc.2 hw.2).ok hF) hres)
    have hx := ihx _ hc.1.2 hw.1 _ res (.inr (.inr ⟨op, _, rfl, Nat.lt_succ_self _⟩)) hloop
    show Ev (fun n => parseAt n op.level ((toks x ++ binTok op :: toks y) ++ R)) res
    rw [List.append_assoc]
    exact hx
  | bool b => exact .descend hw hc (.primary fun R _ => .of_succ_const fun n => by cases b <;> rfl)
  | _ => exact .descend hw hc (.primary fun R _ => .of_succ_const fun n => rfl)

theorem parse_canon_all (n : Nat) :
    (∀ l ts e r, l ≤ 9 → parseAt n l ts = .ok e r → canon l e = true) ∧
    (∀ l left ts e r, l ≤ 7 → canon l left = true → loop n l left ts = .ok e r → canon l e = true) ∧
    (∀ ts e r, parsePrimary n ts = .ok e r → canon 9 e = true) := by
  induction n with
  | zero => exact ⟨fun _ _ _ _ _ h => (by cases h), fun _ _ _ _ _ _ _ h => (by cases h), fun _ _ _ h => (by cases h)⟩
  | succ n ih =>
    obtain ⟨ihA, ihB, ihC⟩ := ih
    have sub : ∀ {l l' ts e r}, l ≤ l' → l' ≤ 9 → parseAt n l' ts = .ok e r → canon l e = true :=
      fun h1 h2 h => canon_mono (ihA _ _ _ _ h2 h) h1
    -- `fun_cases` splits a call along the branches of the definition, and wants the fuel to be a variable
    generalize hm : n + 1 = m
    refine ⟨fun l ts e r hl => ?_, fun l left ts e r hl hleft => ?_, fun ts e r => ?_⟩
    · fun_cases parseAt m l ts <;> injection hm <;> subst_vars <;> intro h
      -- `NOT x`, `op x`, a primary, the result of the tier's loop
      case case2 hx h2 => cases h; simp [canon, eq_of_beq h2, sub (Nat.le_refl 2) (by decide) hx]
      case case7 hx _ h8 => cases h; simp [canon, eq_of_beq h8, sub (Nat.le_refl 8) (by decide) hx]
      case case12 hx => cases h; exact canon_mono (ihC _ _ _ hx) hl
      case case13 => exact canon_mono (ihC _ _ _ h) hl
      case case14 h8 _ hx =>
        have := ne_of_beq_false (Bool.eq_false_iff.2 h8)
        exact ihB l _ _ e r (by omega) (sub (Nat.le_succ l) (by omega) hx) h
      -- `NOT EXISTS` and `COLLATE` are outside the model
      case case6 | case11 => cases h
      -- the other branches pass on what a tighter tier returned
      all_goals simp only [beq_iff_eq] at *
      all_goals exact sub (by omega) (by omega) h
    · fun_cases loop m l left ts <;> injection hm <;> subst_vars <;> intro h
      -- an operator and its right operand, then the loop again
      case case3 hop hx =>
        refine ihB l _ _ e r hl ?_ h
        simp [canon, binAt_level hop, hleft, sub (Nat.le_refl _) (by omega) hx]
      case case4 => exact sub (Nat.le_succ l) (by omega) h
      -- the other branches fail or return the left operand
      all_goals cases h
      all_goals exact hleft
    · fun_cases parsePrimary m ts <;> injection hm <;> subst_vars <;> intro h
      -- `( x )`, and a failure inside the parentheses passed on
      case case8 hx _ => cases h; simp [canon, sub (Nat.le_refl 0) (by decide) hx]
      case case12 hcons hnil =>
        cases r with
        | nil => exact (hnil e h).elim
        | cons t r' => exact (hcons e t r' h).elim
      -- the other branches fail or return a literal or a column reference
      all_goals cases h
      all_goals rfl

end EgoVerif.C16
