import EgoVerif.C16.Model
/-
C16 — `Ev`, the 'from some fuel on' predicate in which the statements are written, and the lexer reading back each
kind of token the printer writes.
-/
namespace EgoVerif.C16

def Ev {α : Type} (f : Nat → α) (r : α) : Prop := ∃ N, ∀ n, N ≤ n → f n = r

theorem Ev.const {α : Type} (r : α) : Ev (fun _ => r) r := ⟨0, fun _ _ => rfl⟩

theorem Ev.map {α β : Type} {f : Nat → α} {a : α} (φ : α → β) (h : Ev f a) : Ev (fun n => φ (f n)) (φ a) := by
  obtain ⟨N, hN⟩ := h
  exact ⟨N, fun n hn => congrArg φ (hN n hn)⟩

theorem Ev.of_succ {α β : Type} {f : Nat → β} {g : Nat → α} {a : α} {b : β}
    (h : ∀ n, g n = a → f (n + 1) = b) (hg : Ev g a) : Ev f b := by
  obtain ⟨N, hN⟩ := hg
  refine ⟨N + 1, fun n hn => ?_⟩
  obtain ⟨m, rfl⟩ : ∃ m, n = m + 1 := ⟨n - 1, by omega⟩
  exact h m (hN m (by omega))

theorem Ev.step {α : Type} {f g : Nat → α} {r : α} (h : ∀ n, f (n + 1) = g n) (hg : Ev g r) : Ev f r :=
  hg.of_succ fun n e => (h n).trans e

theorem Ev.of_succ_const {α : Type} {f : Nat → α} {r : α} (h : ∀ n, f (n + 1) = r) : Ev f r :=
  Ev.step h (Ev.const r)

theorem Ev.unique {α : Type} {f : Nat → α} {a b : α} (ha : Ev f a) (hb : Ev f b) : a = b := by
  obtain ⟨N, hN⟩ := ha
  obtain ⟨M, hM⟩ := hb
  rw [← hN (max N M) (Nat.le_max_left _ _), hM (max N M) (Nat.le_max_right _ _)]

theorem Ev.both {α β : Type} {f : Nat → α} {g : Nat → β} {a : α} {b : β} (ha : Ev f a) (hb : Ev g b) :
    ∃ N, ∀ n, N ≤ n → f n = a ∧ g n = b := by
  obtain ⟨N, hN⟩ := ha
  obtain ⟨M, hM⟩ := hb
  exact ⟨max N M, fun n hn => ⟨hN n (by omega), hM n (by omega)⟩⟩

theorem Ev.congr {α : Type} {f g : Nat → α} {r : α} (h : ∀ n, f n = g n) (hg : Ev g r) : Ev f r := by
  obtain ⟨N, hN⟩ := hg
  exact ⟨N, fun n hn => by rw [h]; exact hN n hn⟩

theorem beq_false_of {p : Char → Bool} {c d : Char} (hc : p c = true) (hd : p d = false) : (c == d) = false :=
  beq_eq_false_iff_ne.2 fun e => by rw [e, hd] at hc; cases hc

theorem isWs_false_of {p : Char → Bool} {c : Char} (hc : p c = true)
    (hp : (p ' ' || p '\t' || p '\r' || p '\n') = false) : isWs c = false := by
  simp only [Bool.or_eq_false_iff] at hp
  simp only [isWs, beq_false_of hc hp.1.1.1, beq_false_of hc hp.1.1.2, beq_false_of hc hp.1.2, beq_false_of hc hp.2,
    Bool.or_self]

theorem digit_not_identStart {c : Char} (h : isDigit c = true) : isIdentStart c = false := by
  have hu : (c == '_') = false := beq_false_of h rfl
  simp only [isDigit, Bool.and_eq_true, decide_eq_true_eq] at h
  simp only [isIdentStart, isLetter, hu, Bool.false_or, Bool.or_eq_false_iff, Bool.and_eq_false_iff,
    decide_eq_false_iff_not]
  omega

theorem bareCont_identCont {c : Char} (h : isBareCont c = true) : isIdentCont c = true := by
  simp [isBareCont, isIdentCont] at *
  rcases h with (h | h) | h <;> simp [h]

theorem identStart_identCont {c : Char} (h : isIdentStart c = true) : isIdentCont c = true := by
  simp [isIdentStart, isIdentCont] at *
  rcases h with h | h <;> simp [h]

theorem spanWhile_all (p : Char → Bool) (w s : List Char) (hw : w.all p = true) (hs : p (peek0 s) = false) :
    spanWhile p (w ++ s) = (w, s) := by
  induction w with
  | nil =>
    cases s with
    | nil => rfl
    | cons d r => simp [peek0] at hs; simp [spanWhile, hs]
  | cons c cs ih =>
    rw [List.all_cons, Bool.and_eq_true] at hw
    simp [spanWhile, hw.1, ih hw.2]

theorem lex_tok {t : Tok} {x s : List Char} {r : List Tok} (hx : ∀ n, lexN (n + 1) x = emit t (lexN n s))
    (h : Ev (fun n => lexN n s) (some r)) : Ev (fun n => lexN n x) (some (t :: r)) :=
  Ev.step hx (h.map (emit t))

theorem lex_bare {w s : List Char} {r : List Tok} (hw : isBareIdent w = true)
    (hs : isIdentCont (peek0 s) = false) (hq : (peek0 s == '\'') = false)
    (h : Ev (fun n => lexN n s) (some r)) :
    Ev (fun n => lexN n (w ++ s)) (some (.ident w false :: r)) := by
  cases w with
  | nil => simp [isBareIdent] at hw
  | cons c cs =>
    simp [isBareIdent] at hw
    obtain ⟨hc, hcs⟩ := hw
    have hall : (c :: cs).all isIdentCont = true := by
      simpa using ⟨identStart_identCont hc, fun x hx => bareCont_identCont (hcs x hx)⟩
    have hsp : spanWhile isIdentCont (c :: (cs ++ s)) = (c :: cs, s) := spanWhile_all isIdentCont (c :: cs) s hall hs
    refine lex_tok (fun n => ?_) h
    show lexN (n + 1) (c :: (cs ++ s)) = _
    simp [lexN, isWs_false_of hc rfl, beq_false_of hc (d := '-') rfl, beq_false_of hc (d := '/') rfl, hc, hsp, hq]

theorem scanDelim_dbl (q : Char) (v s : List Char) (hs : (peek0 s == q) = false) :
    scanDelim q (dbl q v ++ q :: s) = some (v, s) := by
  induction v with
  | nil =>
    cases s with
    | nil => simp [dbl, scanDelim]
    | cons d r => simp [peek0] at hs; simp [dbl, scanDelim, hs]
  | cons c cs ih =>
    by_cases hc : c = q
    · subst hc; simp [dbl, scanDelim, ih]
    · have hcq : (c == q) = false := by simp [hc]
      simp only [dbl, hcq]
      rw [scanDelim.eq_def]
      simp [hcq, ih]

theorem lex_space {s : List Char} {r : List Tok}
    (h : Ev (fun n => lexN n s) (some r)) : Ev (fun n => lexN n (' ' :: s)) (some r) :=
  Ev.step (fun _ => rfl) h

theorem lex_quoted {w s : List Char} {r : List Tok} (hs : (peek0 s == '"') = false)
    (h : Ev (fun n => lexN n s) (some r)) :
    Ev (fun n => lexN n (quoteIdent w ++ s)) (some (.ident w true :: r)) := by
  refine lex_tok (fun n => ?_) h
  have := scanDelim_dbl '"' w s hs
  simp only [quoteIdent, List.cons_append, List.append_assoc]
  simp [lexN, isWs, isIdentStart, isLetter, this]

theorem lex_string {v s : List Char} {r : List Tok} (hs : (peek0 s == '\'') = false)
    (h : Ev (fun n => lexN n s) (some r)) :
    Ev (fun n => lexN n ('\'' :: (dbl '\'' v ++ ['\'']) ++ s)) (some (.str v :: r)) := by
  refine lex_tok (fun n => ?_) h
  have := scanDelim_dbl '\'' v s hs
  simp only [List.cons_append, List.append_assoc]
  simp [lexN, isWs, isIdentStart, isLetter, this]

theorem lex_punct {c : Char} {s : List Char} {r : List Tok} (hc : c = '(' ∨ c = ')' ∨ (c = '.' ∧ isDigit (peek0 s) = false))
    (h : Ev (fun n => lexN n s) (some r)) : Ev (fun n => lexN n (c :: s)) (some (.punct c :: r)) := by
  refine lex_tok (fun n => ?_) h
  rcases hc with rfl | rfl | ⟨rfl, hd⟩
  · rfl
  · rfl
  · have h0 : isDigit '.' = false := by decide
    simp [lexN, isWs, isIdentStart, isLetter, hd, h0]

/-- what may follow a complete operand in printed text: end of input, a space, or a closing parenthesis -/
def Delim (s : List Char) : Prop := peek0 s = Char.ofNat 0 ∨ peek0 s = ' ' ∨ peek0 s = ')'

theorem Delim.not {s : List Char} (h : Delim s) (p : Char → Bool)
    (hp : (p (Char.ofNat 0) || p ' ' || p ')') = false) : p (peek0 s) = false := by
  simp only [Bool.or_eq_false_iff] at hp
  rcases h with h | h | h <;> rw [h]
  · exact hp.1.1
  · exact hp.1.2
  · exact hp.2

theorem lex_num {d s : List Char} {r : List Tok} (hd : d ≠ []) (hall : d.all isDigit = true) (hs : Delim s)
    (h : Ev (fun n => lexN n s) (some r)) :
    Ev (fun n => lexN n (d ++ s)) (some (.num d :: r)) := by
  cases d with
  | nil => exact absurd rfl hd
  | cons c cs =>
    obtain ⟨hc, hcs⟩ : isDigit c = true ∧ cs.all isDigit = true := by simpa only [List.all_cons, Bool.and_eq_true] using hall
    have hsp : spanWhile isDigit (c :: (cs ++ s)) = (c :: cs, s) :=
      spanWhile_all isDigit (c :: cs) s hall (hs.not isDigit rfl)
    -- no hex prefix: the second character is a digit or what follows the number
    have hx : (peek0 (cs ++ s) == 'x' || peek0 (cs ++ s) == 'X') = false := by
      cases cs with
      | nil => exact hs.not (fun c => c == 'x' || c == 'X') rfl
      | cons c' _ =>
        rw [List.all_cons, Bool.and_eq_true] at hcs
        show (c' == 'x' || c' == 'X') = false
        rw [beq_false_of hcs.1 rfl, beq_false_of hcs.1 rfl]; rfl
    have hsn : scanNum (c :: (cs ++ s)) = some (c :: cs, s) := by
      simp [scanNum, hsp, show peek0 (c :: (cs ++ s)) = c from rfl, hx, hs.not (· == '.') rfl,
        hs.not (· == 'e') rfl, hs.not (· == 'E') rfl]
    have ne : ∀ {d}, isDigit d = false → (c == d) = false := beq_false_of hc
    refine lex_tok (fun n => ?_) h
    show lexN (n + 1) (c :: (cs ++ s)) = _
    simp [lexN, isWs_false_of hc rfl, ne (d := '-') rfl, ne (d := '/') rfl, digit_not_identStart hc, ne (d := '"') rfl,
      ne (d := '`') rfl, ne (d := '[') rfl, ne (d := '\'') rfl, hc, hsn]

/-- the token the printer's text for a binary operator lexes to -/
def binTok (op : BinOp) : Tok :=
  match op with
  | .or => .ident "OR".toList false
  | .and => .ident "AND".toList false
  | o => .op o.text

theorem lex_binop {op : BinOp} {s : List Char} {r : List Tok}
    (h : Ev (fun n => lexN n s) (some r)) :
    Ev (fun n => lexN n (op.text ++ ' ' :: s)) (some (binTok op :: r)) :=
  lex_tok (fun n => by cases op <;> rfl) (lex_space h)

theorem lex_unop {op : UnOp} {s : List Char} {r : List Tok}
    (hneg : op = .neg → (peek0 s == '-') = false ∧ (peek0 s == '>') = false)
    (h : Ev (fun n => lexN n s) (some r)) :
    Ev (fun n => lexN n (op.text ++ s)) (some (.op op.text :: r)) := by
  refine lex_tok (fun n => ?_) h
  cases op
  case neg =>
    cases s with
    | nil => rfl
    | cons d t =>
      obtain ⟨h1, h2⟩ : (d == '-') = false ∧ (d == '>') = false := hneg rfl
      have h3 : ('>' == d) = false := beq_eq_false_iff_ne.2 fun e => beq_eq_false_iff_ne.1 h2 e.symm
      simp [UnOp.text, lexN, isWs, isIdentStart, isLetter, isDigit, peek0, scanOp, multiOps, singleOps, List.isPrefixOf,
        List.find?, h1, h3]
  all_goals rfl

end EgoVerif.C16
