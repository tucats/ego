import EgoVerif.C16.LexProps
/-
C16 — the ladder parser through its equations (one per tier group of `parseAt`, the tier loop, `parsePrimary` per
head token), the operator table as `binAt` sees it, what may follow an operand (`Follow`), first-token facts of `toks`.
-/
namespace EgoVerif.C16

/-! ### equations of the ladder

Each holds by unfolding and spells the keywords as the model does (`"not".toList`); the proofs that use them rewrite
with them and state keyword facts in the same spelling.  (`simp [parseAt]` instead turns the string literals into
character lists and then has to evaluate `String.toList` to justify it, which is very slow.) -/

theorem parseAt_not_nil (n : Nat) : parseAt (n + 1) 2 [] = parseAt n 3 [] := rfl

theorem parseAt_not_cons (n : Nat) (t : Tok) (rest : List Tok) :
    parseAt (n + 1) 2 (t :: rest) =
      if isKw t "not".toList && !headKw rest "exists".toList then
        match parseAt n 2 rest with
        | .ok x r => .ok (.not x) r
        | o => o
      else parseAt n 3 (t :: rest) := rfl

theorem parseAt_unary_nil (n : Nat) : parseAt (n + 1) 8 [] = parseAt n 9 [] := rfl

theorem parseAt_unary_cons (n : Nat) (t : Tok) (rest : List Tok) :
    parseAt (n + 1) 8 (t :: rest) =
      if isKw t "not".toList && headKw rest "exists".toList then .outside
      else
        match unAt t with
        | some op =>
          match parseAt n 8 rest with
          | .ok x r => .ok (.un op x) r
          | o => o
        | none => parseAt n 9 (t :: rest) := rfl

theorem parseAt_primary (n : Nat) {l : Nat} (ts : List Tok) (h9 : 9 ≤ l) :
    parseAt (n + 1) l ts =
      match parsePrimary n ts with
      | .ok x r => if headKw r "collate".toList then .outside else .ok x r
      | o => o := by
  have h2 : (l == 2) = false := beq_eq_false_iff_ne.2 (by omega)
  have h8 : (l == 8) = false := beq_eq_false_iff_ne.2 (by omega)
  unfold parseAt
  simp only [h2, h8, h9, if_true, if_false, Bool.false_eq_true]
  rfl

theorem parseAt_bin (n : Nat) {l : Nat} (ts : List Tok) (h2 : l ≠ 2) (h8 : l ≠ 8) (h9 : l < 9) :
    parseAt (n + 1) l ts = (match parseAt n (l + 1) ts with | .ok a r => loop n l a r | o => o) := by
  have h2 : (l == 2) = false := beq_eq_false_iff_ne.2 h2
  have h8 : (l == 8) = false := beq_eq_false_iff_ne.2 h8
  have h9 : ¬ 9 ≤ l := Nat.not_le_of_lt h9
  conv => lhs; unfold parseAt
  simp only [h2, h8, h9, if_false, Bool.false_eq_true]
  rfl

theorem loop_nil (n l : Nat) (left : Expr) : loop (n + 1) l left [] = .ok left [] := rfl

theorem loop_cons (n l : Nat) (left : Expr) (t : Tok) (rest : List Tok) :
    loop (n + 1) l left (t :: rest) =
      match binAt l t with
      | some op =>
        match parseAt n (l + 1) rest with
        | .ok b r => loop n l (.bin op left b) r
        | o => o
      | none => if l == 3 && cmpOutside t rest then .outside else .ok left (t :: rest) := rfl

theorem parsePrimary_nil (n : Nat) : parsePrimary n [] = .err := by
  cases n <;> rfl

theorem parsePrimary_lparen (n : Nat) (rest : List Tok) :
    parsePrimary (n + 1) (.punct '(' :: rest) =
      if headKw rest "select".toList || headKw rest "with".toList then .outside
      else
        match parseAt n 0 rest with
        | .ok x (t :: r) => if isPunct t ')' then .ok (.paren x) r else if isPunct t ',' then .outside else .err
        | .ok _ [] => .err
        | o => o := rfl

theorem parsePrimary_ident (n : Nat) (x : List Char) (q : Bool) (rest : List Tok) :
    parsePrimary (n + 1) (.ident x q :: rest) =
      if isKw (.ident x q) "null".toList then .ok .null rest
      else if isKw (.ident x q) "true".toList then .ok (.bool true) rest
      else if isKw (.ident x q) "false".toList then .ok (.bool false) rest
      else if isKw (.ident x q) "case".toList || isKw (.ident x q) "cast".toList || isKw (.ident x q) "exists".toList
        then .outside
      else
        match identChain [x] rest with
        | some (parts, r) =>
          if headPunct r '(' then .outside
          else
            match parts with
            | [c] => .ok (.col [] [] c) r
            | [t, c] => .ok (.col [] t c) r
            | [s, t, c] => .ok (.col s t c) r
            | _ => .err
        | none => .outside := rfl

theorem parseAt_nil : ∀ n l, parseAt n l [] = .err := by
  intro n
  induction n with
  | zero => exact fun _ => rfl
  | succ n ih =>
    intro l
    by_cases h2 : l = 2
    · rw [h2, parseAt_not_nil, ih]
    · by_cases h8 : l = 8
      · rw [h8, parseAt_unary_nil, ih]
      · by_cases h9 : 9 ≤ l
        · rw [parseAt_primary n [] h9, parsePrimary_nil]
        · rw [parseAt_bin n [] h2 h8 (by omega), ih]

theorem ev_bind {f : Nat → PR} {g : Nat → Expr → List Tok → PR} {a : Expr} {r : List Tok} {res : PR}
    (hf : Ev f (.ok a r)) (hg : Ev (fun n => g n a r) res) :
    Ev (fun n => match f n with | .ok a r => g n a r | o => o) res := by
  obtain ⟨N, hN⟩ := Ev.both hf hg
  exact ⟨N, fun n hn => by simp only [(hN n hn).1, (hN n hn).2]⟩

theorem binAt_level {l : Nat} {t : Tok} {op : BinOp} (h : binAt l t = some op) : op.level = l := by
  cases t with
  | ident x q =>
    simp only [binAt] at h
    split at h
    · cases h; simp_all [BinOp.level]
    · split at h
      · cases h; simp_all [BinOp.level]
      · cases h
  | op s =>
    simp only [binAt] at h
    have := List.find?_some h
    simp at this
    exact this.1.1
  | _ => simp [binAt] at h

theorem binAt_none {l : Nat} (hl : ∀ o : BinOp, o.level ≠ l) (t : Tok) : binAt l t = none := by
  cases h : binAt l t with
  | none => rfl
  | some o => exact (hl o (binAt_level h)).elim

theorem binAt_binTok (l : Nat) (op : BinOp) : binAt l (binTok op) = if l = op.level then some op else none := by
  have table : ∀ op ∈ allBinOps, ∀ l, l ≤ 7 →
      binAt l (binTok op) = if l = op.level then some op else none := by decide +kernel
  by_cases hl : l ≤ 7
  · exact table op (by cases op <;> decide) l hl
  · have := op.level_le
    rw [if_neg (by omega), binAt_none fun o => by have := o.level_le; omega]

theorem binTok_cases (op : BinOp) :
    binTok op = .ident "OR".toList false ∨ binTok op = .ident "AND".toList false ∨ binTok op = .op op.text := by
  cases op
  case or => exact .inl rfl
  case and => exact .inr (.inl rfl)
  all_goals exact .inr (.inr rfl)

theorem cmpOutside_binTok (op : BinOp) (rest : List Tok) : cmpOutside (binTok op) rest = false := by
  rcases binTok_cases op with h | h | h <;> rw [h] <;> rfl

theorem cmpOutside_punct (c : Char) (rest : List Tok) : cmpOutside (.punct c) rest = false := rfl

theorem binAt_punct (l : Nat) (c : Char) : binAt l (.punct c) = none := rfl

/-- what may follow an operand in a token list: nothing, `)`, or a binary operator of tier < b -/
def Follow (b : Nat) (R : List Tok) : Prop :=
  R = [] ∨ (∃ R', R = .punct ')' :: R') ∨ (∃ op R', R = binTok op :: R' ∧ op.level < b)

theorem Follow.mono {b c : Nat} {R : List Tok} (h : Follow b R) (hbc : b ≤ c) : Follow c R := by
  rcases h with h | h | ⟨op, R', h, hl⟩
  · exact Or.inl h
  · exact Or.inr (Or.inl h)
  · exact Or.inr (Or.inr ⟨op, R', h, by omega⟩)

theorem loop_stop {l : Nat} {e : Expr} {R : List Tok} (h : Follow l R) :
    Ev (fun n => loop n l e R) (.ok e R) := by
  refine Ev.of_succ_const fun n => ?_
  rcases h with rfl | ⟨R', rfl⟩ | ⟨op, R', rfl, hl⟩
  · rfl
  · simp only [loop_cons, binAt_punct, cmpOutside_punct, Bool.and_false, Bool.false_eq_true, if_false]
  · simp only [loop_cons, binAt_binTok, if_neg (Nat.ne_of_gt hl), cmpOutside_binTok, Bool.and_false,
      Bool.false_eq_true, if_false]

/-- tiers without a loop of their own (NOT, unary, primary): the loop returns its left operand -/
theorem loop_id {l : Nat} (hl : l = 2 ∨ l = 8 ∨ l = 9) (e : Expr) (R : List Tok) :
    Ev (fun n => loop n l e R) (.ok e R) := by
  refine Ev.of_succ_const fun n => ?_
  cases R with
  | nil => rfl
  | cons t R =>
    have hb : binAt l t = none := binAt_none (t := t) fun o => by
      have := o.level_le
      have : o.level ≠ 2 := by cases o <;> decide
      omega
    have h3 : (l == 3) = false := beq_eq_false_iff_ne.2 (by omega)
    simp only [loop_cons, hb, h3, Bool.false_and, Bool.false_eq_true, if_false]

theorem identChain_stop {b : Nat} {R : List Tok} (h : Follow b R) (parts : List (List Char)) :
    identChain parts R = some (parts, R) := by
  rcases h with rfl | ⟨R', rfl⟩ | ⟨op, R', rfl, _⟩
  · rfl
  · cases R' with
    | nil => rfl
    | cons t R'' => cases t <;> rfl
  · rcases binTok_cases op with h | h | h <;> rw [h] <;> rfl

theorem follow_head_facts {b : Nat} {R : List Tok} (h : Follow b R) :
    headKw R "collate".toList = false ∧ headPunct R '(' = false := by
  rcases h with rfl | ⟨R', rfl⟩ | ⟨op, R', rfl, _⟩
  · exact ⟨rfl, rfl⟩
  · exact ⟨rfl, rfl⟩
  · rcases binTok_cases op with h | h | h <;> rw [h] <;> exact ⟨rfl, rfl⟩

theorem isKw_idTok {w k : List Char} (hs : nameSafe w = true) (hk : k ∈ kwBad) : isKw (idTok w) k = false := by
  unfold idTok
  cases hb : isBareIdent w
  · rfl
  · simp only [nameSafe, hb, Bool.true_and, Bool.not_eq_true', List.contains_eq_mem, decide_eq_false_iff_not] at hs
    simp only [isKw, Bool.not_true, beq_eq_false_iff_ne, ne_eq]
    intro e
    exact hs (e ▸ hk)

theorem kwBad_mem :
    "exists".toList ∈ kwBad ∧ "select".toList ∈ kwBad ∧ "with".toList ∈ kwBad ∧ "not".toList ∈ kwBad := by
  simp only [kwBad, List.mem_cons, true_or, or_true, and_self]

theorem toks_col_head (s t c : List Char) : ∃ rest, toks (.col s t c) = idTok (firstPart s t c) :: rest := by
  by_cases hs : s = [] <;> by_cases ht : t = [] <;> simp [toks, firstPart, hs, ht]

theorem toks_head (e : Expr) (hw : wf e = true) : ∃ t rest, toks e = t :: rest ∧
    isKw t "exists".toList = false ∧ isKw t "select".toList = false ∧ isKw t "with".toList = false ∧
    (∀ l, canon l e = true → 3 ≤ l → isKw t "not".toList = false) ∧
    (canon 9 e = true → unAt t = none) := by
  induction e with
  | bool b => cases b <;> exact ⟨_, _, rfl, rfl, rfl, rfl, fun _ _ _ => rfl, fun _ => rfl⟩
  | col s t c =>
    obtain ⟨rest, hr⟩ := toks_col_head s t c
    simp only [wf, Bool.and_eq_true] at hw
    obtain ⟨mex, msel, mwith, mnot⟩ := kwBad_mem
    exact ⟨_, rest, hr, isKw_idTok hw.2 mex, isKw_idTok hw.2 msel, isKw_idTok hw.2 mwith,
      fun _ _ _ => isKw_idTok hw.2 mnot, fun _ => rfl⟩
  | not x _ =>
    refine ⟨_, _, rfl, by decide, by decide, by decide, fun l hc hl => ?_, fun hc => ?_⟩
    · have : l ≤ 2 := (canon_tier.1 hc).1; omega
    · have : 9 ≤ 2 := (canon_tier.1 hc).1; omega
  | un op x _ =>
    refine ⟨_, _, rfl, rfl, rfl, rfl, fun _ _ _ => rfl, fun hc => ?_⟩
    have : 9 ≤ 8 := (canon_tier.1 hc).1; omega
  | bin op x y ihx _ =>
    simp only [wf, Bool.and_eq_true] at hw
    obtain ⟨t, rest, hr, h1, h2, h3, h4, _⟩ := ihx hw.1
    refine ⟨t, rest ++ (binTok op :: toks y), by simp [toks, hr], h1, h2, h3, fun l hc hl => ?_, fun hc => ?_⟩
    · simp only [canon, Bool.and_eq_true, decide_eq_true_eq] at hc
      exact h4 op.level hc.1.2 (by omega)
    · have := canon_bin_level hc; omega
  | _ => exact ⟨_, _, rfl, rfl, rfl, rfl, fun _ _ _ => rfl, fun _ => rfl⟩

end EgoVerif.C16
