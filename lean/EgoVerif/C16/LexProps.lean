import EgoVerif.C16.LexLemmas
/-
C16 — the token list of a printed expression (`toks`), the shape of parser-produced expressions (`canon`),
well-formedness (`wf`), and the theorem that the lexer reads `fmt e` as `toks e`.
-/
namespace EgoVerif.C16

def idTok (w : List Char) : Tok := .ident w (!isBareIdent w)

def toks : Expr → List Tok
  | .int d => [.num d]
  | .str v => [.str v]
  | .null => [.ident "NULL".toList false]
  | .bool b => [.ident (if b then "TRUE".toList else "FALSE".toList) false]
  | .col s t c =>
    (if s = [] then [] else [idTok s, .punct '.']) ++ ((if t = [] then [] else [idTok t, .punct '.']) ++ [idTok c])
  | .paren x => .punct '(' :: (toks x ++ [.punct ')'])
  | .not x => .ident "NOT".toList false :: toks x
  | .un op x => .op op.text :: toks x
  | .bin op x y => toks x ++ (binTok op :: toks y)

/-- `canon l e`: `e` has the shape `parseAt _ l` produces (operands of a tier-t operator: left at tier ≥ t, right at tier > t) -/
def canon : Nat → Expr → Bool
  | l, .bin op x y => decide (l ≤ op.level) && canon op.level x && canon (op.level + 1) y
  | l, .not x => decide (l ≤ 2) && canon 2 x
  | l, .un _ x => decide (l ≤ 8) && canon 8 x
  | l, .paren x => decide (l ≤ 9) && canon 0 x
  | l, _ => decide (l ≤ 9)

/-- words the expression parser reacts to where an operand may start -/
def kwBad : List (List Char) :=
  ["null".toList, "true".toList, "false".toList, "case".toList, "cast".toList, "exists".toList, "not".toList,
   "select".toList, "with".toList]

/-- the identifier is not one that `printer.ident` writes bare although it is such a word -/
def nameSafe (w : List Char) : Bool := !(isBareIdent w && kwBad.contains (w.map lowerAscii))

def firstPart (s t c : List Char) : List Char := if s = [] then (if t = [] then c else t) else s

/-- well-formed literals and column references:
digits of an integer literal; a schema only with a table; `nameSafe`: first printed name part not a bare keyword -/
def wf : Expr → Bool
  | .int d => !d.isEmpty && d.all isDigit
  | .col s t c => (s.isEmpty || !t.isEmpty) && nameSafe (firstPart s t c)
  | .paren x => wf x
  | .not x => wf x
  | .un _ x => wf x
  | .bin _ x y => wf x && wf y
  | _ => true

/-- a digit after a dot would read as a number; `-` or `>` after a unary minus as a comment or as `->` -/
theorem fmtIdent_head (w s : List Char) :
    isDigit (peek0 (fmtIdent w ++ s)) = false ∧ (peek0 (fmtIdent w ++ s) == '-') = false ∧
      (peek0 (fmtIdent w ++ s) == '>') = false := by
  unfold fmtIdent
  split
  · rename_i h
    cases w with
    | nil => cases h
    | cons c cs =>
      have hc : isIdentStart c = true := (Bool.and_eq_true _ _ ▸ h).1
      exact ⟨Bool.eq_false_iff.2 fun hd => Bool.false_ne_true (digit_not_identStart hd ▸ hc),
        beq_false_of hc rfl, beq_false_of hc rfl⟩
  · exact ⟨rfl, rfl, rfl⟩

theorem lex_ident {w s : List Char} {r : List Tok} (h1 : isIdentCont (peek0 s) = false)
    (h2 : (peek0 s == '\'') = false) (h3 : (peek0 s == '"') = false)
    (h : Ev (fun n => lexN n s) (some r)) :
    Ev (fun n => lexN n (fmtIdent w ++ s)) (some (idTok w :: r)) := by
  unfold fmtIdent idTok
  by_cases hb : isBareIdent w = true
  · simp only [hb, if_true]
    exact lex_bare hb h1 h2 h
  · simp only [Bool.not_eq_true] at hb
    simp only [hb, Bool.not_false]
    exact lex_quoted h3 h

theorem lex_ident_dot {w s : List Char} {r : List Tok} (hd : isDigit (peek0 s) = false)
    (h : Ev (fun n => lexN n s) (some r)) :
    Ev (fun n => lexN n (fmtIdent w ++ '.' :: s)) (some (idTok w :: .punct '.' :: r)) :=
  lex_ident rfl rfl rfl (lex_punct (.inr (.inr ⟨rfl, hd⟩)) h)

theorem BinOp.level_le (op : BinOp) : op.level ≤ 7 := by cases op <;> decide

/-- the tier whose parse function builds the expression -/
def Expr.tier : Expr → Nat
  | .bin op _ _ => op.level
  | .not _ => 2
  | .un _ _ => 8
  | _ => 9

theorem Expr.tier_le (e : Expr) : e.tier ≤ 9 := by
  cases e
  case bin op _ _ => exact Nat.le_trans op.level_le (by decide)
  all_goals exact Nat.le_of_ble_eq_true rfl

theorem canon_tier {l : Nat} {e : Expr} : canon l e = true ↔ l ≤ e.tier ∧ canon e.tier e = true := by
  cases e <;> simp [canon, Expr.tier, and_assoc]

theorem canon_mono {e : Expr} {l l' : Nat} (h : canon l e = true) (hl : l' ≤ l) : canon l' e = true :=
  canon_tier.2 ⟨Nat.le_trans hl (canon_tier.1 h).1, (canon_tier.1 h).2⟩

theorem canon_bin_level {l : Nat} {op : BinOp} {x y : Expr} (h : canon l (.bin op x y) = true) : l ≤ 7 :=
  Nat.le_trans (canon_tier.1 h).1 op.level_le

theorem fmt_head {x : Expr} (hc : canon 8 x = true) (hw : wf x = true) (s : List Char) :
    (peek0 (fmt x ++ s) == '>') = false ∧ ((∀ y, x ≠ .un .neg y) → (peek0 (fmt x ++ s) == '-') = false) := by
  cases x with
  | int d =>
    cases d with
    | nil => cases hw
    | cons c cs =>
      have hd : isDigit c = true := by simp [wf] at hw; exact hw.1
      exact ⟨beq_false_of hd rfl, fun _ => beq_false_of hd rfl⟩
  | col a t c =>
    obtain ⟨rest, he⟩ : ∃ rest, fmt (.col a t c) = fmtIdent (firstPart a t c) ++ rest := by
      by_cases ha : a = [] <;> by_cases ht : t = [] <;> simp [fmt, firstPart, ha, ht]
    rw [he, List.append_assoc]
    have := fmtIdent_head (firstPart a t c) (rest ++ s)
    exact ⟨this.2.2, fun _ => this.2.1⟩
  | not x => simp [canon] at hc
  | bin op x y => have := canon_bin_level hc; omega
  | un op x =>
    cases op
    · exact ⟨rfl, fun h => absurd rfl (h x)⟩
    · exact ⟨rfl, fun _ => rfl⟩
    · exact ⟨rfl, fun _ => rfl⟩
  | bool b => cases b <;> exact ⟨rfl, fun _ => rfl⟩
  | _ => exact ⟨rfl, fun _ => rfl⟩

theorem unSep_cases (op : UnOp) (x : Expr) :
    unSep op x = [' '] ∨ (unSep op x = [] ∧ (op = .neg → ∀ y, x ≠ .un .neg y)) := by
  unfold unSep
  split
  · exact .inl rfl
  · rename_i hne
    exact .inr ⟨rfl, fun hop y hx => hne y hop hx⟩

theorem lex_fmt (e : Expr) : ∀ l, canon l e = true → wf e = true → ∀ (s : List Char) (r : List Tok), Delim s →
    Ev (fun n => lexN n s) (some r) → Ev (fun n => lexN n (fmt e ++ s)) (some (toks e ++ r)) := by
  induction e with intro l hc hw s r hs h
  | int d =>
    simp only [wf, Bool.and_eq_true, Bool.not_eq_true', List.isEmpty_eq_false_iff] at hw
    exact lex_num hw.1 hw.2 hs h
  | str v => exact lex_string (hs.not (· == '\'') rfl) h
  | null =>
    -- a literal unfolds to `String.ofList` of its characters: `toList_ofList` reads them off, where evaluating
    -- `toList` would decode the literal's bytes
    exact lex_bare (w := "NULL".toList) (by rw [String.toList_ofList]; decide) (hs.not isIdentCont rfl)
      (hs.not (· == '\'') rfl) h
  | bool b =>
    cases b
    · exact lex_bare (w := "FALSE".toList) (by rw [String.toList_ofList]; decide) (hs.not isIdentCont rfl)
        (hs.not (· == '\'') rfl) h
    · exact lex_bare (w := "TRUE".toList) (by rw [String.toList_ofList]; decide) (hs.not isIdentCont rfl)
        (hs.not (· == '\'') rfl) h
  | col a t c =>
    have hd : ∀ w s', isDigit (peek0 (fmtIdent w ++ s')) = false := fun w s' => (fmtIdent_head w s').1
    have hc := lex_ident (w := c) (hs.not isIdentCont rfl) (hs.not (· == '\'') rfl) (hs.not (· == '"') rfl) h
    by_cases ht : t = [] <;> by_cases ha : a = [] <;>
      simp only [fmt, toks, ha, ht, if_true, if_false, List.nil_append, List.append_assoc, List.cons_append]
    · exact hc
    · exact lex_ident_dot (hd c s) hc
    · exact lex_ident_dot (hd c s) hc
    · exact lex_ident_dot (hd t _) (lex_ident_dot (hd c s) hc)
  | paren x ih =>
    simp [canon] at hc
    have h2 := ih 0 hc.2 hw (')' :: s) _ (.inr (.inr rfl)) (lex_punct (.inr (.inl rfl)) h)
    simpa [fmt, toks] using lex_punct (.inl rfl) h2
  | not x ih =>
    simp [canon] at hc
    have h2 := ih 2 hc.2 hw s r hs h
    simpa [fmt, toks] using lex_bare (w := "NOT".toList) (s := ' ' :: (fmt x ++ s)) (by rw [String.toList_ofList]; decide) rfl rfl (lex_space h2)
  | un op x ih =>
    simp [canon] at hc
    have h2 := ih 8 hc.2 hw s r hs h
    rcases unSep_cases op x with hsep | ⟨hsep, hne⟩
    · simpa [fmt, toks, hsep] using lex_unop (op := op) (s := ' ' :: (fmt x ++ s)) (fun _ => ⟨rfl, rfl⟩) (lex_space h2)
    · simpa [fmt, toks, hsep] using
        lex_unop (op := op) (fun hop => ⟨(fmt_head hc.2 hw s).2 (hne hop), (fmt_head hc.2 hw s).1⟩) h2
  | bin op x y ihx ihy =>
    simp [canon] at hc
    simp [wf] at hw
    have h3 := lex_binop (op := op) (ihy _ hc.2 hw.2 s r hs h)
    simpa [fmt, toks] using ihx _ hc.1.2 hw.1 (' ' :: (op.text ++ ' ' :: (fmt y ++ s))) _ (.inr (.inl rfl)) (lex_space h3)

end EgoVerif.C16
