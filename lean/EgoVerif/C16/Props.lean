import EgoVerif.C16.ParseProps
/-
C16 — property theorems: SQL reformatting preserves (the expression fragment of) statements.

Fragment: integer and string literals, NULL, TRUE/FALSE, column references (1–3 parts, any characters,
quoted as `printer.ident` does for sqlite3), parentheses, NOT, unary - + ~, all 22 binary operators.
`canon 0 e` says `e` has the shape the ladder parser produces (`C16_parse_canon`: it always does);
`wf e` says integer literals are digit strings, a schema part comes with a table part, and (`nameSafe`)
the first printed part of a column reference is not a keyword that `printer.ident` leaves unquoted.

Fuel: the model's lexer and parser recurse on a fuel bound; `Ev f r` = "f n = r for every n from some
point on".  The round trip is stated for all sufficiently large fuel.
-/
namespace EgoVerif.C16

/-- **Round trip.** Lexing and parsing the printed text of a parser-shaped, well-formed expression gives
the expression back, with all input consumed. -/
theorem C16_expr_roundtrip (e : Expr) (hc : canon 0 e = true) (hw : wf e = true) :
    Ev (fun n => readN n (fmt e)) (some e) := by
  have hlex := lex_fmt e 0 hc hw [] [] (.inl rfl) (.of_succ_const fun _ => rfl)
  have hparse := (parse_toks e 0 hc hw).ok (R := []) (.inl rfl)
  simp only [List.append_nil] at hlex hparse
  obtain ⟨N, hN⟩ := Ev.both hlex hparse
  exact ⟨N, fun n hn => by simp only [readN, (hN n hn).1, (hN n hn).2]⟩

/-- **Idempotence.** Formatting the re-parsed formatted text changes nothing. -/
theorem C16_idempotent (e : Expr) (hc : canon 0 e = true) (hw : wf e = true) :
    Ev (fun n => (readN n (fmt e)).map fmt) (some (fmt e)) :=
  (C16_expr_roundtrip e hc hw).map (Option.map fmt)

/-- **Literals and identifiers.** For EVERY character list `v` (quotes, newlines, comment markers, … included):
the string literal `'…'` with `'` doubled, and the identifier `"…"` with `"` doubled, scan back to `v`;
and the name as `printer.ident` writes it, bare or quoted, lexes to one identifier token with that name.  (`s` is
any continuation that does not start with the delimiter, resp. with an identifier character or a quote.) -/
theorem C16_literal_ident_roundtrip (v s : List Char) :
    ((peek0 s == '\'') = false → scanDelim '\'' (dbl '\'' v ++ '\'' :: s) = some (v, s)) ∧
    ((peek0 s == '"') = false → scanDelim '"' (dbl '"' v ++ '"' :: s) = some (v, s)) ∧
    (∀ r, isIdentCont (peek0 s) = false → (peek0 s == '\'') = false → (peek0 s == '"') = false →
      Ev (fun n => lexN n s) (some r) → Ev (fun n => lexN n (fmtIdent v ++ s)) (some (.ident v (!isBareIdent v) :: r))) :=
  ⟨scanDelim_dbl '\'' v s, scanDelim_dbl '"' v s, fun _ h1 h2 h3 h => lex_ident h1 h2 h3 h⟩

/-- **Parser outputs are canonical**: whatever the ladder parser returns at level `l` satisfies `canon l`, so
`C16_expr_roundtrip` applies to every parsed expression (given `wf`). -/
theorem C16_parse_canon {n l : Nat} {ts : List Tok} {e : Expr} {r : List Tok} (hl : l ≤ 9)
    (h : parseAt n l ts = .ok e r) : canon l e = true := (parse_canon_all n).1 l ts e r hl h

def eNull : Expr := .col [] [] "null".toList

theorem readN_null : Ev (fun n => readN n (fmt eNull)) (some .null) := by
  refine ⟨12, fun n hn => ?_⟩
  obtain ⟨m, rfl⟩ : ∃ m, n = m + 12 := ⟨n - 12, by omega⟩
  rfl

/-- `printer.unaryExpr` before fixes/C16.patch: no separator after a symbolic unary operator -/
def fmt0 : Expr → List Char
  | .un op x => op.text ++ fmt0 x
  | .paren x => '(' :: (fmt0 x ++ [')'])
  | .not x => 'N' :: 'O' :: 'T' :: ' ' :: fmt0 x
  | .bin op x y => fmt0 x ++ (' ' :: (op.text ++ (' ' :: fmt0 y)))
  | e => fmt e

def eNegNeg : Expr := .un .neg (.un .neg (.col [] [] ['x']))

theorem readN_negneg (n : Nat) : readN n (fmt0 eNegNeg) = none := by
  have h : fmt0 eNegNeg = ['-', '-', 'x'] := rfl
  rw [h]
  match n with
  | 0 => rfl
  | 1 => rfl
  | m + 2 => simp [readN, lexN, isWs, peek0, parseAt_nil]

/-- **`nameSafe` is necessary (recorded finding `keyword-ident`).** The column named `null` (written `"null"` in the
source) is parser-shaped, but `printer.ident` writes it bare and the text reads back as the NULL literal. -/
theorem C16_keyword_ident_counterexample :
    canon 0 eNull = true ∧ wf eNull = false ∧ Ev (fun n => readN n (fmt eNull)) (some .null) ∧
    ¬ Ev (fun n => readN n (fmt eNull)) (some eNull) :=
  ⟨by decide, by decide, readN_null, fun h => by cases Ev.unique h readN_null⟩

/-- **The code before fixes/C16.patch violates the property**: `- -x` is parser-shaped and well-formed, the
unfixed printer writes `--x`, which lexes as a comment; no fuel reads it back. -/
theorem C16_negneg_unfixed_counterexample :
    canon 0 eNegNeg = true ∧ wf eNegNeg = true ∧ fmt0 eNegNeg = ['-', '-', 'x'] ∧ ∀ n, readN n (fmt0 eNegNeg) ≠ some eNegNeg :=
  -- `wf` of a name that is not a keyword runs through all of `kwBad`, whose `"…".toList` literals the elaborator
  -- would decode byte by byte; so the kernel evaluates it, here and wherever `wf … = true` is decided below
  ⟨by decide, by decide +kernel, rfl, fun n => by simp [readN_negneg n]⟩

/-! ### non-vacuity: the hypotheses of the round trip are met by non-trivial expressions -/

/-- `NOT - -a.b + 'it''s' * (1 OR "x y")`-like shape: tiers 0, 2, 3, 5, 6, 8 and 9, nested minus, quoting -/
def eSample : Expr :=
  .not (.bin .lt (.bin .add (.un .neg (.un .neg (.col [] ['a'] ['b']))) (.bin .mul (.str ['i', 't', '\'', 's'])
    (.paren (.bin .or (.int ['1']) (.col [] [] ['x', ' ', 'y']))))) (.un .bnot .null))

example : canon 0 eSample = true ∧ wf eSample = true := by decide +kernel
example : fmt eSample = "NOT - -a.b + 'it''s' * (1 OR \"x y\") < ~NULL".toList := by
  -- a literal unfolds to `String.ofList` of its characters: this reads them off without decoding
  rw [String.toList_ofList]
  decide
example : Ev (fun n => readN n (fmt eSample)) (some eSample) :=
  C16_expr_roundtrip _ (by decide) (by decide +kernel)
example : canon 0 eNegNeg = true ∧ wf eNegNeg = true ∧ fmt eNegNeg = ['-', ' ', '-', 'x'] := by decide +kernel
example : (peek0 [' '] == '\'') = false := by decide

end EgoVerif.C16
