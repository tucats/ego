import EgoVerif.C08.Model
/-
C08 — the sharing protocol keeps `Inv` along every schedule without escaping closures, so accesses to a table two
live contexts reach are locked; counterexamples for escaping closures and for marking less than the raw parent
chain; the mutex/channel-synchronised fragment is a separate small model at the end.
-/
namespace EgoVerif.C08

/-- the scopes a context holds on to: its current scope, the scopes saved in its call frames, and the
    captured scopes of the closure values it can call -/
def roots (c : Ctx) : List Nat :=
  (match c.cur with | some x => [x] | none => []) ++ (c.stack ++ c.held)

/-- table x can be touched by context c: it lies on the parent chain of one of c's scopes -/
def reach (s : State) (c : Ctx) (x : Nat) : Prop := ∃ r, r ∈ roots c ∧ x ∈ s.anc r

def Inv (s : State) : Prop :=
  ∀ i j x, i ≠ j → (s.ctx i).live = true → (s.ctx j).live = true →
    reach s (s.ctx i) x → reach s (s.ctx j) x → s.shared x = true

structure WFT (s : State) : Prop where
  lt : ∀ x y, y ∈ s.anc x → y < s.next
  up : ∀ x y, s.shared x = true → y ∈ s.anc x → s.shared y = true
  trans : ∀ x z y, z ∈ s.anc x → y ∈ s.anc z → y ∈ s.anc x

def RL (s : State) : Prop := ∀ i r, r ∈ roots (s.ctx i) → r < s.next

/-- false on the operations that hand a closure value to another thread other than as the `go` target:
    `go f(closure)` and channel send / receive -/
def Op.noEscape : Op → Bool
  | .send _ => false
  | .recv => false
  | .goNamed args => args.isEmpty
  | _ => true

def NoEscape (sched : List (Nat × Op)) : Prop := ∀ p, p ∈ sched → p.2.noEscape = true

instance (sched : List (Nat × Op)) : Decidable (NoEscape sched) :=
  inferInstanceAs (Decidable (∀ p, p ∈ sched → p.2.noEscape = true))

theorem mem_roots {c : Ctx} {r : Nat} : r ∈ roots c ↔ c.cur = some r ∨ r ∈ c.stack ∨ r ∈ c.held := by
  unfold roots
  cases c.cur <;> simp [eq_comm]

theorem mem_roots_cur {c : Ctx} {x : Nat} (h : c.cur = some x) : x ∈ roots c := mem_roots.mpr (.inl h)

theorem nth_mem {l : List Nat} {d x : Nat} (h : nth l d = some x) : x ∈ l := List.mem_of_getElem? h

/-- `[]` and every parent chain are closed, and `step` applies `newTable` and `mark` only to such lists -/
def Closed (s : State) (l : List Nat) : Prop := ∀ z ∈ l, z < s.next ∧ ∀ y ∈ s.anc z, y ∈ l

theorem Closed.nil (s : State) : Closed s [] := fun _ h => (List.not_mem_nil h).elim

theorem WFT.closed {s : State} (h : WFT s) (p : Nat) : Closed s (s.anc p) :=
  fun z hz => ⟨h.lt p z hz, fun y hy => h.trans p z y hz hy⟩

theorem WFT.closed_chainOf {s : State} (h : WFT s) : ∀ p, Closed s (chainOf s p)
  | none => .nil s
  | some q => h.closed q

theorem newTable_anc_of_ne (s : State) (ch : List Nat) {z : Nat} (hz : z ≠ s.next) :
    (newTable s ch).anc z = s.anc z := if_neg hz

theorem newTable_shared_of_ne (s : State) (ch : List Nat) {z : Nat} (hz : z ≠ s.next) :
    (newTable s ch).shared z = s.shared z := if_neg hz

theorem newTable_anc_next (s : State) (ch : List Nat) : (newTable s ch).anc s.next = s.next :: ch := if_pos rfl

theorem newTable_wft {s : State} (h : WFT s) {ch : List Nat} (hch : Closed s ch) : WFT (newTable s ch) := by
  have old : ∀ {x y}, x ≠ s.next → y ∈ (newTable s ch).anc x → y ∈ s.anc x ∧ y ≠ s.next :=
    fun hx hy => have hy := newTable_anc_of_ne s ch hx ▸ hy; ⟨hy, Nat.ne_of_lt (h.lt _ _ hy)⟩
  refine ⟨fun x y hy => ?_, fun x y hsx hy => ?_, fun x z y hz hy => ?_⟩
  · by_cases hx : x = s.next
    · subst hx
      rcases List.mem_cons.mp (newTable_anc_next s ch ▸ hy) with rfl | hy
      · exact Nat.lt_succ_self _
      · exact Nat.lt_succ_of_lt (hch y hy).1
    · exact Nat.lt_succ_of_lt (h.lt x y (old hx hy).1)
  · by_cases hx : x = s.next
    · subst hx; exact absurd hsx (by simp [newTable])
    · have ⟨hy, hne⟩ := old hx hy
      rw [newTable_shared_of_ne s ch hne]
      exact h.up x y (newTable_shared_of_ne s ch hx ▸ hsx) hy
  · by_cases hx : x = s.next
    · subst hx
      rw [newTable_anc_next] at hz ⊢
      rcases List.mem_cons.mp hz with rfl | hz
      · exact newTable_anc_next s ch ▸ hy
      · rw [newTable_anc_of_ne s ch (Nat.ne_of_lt (hch z hz).1)] at hy
        exact List.mem_cons_of_mem _ ((hch z hz).2 y hy)
    · have ⟨hz, hne⟩ := old hx hz
      rw [newTable_anc_of_ne s ch hne] at hy
      exact newTable_anc_of_ne s ch hx ▸ h.trans x z y hz hy

theorem not_reach_next {s : State} (h : WFT s) (c : Ctx) : ¬ reach s c s.next :=
  fun ⟨r, _, hx⟩ => Nat.lt_irrefl _ (h.lt r _ hx)

structure Good (s : State) : Prop where
  wft : WFT s
  rl : RL s
  inv : Inv s

theorem reach_newTable {s : State} (ch : List Nat) {c : Ctx} (hc : ∀ r ∈ roots c, r < s.next) (x : Nat) :
    reach (newTable s ch) c x ↔ reach s c x :=
  exists_congr fun r => and_congr_right fun hr => by rw [newTable_anc_of_ne s ch (Nat.ne_of_lt (hc r hr))]

/-- nobody holds the new table yet -/
theorem newTable_good {s : State} (hg : Good s) {ch : List Nat} (hch : Closed s ch) : Good (newTable s ch) := by
  refine ⟨newTable_wft hg.wft hch, fun i r hr => Nat.lt_succ_of_lt (hg.rl i r hr), fun i j x hij li lj ri rj => ?_⟩
  replace ri := (reach_newTable ch (hg.rl i) x).mp ri
  have hx : x ≠ s.next := fun h => not_reach_next hg.wft _ (h ▸ ri)
  exact (newTable_shared_of_ne s ch hx).trans
    (hg.inv i j x hij li lj ri ((reach_newTable ch (hg.rl j) x).mp rj))

theorem mark_good {s : State} (hg : Good s) {l : List Nat} (hl : Closed s l) : Good (mark s l) := by
  refine ⟨⟨hg.wft.lt, fun x y hsx hy => ?_, hg.wft.trans⟩, hg.rl,
    fun i j x hij li lj ri rj => Bool.or_eq_true_iff.mpr (.inr (hg.inv i j x hij li lj ri rj))⟩
  simp only [mark, Bool.or_eq_true, List.contains_iff_mem] at hsx ⊢
  exact hsx.imp (fun hx => (hl x hx).2 y hy) (fun hx => hg.wft.up x y hx hy)

theorem setCtx_ctx_self (s : State) (t : Nat) (c : Ctx) : (setCtx s t c).ctx t = c := if_pos rfl

theorem setCtx_ctx_of_ne (s : State) {i t : Nat} (c : Ctx) (h : i ≠ t) : (setCtx s t c).ctx i = s.ctx i :=
  if_neg h

/-- `Inv` is symmetric in its two contexts, so the second may be taken different from a given thread -/
theorem Inv.of_ne {s : State} (t : Nat)
    (h : ∀ i j x, i ≠ j → j ≠ t → (s.ctx i).live = true → (s.ctx j).live = true →
      reach s (s.ctx i) x → reach s (s.ctx j) x → s.shared x = true) : Inv s := by
  intro i j x hij li lj ri rj
  by_cases hj : j = t
  · exact h j i x (Ne.symm hij) (fun hi => hij (hi.trans hj.symm)) lj li rj ri
  · exact h i j x hij hj li lj ri rj

theorem setCtx_good {s : State} (hg : Good s) (t : Nat) (c' : Ctx)
    (h : ∀ r ∈ roots c', r < s.next ∧ ∀ x ∈ s.anc r,
      ((s.ctx t).live = true ∧ reach s (s.ctx t) x) ∨ s.shared x = true ∨ ∀ j, ¬ reach s (s.ctx j) x) :
    Good (setCtx s t c') := by
  refine ⟨⟨hg.wft.lt, hg.wft.up, hg.wft.trans⟩, fun i r hr => ?_, .of_ne t fun i j x hij hj li lj ri rj => ?_⟩
  · by_cases hit : i = t
    · exact (h r (by rwa [hit, setCtx_ctx_self] at hr)).1
    · exact hg.rl i r (by rwa [setCtx_ctx_of_ne s c' hit] at hr)
  rw [setCtx_ctx_of_ne s c' hj] at lj rj
  by_cases hi : i = t
  · subst hi
    rw [setCtx_ctx_self] at ri
    obtain ⟨r, hr, hx⟩ := ri
    rcases (h r hr).2 x hx with ⟨li0, ri0⟩ | hs | hn
    · exact hg.inv i j x hij li0 lj ri0 rj
    · exact hs
    · exact absurd rj (hn j)
  · rw [setCtx_ctx_of_ne s c' hi] at li ri
    exact hg.inv i j x hij li lj ri rj

/-! ### the three shapes of a step -/

/-- shape A: thread t makes a new table below a chain it reaches (or a shared / empty one) its current scope -/
theorem ok_new {s : State} (hg : Good s) (t : Nat) {ch : List Nat} (c' : Ctx) (hlt : (s.ctx t).live = true)
    (hch : Closed s ch)
    (hcov : ∀ x, x ∈ ch → reach s (s.ctx t) x ∨ s.shared x = true)
    (hroots : ∀ r, r ∈ roots c' → r = s.next ∨ r ∈ roots (s.ctx t)) :
    Good (setCtx (newTable s ch) t c') := by
  have old : ∀ x, reach s (s.ctx t) x → reach (newTable s ch) (s.ctx t) x :=
    fun x => (reach_newTable ch (hg.rl t) x).mpr
  refine setCtx_good (newTable_good hg hch) t c' fun r hr => ?_
  rcases hroots r hr with rfl | h
  · refine ⟨Nat.lt_succ_self _, fun x hx => ?_⟩
    rcases List.mem_cons.mp (newTable_anc_next s ch ▸ hx) with rfl | hx
    · exact .inr (.inr fun j hj => not_reach_next hg.wft _ ((reach_newTable ch (hg.rl j) _).mp hj))
    · exact (hcov x hx).imp (fun h1 => ⟨hlt, old x h1⟩) fun h1 =>
        .inl ((newTable_shared_of_ne s ch (Nat.ne_of_lt (hch x hx).1)).trans h1)
  · have hlt' := hg.rl t r h
    exact ⟨Nat.lt_succ_of_lt hlt', fun x hx =>
      .inl ⟨hlt, old x ⟨r, h, newTable_anc_of_ne s ch (Nat.ne_of_lt hlt') ▸ hx⟩⟩⟩

/-- shape B: thread t only rearranges the scopes it holds (each new one lies on a chain it already held) -/
theorem ok_set {s : State} (hg : Good s) (t : Nat) (c' : Ctx) (hlt : (s.ctx t).live = true)
    (hroots : ∀ r, r ∈ roots c' → r ∈ roots (s.ctx t) ∨ ∃ r0, r0 ∈ roots (s.ctx t) ∧ r ∈ s.anc r0) :
    Good (setCtx s t c') :=
  setCtx_good hg t c' fun r hr => (hroots r hr).elim
    (fun h => ⟨hg.rl t r h, fun _ hx => .inl ⟨hlt, r, h, hx⟩⟩)
    fun ⟨r0, h0, h⟩ => ⟨hg.wft.lt r0 r h, fun x hx => .inl ⟨hlt, r0, h0, hg.wft.trans r0 r x h hx⟩⟩

/-- shape C: a fork.  The new context holds only `held`, whose chains were marked BEFORE the fork -/
theorem ok_spawn {s : State} (hg : Good s) (t : Nat) (held : List Nat) {l : List Nat} (hl : Closed s l)
    (hheld : ∀ r, r ∈ held → r < s.next ∧ ∀ x, x ∈ s.anc r → x ∈ l) :
    Good (spawn (mark s l) t held) := by
  -- `Good` does not look at `nctx`: a fork replaces the context at index `nctx`
  have h := setCtx_good (mark_good hg hl) s.nctx ⟨true, none, [], held, t⟩ fun r hr => by
    have hr : r ∈ held :=
      (mem_roots.mp hr).elim nofun fun h => h.elim (fun h => (List.not_mem_nil h).elim) id
    exact ⟨(hheld r hr).1, fun x hx =>
      .inr (.inl (Bool.or_eq_true_iff.mpr (.inl (List.contains_iff_mem.mpr ((hheld r hr).2 x hx)))))⟩
  exact ⟨⟨h.wft.lt, h.wft.up, h.wft.trans⟩, h.rl, h.inv⟩

theorem mark_nil (s : State) : mark s [] = s := rfl

theorem sharedParentAt_shared {s : State} {pc : Option Nat} {d q : Nat} (h : sharedParentAt s pc d = some q) :
    s.shared q = true := by
  unfold sharedParentAt at h
  split at h
  · nomatch h
  · split at h
    · nomatch h
    · exact List.find?_some h

theorem chainOf_sharedParent {s : State} (hw : WFT s) (pc : Option Nat) (d : Nat) :
    ∀ y ∈ chainOf s (sharedParentAt s pc d), s.shared y = true := by
  cases hq : sharedParentAt s pc d with
  | none => exact fun _ hy => (List.not_mem_nil hy).elim
  | some q => exact fun y hy => hw.up q y (sharedParentAt_shared hq) hy

/-- which of its old scopes the moving thread still holds afterwards is read off `mem_roots` -/
theorem step_ok (s : State) (t : Nat) (o : Op) (hne : o.noEscape = true) (hg : Good s) : Good (step s t o) := by
  unfold step
  by_cases hl : (s.ctx t).live = false
  · exact (if_pos hl).symm ▸ hg
  rw [if_neg hl]
  have hlt : (s.ctx t).live = true := by simpa using hl
  have hw := hg.wft
  cases hcur : (s.ctx t).cur with
  | none =>
    cases o with
    | boot d =>
      exact ok_new hg t _ hlt (hw.closed_chainOf _)
        (fun y hy => .inr (chainOf_sharedParent hw _ d y hy)) (by grind [mem_roots])
    | exit => exact ok_set hg t _ hlt (by grind [mem_roots])
    | _ => exact hg
  | some x =>
    have hx := mem_roots_cur hcur
    cases o with
    | push d | call d =>
      show Good (match nth (s.anc x) d with | some p => _ | none => s)
      cases hp : nth (s.anc x) d with
      | none => exact hg
      | some p =>
        exact ok_new hg t _ hlt (hw.closed p)
          (fun y hy => .inl ⟨x, hx, hw.trans x p y (nth_mem hp) hy⟩) (by grind [mem_roots])
    | pop =>
      show Good (match s.anc x with | _ :: p :: _ => _ | _ => s)
      cases hax : s.anc x with
      | nil => exact hg
      | cons a rest =>
        cases rest with
        | nil => exact hg
        | cons p rest2 =>
          refine ok_set hg t _ hlt fun r hr => (mem_roots.mp hr).elim (fun h => .inr ?_)
            fun h => .inl (mem_roots.mpr (.inr h))
          exact ⟨x, hx, hax ▸ Option.some.inj h ▸ .tail _ (.head _)⟩
    | ret =>
      show Good (match (s.ctx t).stack with | f :: rest => _ | [] => s)
      cases hst : (s.ctx t).stack with
      | nil => exact hg
      | cons f rest => exact ok_set hg t _ hlt (by grind [mem_roots])
    | capture => exact ok_set hg t _ hlt (by grind [mem_roots])
    | callClosure k =>
      show Good (match nth (s.ctx t).held k with | some cap => _ | none => s)
      cases hk : nth (s.ctx t).held k with
      | none => exact hg
      | some cap =>
        exact ok_new hg t _ hlt (hw.closed cap)
          (fun y hy => .inl ⟨cap, mem_roots.mpr (.inr (.inr (nth_mem hk))), hy⟩) (by grind [mem_roots])
    | goClosure k =>
      show Good (match nth (s.ctx t).held k with | some cap => _ | none => s)
      cases hk : nth (s.ctx t).held k with
      | none => exact hg
      | some cap =>
        exact ok_spawn hg t [cap] (hw.closed cap) fun r hr => (List.mem_singleton.mp hr).symm ▸
          ⟨hg.rl t cap (mem_roots.mpr (.inr (.inr (nth_mem hk)))), fun _ hx => hx⟩
    | goNamed args =>
      cases List.isEmpty_iff.mp hne
      -- nothing is handed over and nothing is marked: `mark s [] = s`
      exact ok_spawn hg t [] (.nil s) fun _ hr => (List.not_mem_nil hr).elim
    | send k | recv => cases hne
    | acc w d =>
      show Good (match nth (s.anc x) d with | some y => _ | none => s)
      cases nth (s.anc x) d with
      | none => exact hg
      | some y => exact ⟨⟨hw.lt, hw.up, hw.trans⟩, hg.rl, hg.inv⟩
    | exit => exact ok_set hg t _ hlt (by grind [mem_roots])
    | boot d => exact hg

theorem mem_init_anc {x y : Nat} : y ∈ init.anc x ↔ y ≤ x ∧ x ≤ 1 := by
  match x with
  | 0 => show y ∈ [0] ↔ _; simp only [List.mem_singleton]; omega
  | 1 => show y ∈ [1, 0] ↔ _; simp only [List.mem_cons, List.not_mem_nil, or_false]; omega
  | n + 2 => show y ∈ [] ↔ _; simp only [List.not_mem_nil, false_iff]; omega

theorem good_init : Good init := by
  refine ⟨⟨fun x y hy => ?_, fun x y _ hy => ?_, fun x z y hz hy => ?_⟩, fun i r hr => ?_,
    fun i j x hij li lj _ _ => ?_⟩
  · have := mem_init_anc.mp hy
    show y < 2
    omega
  · have := mem_init_anc.mp hy
    show (decide (y = 0) || decide (y = 1)) = true
    simp only [Bool.or_eq_true, decide_eq_true_eq]
    omega
  · have := mem_init_anc.mp hz
    have := mem_init_anc.mp hy
    exact mem_init_anc.mpr (by omega)
  · -- only context 0 holds a scope
    match i, hr with
    | 0, hr => cases List.mem_singleton.mp hr; decide
  · -- thread 0 is the only live one
    match i, j, li, lj with
    | 0, 0, _, _ => exact absurd rfl hij

theorem run_good : ∀ (sched : List (Nat × Op)) (s : State), NoEscape sched → Good s → Good (run s sched)
  | [], _, _, hg => hg
  | (t, o) :: rest, s, hne, hg =>
    run_good rest _ (fun q hq => hne q (.tail _ hq)) (step_ok s t o (hne (t, o) (.head _)) hg)

/-- PARTIAL main theorem.  In EVERY state reachable under EVERY schedule that contains no escaping-closure
    operation (a closure value handed to another thread as a `go` argument or through a channel), a table
    reachable from two live contexts has shared = true — in particular right after the fork that made it
    reachable from the second context. -/
theorem C08_shared_before_fork_partial (sched : List (Nat × Op)) (h : NoEscape sched) :
    Inv (run init sched) :=
  (run_good sched init h good_init).inv

/-- the schedule of the counterexample: main opens a block (table 2), creates a closure there, and
    launches a NAMED function with that closure as an argument (`go worker(inc)`) -/
def escapeSched : List (Nat × Op) := [(0, .push 0), (0, .capture), (0, .goNamed [0])]

/-- COUNTEREXAMPLE on the code as it is: goByteCode marks only the captured scope of the go TARGET, so after
    `go worker(inc)` table 2 is reachable from the launcher (its current scope) and from the new context
    (through the closure it was handed) and is NOT shared. -/
theorem C08_shared_before_fork_counterexample : ¬ Inv (run init escapeSched) := by
  intro h
  have := h 0 1 2 (by decide) (by decide) (by decide)
    ⟨2, by decide, by decide⟩ ⟨2, by decide, by decide⟩
  revert this
  decide

/-! ### the marked chain must be the RAW parent chain

`reach` (and the model's `acc`) follow `anc`, the raw parent chain — the chain the boundary-ignoring walks of the
code follow (symbols.GetAnyScope, used by the ArgCheck opcode on every Ego function entry; InPackage; runtime info).
With ego.runtime.deep.scope=true (profile default) the scope captured by a closure in a helper function has the
private block tables of the helper's callers on that chain, behind the helper's scope boundary.  `goClosureSub` is
NOT the code: it is `go` of a closure with a marking that keeps only the tables `keep` selects (for instance the
chain a boundary-respecting Get walks, FindNextScope by FindNextScope).  Any such marking that leaves out one
unshared table the launcher itself still reaches breaks the invariant — so Shared(true) can mark no less than the
whole raw chain, and the harness reads the fork-time state along that chain (`fork` events). -/

def goClosureSub (s : State) (t cap : Nat) (keep : Nat → Bool) : State :=
  spawn (mark s ((s.anc cap).filter keep)) t [cap]

theorem goClosureSub_all (s : State) (t k x cap : Nat) (hl : (s.ctx t).live = true) (hc : (s.ctx t).cur = some x)
    (hk : nth (s.ctx t).held k = some cap) :
    step s t (.goClosure k) = goClosureSub s t cap (fun _ => true) := by
  have hf : (s.anc cap).filter (fun _ => true) = s.anc cap := List.filter_eq_self.mpr (fun _ _ => rfl)
  unfold step goClosureSub
  rw [if_neg (by rw [hl]; decide), hc, hf]
  show (match nth (s.ctx t).held k with | some cap => _ | none => s) = _
  rw [hk]

theorem C08_mark_subchain_breaks_inv (s : State) (t cap x : Nat) (keep : Nat → Bool)
    (ht : t ≠ s.nctx) (hlive : (s.ctx t).live = true)
    (hx : x ∈ s.anc cap) (hr : reach s (s.ctx t) x)
    (hk : keep x = false) (hs : s.shared x = false) :
    ¬ Inv (goClosureSub s t cap keep) := by
  intro h
  have h1 : (goClosureSub s t cap keep).ctx t = s.ctx t := if_neg ht
  have h2 : (goClosureSub s t cap keep).ctx s.nctx = ⟨true, none, [], [cap], t⟩ := if_pos rfl
  have hsh : (((s.anc cap).filter keep).contains x || s.shared x) = false := by simp [hs, hk]
  exact Bool.false_ne_true (hsh ▸ h t s.nctx x ht (h1 ▸ hlive) (h2 ▸ rfl) (h1 ▸ hr) (h2 ▸ ⟨cap, .head _, hx⟩))

/-- main (thread 0, file table 1) opens a block (table 2) and calls a helper from it (frame table 3, a scope
    boundary whose parent is the caller's block 2); the helper opens a block (4) and creates a closure there -/
def helperSched : List (Nat × Op) := [(0, .push 0), (0, .call 0), (0, .push 0), (0, .capture)]

/-- COUNTEREXAMPLE for the sub-chain marking: the scope chain of table 4 seen by a boundary-respecting Get is
    4, 3, then past the boundary to 1, 0 — it skips the caller's block 2.  Marking only that chain at the `go`
    leaves table 2 reachable from the launcher (saved in its call frame) and from the new goroutine (raw chain
    of the captured scope) and NOT shared. -/
theorem C08_mark_subchain_counterexample :
    ¬ Inv (goClosureSub (run init helperSched) 0 4 (fun x => x != 2)) :=
  C08_mark_subchain_breaks_inv (run init helperSched) 0 4 2 _ (by decide) (by decide) (by decide)
    ⟨2, by decide, by decide⟩ (by decide) (by decide)

/-- non-vacuity / contrast: the code's marking (the whole raw chain) leaves the same state inside the invariant,
    and table 2 is then shared -/
example : (run init helperSched).anc 4 = [4, 3, 2, 1, 0] := by decide
example : Inv (run init (helperSched ++ [(0, .goClosure 0)])) :=
  C08_shared_before_fork_partial _ (by decide)
example : (run init (helperSched ++ [(0, .goClosure 0)])).shared 2 = true := by decide
example : (goClosureSub (run init helperSched) 0 4 (fun x => x != 2)).shared 2 = false := by decide

theorem step_acc_log {s : State} {t : Nat} {w : Bool} {d : Nat} {e : Access}
    (hlog : (step s t (.acc w d)).log = e :: s.log) :
    ∃ x y, (s.ctx t).live = true ∧ (s.ctx t).cur = some x ∧ nth (s.anc x) d = some y ∧
      e = ⟨t, y, w, s.shared y⟩ := by
  have stay : ∀ {P : Prop}, s.log = e :: s.log → P := fun h => absurd h.symm (List.cons_ne_self _ _)
  revert hlog
  unfold step
  by_cases hl : (s.ctx t).live = false
  · rw [if_pos hl]; exact stay
  rw [if_neg hl]
  cases hcur : (s.ctx t).cur with
  | none => exact stay
  | some x =>
    show (match nth (s.anc x) d with | some y => _ | none => s).log = _ → _
    cases hp : nth (s.anc x) d with
    | none => exact stay
    | some y => exact fun hlog => ⟨x, y, by simpa using hl, rfl, hp, (List.cons.inj hlog).1.symm⟩

/-- RACE FREEDOM of the model: in any state reachable without escaping closures, when thread t performs a
    Get/Set that reaches table e.table while another LIVE context can reach the same table, the access is
    made under that table's lock.  Hence of any two accesses (by different threads) to a table that both
    threads can reach at both moments, both are made under the table's lock (sync.RWMutex then orders
    them: trusted). -/
theorem C08_race_free (sched : List (Nat × Op)) (h : NoEscape sched) (t : Nat) (w : Bool) (d : Nat) (e : Access)
    (hlog : (step (run init sched) t (.acc w d)).log = e :: (run init sched).log)
    (j : Nat) (hj : j ≠ e.thread) (hlive : ((run init sched).ctx j).live = true)
    (hreach : reach (run init sched) ((run init sched).ctx j) e.table) : e.locked = true := by
  obtain ⟨x, y, hlt, hcur, hp, rfl⟩ := step_acc_log hlog
  exact (run_good sched init h good_init).inv t j y (fun h => hj h.symm) hlt hlive
    ⟨x, mem_roots_cur hcur, nth_mem hp⟩ hreach

/-- the lock is taken exactly when the table is shared (get.go: `if s.shared.Load() { s.RLock() … }`) -/
theorem C08_lock_iff_shared (s : State) (t : Nat) (w : Bool) (d : Nat) (e : Access)
    (hlog : (step s t (.acc w d)).log = e :: s.log) : e.locked = s.shared e.table := by
  obtain ⟨_, _, _, _, _, rfl⟩ := step_acc_log hlog
  rfl

/-- a closure goroutine: main opens a block, creates a closure, `go`es it; the new thread builds its
    root scope, calls the closure and writes a variable of the captured block (table 2) -/
def closureSched : List (Nat × Op) :=
  [(0, .push 0), (0, .capture), (0, .goClosure 0), (1, .boot 1), (1, .callClosure 0), (1, .acc true 1),
   (0, .acc false 0)]

example : NoEscape closureSched := by decide

/-- the hypotheses of C08_race_free are met non-trivially: both threads are live, both reach table 2, the
    two logged accesses conflict, and both were made under the lock -/
example : (run init closureSched).log = [⟨0, 2, false, true⟩, ⟨1, 2, true, true⟩] := by decide
example : ((run init closureSched).ctx 0).live = true ∧ ((run init closureSched).ctx 1).live = true := by decide
example : reach (run init closureSched) ((run init closureSched).ctx 0) 2 := ⟨2, by decide, by decide⟩
example : reach (run init closureSched) ((run init closureSched).ctx 1) 2 := ⟨2, by decide, by decide⟩
/-- before the fork the same table is private and accessed without the lock -/
example : (run init [(0, .push 0), (0, .acc true 0)]).log = [⟨0, 2, true, false⟩] := by decide
/-- the counterexample's unlocked conflicting accesses -/
example : (run init (escapeSched ++ [(1, .boot 1), (1, .callClosure 0), (1, .acc false 1), (0, .acc true 0)])).log
    = [⟨0, 2, true, false⟩, ⟨1, 2, false, false⟩] := by decide

/-- the checker accepts the model's closure-goroutine run and rejects the escaping-closure run -/
example : checkTrace (accEvents (run init closureSched)) = none := by decide
example : checkTrace (accEvents (run init
    (escapeSched ++ [(1, .boot 1), (1, .callClosure 0), (1, .acc false 1), (0, .acc true 0)]))) = some 0 := by decide
example : checkTrace [.acc true 0 5 false, .start 1, .acc false 1 5 true, .stop 1] = none := by decide
example : checkTrace [.start 1, .acc true 0 5 false, .acc false 1 5 true, .stop 1] = some 1 := by decide
example : checkTrace [.fork 0 5 false] = some 0 := by decide

/-- NOT PROVED (stated only): every execution of the model without escaping closures emits an access
    sequence the trace checker accepts.  The check run on real traces is justified informally from
    C08_race_free plus "a live thread never gains reach to a table that already exists". -/
def C08_trace_sound_statement : Prop :=
  ∀ sched, NoEscape sched → checkTrace (accEvents (run init sched)) = none

/-! ### the synchronised fragment: cells only touched under a mutex / through channels

Thread t has a list of pending increments `p t`; one step of thread t applies its next increment atomically
(that is what `mu.Lock(); acc = acc + k; mu.Unlock()` and `ch <- k … sum = sum + <-ch` amount to).  Whatever
the schedule, once every thread is done the cell holds the same value. -/

def lsum : List Int → Int
  | [] => 0
  | k :: r => k + lsum r

def pend : Nat → (Nat → List Int) → Int
  | 0, _ => 0
  | n + 1, p => pend n p + lsum (p n)

def sstep (n : Nat) (pc : (Nat → List Int) × Int) (t : Nat) : (Nat → List Int) × Int :=
  if t < n then
    match pc.1 t with
    | [] => pc
    | k :: r => (fun u => if u = t then r else pc.1 u, pc.2 + k)
  else pc

def srun (n : Nat) (pc : (Nat → List Int) × Int) : List Nat → (Nat → List Int) × Int
  | [] => pc
  | t :: rest => srun n (sstep n pc t) rest

def Complete (n : Nat) (p : Nat → List Int) : Prop := ∀ t, t < n → p t = []

theorem pend_update (p : Nat → List Int) (t : Nat) (k : Int) (r : List Int) (h : p t = k :: r) :
    ∀ n, pend n (fun u => if u = t then r else p u) + (if t < n then k else 0) = pend n p := by
  intro n
  induction n with
  | zero => rfl
  | succ m ih =>
    show pend m _ + lsum (if m = t then r else p m) + _ = pend m p + lsum (p m)
    by_cases htm : m = t
    · subst htm
      have : lsum (p m) = k + lsum r := congrArg lsum h
      rw [if_pos rfl]
      omega
    · rw [if_neg htm]
      omega

theorem sstep_conserves (n : Nat) (pc : (Nat → List Int) × Int) (t : Nat) :
    pend n (sstep n pc t).1 + (sstep n pc t).2 = pend n pc.1 + pc.2 := by
  unfold sstep
  split
  · next hlt =>
    split
    · rfl
    · next k r h =>
      have := pend_update pc.1 t k r h n
      rw [if_pos hlt] at this
      dsimp only
      omega
  · rfl

theorem srun_conserves (n : Nat) : ∀ (sched : List Nat) (pc : (Nat → List Int) × Int),
    pend n (srun n pc sched).1 + (srun n pc sched).2 = pend n pc.1 + pc.2
  | [], _ => rfl
  | t :: rest, pc => (srun_conserves n rest _).trans (sstep_conserves n pc t)

theorem pend_complete : ∀ (n : Nat) (p : Nat → List Int), Complete n p → pend n p = 0
  | 0, _, _ => rfl
  | m + 1, p, h => by
    show pend m p + lsum (p m) = 0
    rw [h m (Nat.lt_succ_self m), pend_complete m p fun t ht => h t (Nat.lt_succ_of_lt ht)]
    rfl

theorem srun_complete (n : Nat) (pc : (Nat → List Int) × Int) (sched : List Nat)
    (h : Complete n (srun n pc sched).1) : (srun n pc sched).2 = pend n pc.1 + pc.2 := by
  have e := srun_conserves n sched pc
  rw [pend_complete n _ h] at e
  omega

/-- for the synchronised fragment the result is schedule independent: any two complete schedules leave the
    same value in the cell (namely start value + all increments) -/
theorem C08_sync_deterministic (n : Nat) (p : Nat → List Int) (c : Int) (s1 s2 : List Nat)
    (h1 : Complete n (srun n (p, c) s1).1) (h2 : Complete n (srun n (p, c) s2).1) :
    (srun n (p, c) s1).2 = (srun n (p, c) s2).2 :=
  (srun_complete n (p, c) s1 h1).trans (srun_complete n (p, c) s2 h2).symm

/-- non-vacuity: two threads, two complete schedules with different interleavings -/
example : (srun 2 (fun t => if t = 0 then [1, 2] else if t = 1 then [10] else [], 0) [0, 1, 0]).2 = 13 := by decide
example : (srun 2 (fun t => if t = 0 then [1, 2] else if t = 1 then [10] else [], 0) [1, 0, 0]).2 = 13 := by decide

end EgoVerif.C08
