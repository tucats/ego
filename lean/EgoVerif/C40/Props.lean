import EgoVerif.C40.Model
/-
C40 — the request front end never panics.  Every Go partial operation of the front end is a checked operation
in Model.lean (`G = Except Panic`; `Total x`: `x` returns a value); for all route tables, methods, paths, query
maps, header lists and authentication outcomes, and all behaviours of the external parsers in `Prims`, each
checked operation is reached only with an index / bound / pointer for which it succeeds.
-/
namespace EgoVerif.C40

def Total {α} (x : G α) : Prop := ∃ v, x = .ok v

theorem total_pure {α} (v : α) : Total (pure v : G α) := ⟨v, rfl⟩
theorem total_ok {α} (v : α) : Total (.ok v : G α) := ⟨v, rfl⟩

theorem not_total_error {α} (e : Panic) : ¬ Total (.error e : G α) := by
  rintro ⟨v, h⟩; cases h

theorem ok_bind {α β} (v : α) (f : α → G β) : ((Except.ok v : G α) >>= f) = f v := rfl

theorem total_bind' {α β} {x : G α} {f : α → G β} (hx : Total x) (hf : ∀ v, x = .ok v → Total (f v)) :
    Total (x >>= f) := by
  obtain ⟨v, rfl⟩ := hx
  exact hf v rfl

theorem total_bind {α β} {x : G α} {f : α → G β} (hx : Total x) (hf : ∀ v, Total (f v)) : Total (x >>= f) :=
  total_bind' hx fun v _ => hf v

/-- each branch is reached with its guard in hand: this is how "the guard suffices" enters the proofs -/
theorem total_ite {α} {c : Prop} [Decidable c] {x y : G α} (hx : c → Total x) (hy : ¬c → Total y) :
    Total (if c then x else y) := by
  split
  · exact hx ‹_›
  · exact hy ‹_›

/-- a nest of `if`s whose leaves all return is one `pure` -/
theorem ite_pure {α} (c : Prop) [Decidable c] (a b : α) :
    (if c then pure a else pure b : G α) = pure (if c then a else b) := by
  split <;> rfl

theorem idx_ok {α} (xs : List α) (i : Nat) (h : i < xs.length) : idx xs i = .ok xs[i] := by
  simp [idx, List.getElem?_eq_getElem h]

theorem idx_total {α} (xs : List α) (i : Nat) (h : i < xs.length) : Total (idx xs i) := ⟨_, idx_ok xs i h⟩

theorem idx_panics {α} (xs : List α) (i : Nat) (h : xs.length ≤ i) : idx xs i = .error .index := by
  simp [idx, List.getElem?_eq_none h]

theorem total_idx_bind {α β} {xs : List α} {i : Nat} {f : α → G β} (h : i < xs.length) (hf : ∀ v, Total (f v)) :
    Total (idx xs i >>= f) :=
  total_bind (idx_total xs i h) hf

theorem sliceFrom_ok {α} (xs : List α) (lo : Int) (h0 : 0 ≤ lo) (h1 : lo ≤ xs.length) :
    sliceFrom xs lo = .ok (xs.drop lo.toNat) := by
  simp [sliceFrom, h0, h1]

theorem sliceTo_ok {α} (xs : List α) (hi : Int) (h0 : 0 ≤ hi) (h1 : hi ≤ xs.length) :
    sliceTo xs hi = .ok (xs.take hi.toNat) := by
  simp [sliceTo, h0, h1]

theorem slice_ok {α} (xs : List α) (lo hi : Int) (h0 : 0 ≤ lo) (h1 : lo ≤ hi) (h2 : hi ≤ xs.length) :
    slice xs lo hi = .ok ((xs.take hi.toNat).drop lo.toNat) := by
  simp [slice, h0, h1, h2]

/-- `strings.Split` never returns an empty slice -/
theorem splitGo_ne_nil (sep : Nat) (s cur : Str) : splitGo sep s cur ≠ [] := by
  induction s generalizing cur with
  | nil => simp [splitGo]
  | cons c rest ih =>
    unfold splitGo
    split
    · simp
    · exact ih _

theorem splitOn_length_pos (sep : Nat) (s : Str) : 0 < (splitOn sep s).length :=
  List.length_pos_iff.mpr (splitGo_ne_nil sep s [])

theorem hasPrefix_short {s p : Str} (h : s.length < p.length) : hasPrefix s p = false :=
  Bool.eq_false_iff.mpr fun hp => absurd (List.isPrefixOf_iff_prefix.mp hp).length_le (by omega)

/-! ### FindRoute -/

theorem maskLoop_total (tp : List Str) (eps : List Str) (i : Nat) (acc : List Str) :
    Total (maskLoop tp eps i acc) := by
  induction eps generalizing i acc with
  | nil => exact total_pure _
  | cons ep rest ih =>
    unfold maskLoop
    refine total_ite (fun _ => total_ite (fun hi => ?_) fun _ => total_pure _) fun _ =>
      total_ite (fun _ => ih _ _) fun _ =>
      total_ite (fun _ => ih _ _) fun hi => total_idx_bind (by omega) fun _ => ih _ _
    -- the glob segment under `i < len(testParts)`: `testParts[i+1:]` is in range, and the bound of the second
    -- slice comes out as `len(acc) + 1`
    rw [sliceFrom_ok tp _ (by omega) (by omega)]
    simp only [ok_bind]
    rw [sliceTo_ok _ _ (by simp; omega) (by omega)]
    exact total_pure _

theorem globIdxGo_le (eps : List Str) (i : Nat) : globIdxGo eps i ≤ i + eps.length := by
  induction eps generalizing i with
  | nil => simp [globIdxGo]
  | cons p rest ih =>
    have := ih (i + 1)
    unfold globIdxGo
    split <;> simp only [List.length_cons] <;> omega

theorem prefixLoop_total (tp : List Str) (ps : List Str) (i : Nat) (h : i + ps.length ≤ tp.length) :
    Total (prefixLoop tp ps i) := by
  induction ps generalizing i with
  | nil => exact total_pure _
  | cons p rest ih =>
    unfold prefixLoop
    simp only [List.length_cons] at h
    exact total_idx_bind (by omega) fun _ => total_ite (fun _ => total_pure _) fun _ => ih _ (by omega)

theorem routeMatches_total (path endpoint : Str) : Total (routeMatches path endpoint) := by
  unfold routeMatches
  apply total_bind (maskLoop_total _ _ _ _)
  rintro ⟨masked, glob⟩
  cases glob with
  | false => exact total_pure _
  | true =>
    -- `endpointParts[:globIdx]` is in range, and the prefix loop runs only when `testParts` is at least as long
    have hle := globIdxGo_le (split (normalize endpoint)) 0
    simp only [if_true]
    rw [sliceTo_ok _ _ (by omega) (by omega), ok_bind]
    refine total_ite (fun _ => prefixLoop_total _ _ _ ?_) fun _ => total_pure _
    simp only [Int.toNat_natCast, List.length_take]
    omega

theorem candidates_total (method path : Str) (tbl : List Route) : Total (candidates method path tbl) := by
  induction tbl with
  | nil => exact total_pure _
  | cons r rest ih =>
    unfold candidates
    exact total_ite (fun _ => total_bind ih fun _ => total_pure _) fun _ =>
      total_bind (routeMatches_total _ _) fun _ => total_bind ih fun _ => total_pure _

/-- after the fewest-variables scan has looked at one candidate, `fewestVariables` is not nil -/
theorem fewLoop_some (cs : List Route) (st st' : Few) (h : fewLoop cs st = .inr st')
    (hs : st.fewest.isSome ∨ cs ≠ []) : st'.fewest.isSome := by
  induction cs generalizing st with
  | nil =>
    cases h
    exact hs.resolve_right (· rfl)
  | cons c rest ih =>
    unfold fewLoop at h
    split at h
    · cases h
    · refine ih _ h (.inl ?_)
      -- of the two updates only the first touches `fewest`: it is set just now, or (the test `fewest == nil` being
      -- false) was set before
      simp only [apply_ite Few.fewest, ite_self]
      cases st.fewest with
      | none => rfl
      | some f => split <;> rfl

theorem longestLoop_lt_length (cands : List Route) (fuel index longest : Nat) (h : longest < cands.length) :
    ∃ k, longestLoop cands fuel index longest = .ok k ∧ k < cands.length := by
  induction fuel generalizing index longest with
  | zero => exact ⟨longest, rfl, h⟩
  | succ fuel ih =>
    unfold longestLoop
    split
    · rename_i hi
      rw [idx_ok cands index hi, idx_ok cands longest h]
      simp only [ok_bind]
      split
      · exact ih _ _ hi
      · exact ih _ _ h
    · exact ⟨longest, rfl, h⟩

/-- what FindRoute may answer: a value, and with status 200 the route is never nil -/
def Found (x : G (Option Route × Nat)) : Prop := ∃ r st, x = .ok (r, st) ∧ (st = 200 → r.isSome)

theorem found_some (c : Route) : Found (pure (some c, 200)) := ⟨_, _, rfl, fun _ => rfl⟩

theorem selectRoute_spec (method path : Str) (cands : List Route) : Found (selectRoute method path cands) := by
  unfold selectRoute
  match cands with
  | [] => exact ⟨none, 404, rfl, by simp⟩
  | [c] =>
    simp only [List.length_cons, List.length_nil]
    rw [idx_ok [c] 0 (by simp), ok_bind]
    split
    · exact found_some c
    · exact ⟨none, 405, rfl, by simp⟩
  | c :: d :: rest =>
    simp only [List.length_cons]
    split
    · exact found_some _
    · split
      · exact found_some _
      · rename_i st hst
        split
        · -- `fewestVariables.endpoint`: the scan saw at least two candidates
          obtain ⟨f, hf⟩ := Option.isSome_iff_exists.1 (fewLoop_some _ {} st hst (.inr (List.cons_ne_nil _ _)))
          rw [hf]
          exact found_some f
        · split
          · exact found_some _
          · obtain ⟨k, hk, hlt⟩ := longestLoop_lt_length (c :: d :: rest) (rest.length + 1 + 1) 1 0 (by simp)
            rw [hk, ok_bind, idx_ok _ k hlt]
            exact found_some _

theorem findRoute_spec (tbl : List Route) (method path : Str) : Found (findRoute tbl method path) := by
  obtain ⟨cs, hcs⟩ := candidates_total (upper method) (normalize path) tbl
  unfold findRoute
  simp only [hcs, ok_bind]
  exact selectRoute_spec _ _ _

/-- **FindRoute never panics** — no index, slice or nil fault for any table, method and path. -/
theorem C40_findRoute_total (tbl : List Route) (method path : Str) : Total (findRoute tbl method path) :=
  let ⟨_, _, h, _⟩ := findRoute_spec tbl method path
  ⟨_, h⟩

/-- **A found route is never nil**: FindRoute answers status 200 only together with a route, which is what makes
the unguarded `route.requiredPermissions`, `session.User`, `route.redirect`, `route.lightweight` in ServeHTTP safe. -/
theorem C40_found_route_non_nil (tbl : List Route) (method path : Str) (r : Option Route)
    (h : findRoute tbl method path = .ok (r, 200)) : r.isSome := by
  obtain ⟨r', st, h', h200⟩ := findRoute_spec tbl method path
  rw [h] at h'
  cases h'
  exact h200 rfl

/-! ### partsMap -/

theorem partsLoop_total (pp : List Str) (pat : List Str) (i : Nat) (m : List (Str × PartVal)) :
    Total (partsLoop pp pat i m) := by
  induction pat generalizing i m with
  | nil => exact total_pure _
  | cons part rest ih =>
    unfold partsLoop
    refine total_ite (fun _ => total_ite (fun hi => ?_) fun _ => total_pure _) fun _ =>
      total_ite (fun _ => total_ite (fun hi => total_idx_bind hi fun _ => ih _ _) fun _ => ih _ _) fun _ =>
      total_ite (fun _ => ih _ _) fun hi => total_idx_bind (by omega) fun _ => ih _ _
    rw [sliceFrom_ok pp i (by omega) (by omega)]
    exact total_pure _

/-- **partsMap never panics**: `segments[0]`, `pathParts[index:]`, `pathParts[index]` are always in range. -/
theorem C40_partsMap_total (endpoint path : Str) : Total (partsMap endpoint path) :=
  total_idx_bind (splitOn_length_pos _ _) fun _ => partsLoop_total _ _ _ _

/-! ### parameter validation -/

theorem egoAtoi_total (P : Prims) (s0 : Str) : Total (egoAtoi P s0) := by
  unfold egoAtoi
  generalize trimSpace s0 = s
  refine total_bind' (total_ite (fun _ => total_idx_bind (by omega) fun _ =>
    total_ite (fun _ => total_idx_bind (by omega) fun _ => total_pure _) fun _ => total_pure _)
    fun _ => total_pure _) fun quoted hquoted => ?_
  cases quoted with
  | true =>
    -- the quote test answers true only under its guard `len(s) > 1`, which is what `s[1 : len(s)-1]` needs
    have hlen : s.length > 1 := Decidable.byContradiction fun hn => by
      rw [if_neg hn] at hquoted
      cases hquoted
    simp only [if_true]
    rw [slice_ok s 1 ((s.length : Int) - 1) (by omega) (by omega) (by omega)]
    exact total_pure _
  | false =>
    simp only [Bool.false_eq_true, if_false]
    rw [sliceTo_ok s (min s.length 2 : Nat) (by omega) (by omega), ok_bind, Int.toNat_natCast]
    split
    · -- a radix prefix was recognised in `s[:2]`; it has two bytes, so `s` has, and `s[2:]` is in range
      rename_i b hb
      have h2 : 2 ≤ s.length := Decidable.byContradiction fun hn => by
        have short : ∀ a c, hasPrefix (lower (s.take (min s.length 2))) [a, c] = false := fun a c =>
          hasPrefix_short (by simp [lower]; omega)
        simp [short] at hb
      rw [sliceFrom_ok s 2 (by omega) (by omega), ok_bind]
      split <;> exact total_pure _
    · exact total_pure _

theorem validateOne_total (P : Prims) (kind : Str) (values : List Str) : Total (validateOne P kind values) := by
  unfold validateOne
  -- a non-empty `values` has its `[0]`; on the empty one the guards on `len(values)` keep every branch from reading it
  cases values with
  | nil =>
    simp [ite_pure]
    exact total_pure _
  | cons v vs =>
    obtain ⟨ok, hok⟩ := egoAtoi_total P v
    simp [idx, hok, ok_bind, ite_pure, -bind_pure_comp]
    exact total_pure _

/-- **ValidateParameters never panics**, whatever the query map, the declared types and the parsers do. -/
theorem C40_validateParameters_total (P : Prims) (validation : Option (List (Str × Str))) (q : Query) :
    Total (validateParameters P validation q) := by
  induction q with
  | nil => exact total_pure _
  | cons kv rest ih =>
    obtain ⟨name, values⟩ := kv
    unfold validateParameters
    split
    · refine total_bind (validateOne_total P _ _) fun e => ?_
      cases e with
      | some err => exact total_pure _
      | none => exact ih
    · exact total_pure _

/-- **validatePaging never panics**: nil route, nil parameter map, absent / empty / repeated start and limit. -/
theorem C40_validatePaging_total (P : Prims) (route : Option Route) (parms : Query) (maxLimit : Int) :
    Total (validatePaging P route parms maxLimit) := by
  unfold validatePaging
  split
  · exact total_pure _
  · split
    · exact total_pure _
    · -- both reads of `vals[0]` sit under `len(vals) > 0`; everything else returns
      refine total_ite (fun _ => total_pure _) fun _ => total_bind
        (total_ite (fun _ => total_ite (fun h => total_idx_bind h fun v => ?_) fun _ => total_pure _)
          fun _ => total_pure _) fun start => ?_
      · split <;> exact total_pure _
      · cases start with
        | none => exact total_pure _
        | some st =>
          refine total_ite (fun _ => total_ite (fun h => total_idx_bind h fun v => ?_) fun _ => total_pure _)
            fun _ => total_pure _
          split
          · simp only [ite_pure]
            exact total_pure _
          · exact total_pure _

theorem htmlTokens_total (toks : List Str) : Total (htmlTokens toks) := by
  induction toks with
  | nil => exact total_pure _
  | cons tok more ih =>
    unfold htmlTokens
    exact total_idx_bind (splitOn_length_pos 59 tok) fun _ => total_ite (fun _ => total_pure _) fun _ => ih

/-- **requestWantsBrowserHTML never panics**: `strings.SplitN(token, ";", 2)[0]` always exists. -/
theorem C40_wantsHTML_total (accept : List Str) : Total (wantsHTML accept) := by
  induction accept with
  | nil => exact total_pure _
  | cons hv rest ih =>
    unfold wantsHTML
    exact total_bind (htmlTokens_total _) fun _ => total_ite (fun _ => total_pure _) fun _ => ih

/-! ### ServeHTTP up to the handler call -/

section
variable (P : Prims) (r : Route) (sess : Session) (req : Request) (status : Nat)

theorem mkSession_some : ∃ sess, mkSession (some r) req = .ok (some sess) := by
  obtain ⟨parts, hp⟩ := C40_partsMap_total r.endpoint req.path
  exact ⟨_, by simp only [mkSession, hp, ok_bind]; rfl⟩

theorem earlyChecks_total : Total (earlyChecks (some r) (some sess) req) := by
  unfold earlyChecks
  simp only [deref, ok_bind, ite_pure]
  exact total_pure _

theorem mediaCheck_total : Total (mediaCheck (some r) (some sess) req) := by
  unfold mediaCheck
  simp only [deref, ok_bind, ite_pure]
  exact total_pure _

theorem permCheck_total : Total (permCheck (some r) (some sess) req status) := by
  unfold permCheck
  simp only [deref, ok_bind]
  cases r.permissions <;> simp only [ite_pure] <;> exact total_pure _

theorem paramCheck_total : Total (paramCheck P r sess req status) := by
  unfold paramCheck
  exact total_ite (fun _ => total_ite (fun _ => total_pure _) fun _ =>
    total_bind (C40_validateParameters_total P _ _) fun _ => total_pure _) fun _ => total_pure _

end

/-- **The request front end never panics.**  For every route table, request method, path, query map, Accept and
Content-Type header lists, every outcome of authentication / permission look-ups / body reading, and every
behaviour of the external parsers, `ServeHTTP` reaches either its own response or the handler call without an
index, slice-bounds, nil-pointer or nil-function fault. -/
theorem C40_frontend_total (P : Prims) (tbl : List Route) (req : Request) : Total (serve P tbl req) := by
  unfold serve
  obtain ⟨route, st, hfr, h200⟩ := findRoute_spec tbl req.method req.path
  rw [hfr, ok_bind]
  refine total_ite (fun _ => total_ite (fun _ => total_bind (C40_wantsHTML_total req.accept) fun _ => total_pure _)
    fun _ => total_pure _) fun hst => ?_
  -- status 200: FindRoute returned a route, so the session exists and the unguarded dereferences succeed
  obtain ⟨r, rfl⟩ := Option.isSome_iff_exists.mp (h200 (by simpa using hst))
  obtain ⟨sess, hs⟩ := mkSession_some r req
  rw [hs, ok_bind]
  apply total_bind (earlyChecks_total r sess req)
  intro early
  cases early with
  | some resp => exact total_pure _
  | none =>
    refine total_bind (mediaCheck_total r sess req) fun status1 =>
      total_bind (permCheck_total r sess req status1) fun status2 => ?_
    simp only [deref, ok_bind]
    exact total_ite (fun _ => total_pure _) fun _ =>
      total_bind (paramCheck_total P r sess req status2) fun status3 =>
      total_bind (total_ite (fun _ => C40_validatePaging_total P _ _ _) fun _ => total_pure _) fun _ => total_pure _

/-! ### the theorems are not vacuous: the same loop without its guard does panic -/

/-- FindRoute's masking loop WITHOUT the guard `if i < len(testParts)` around the glob slice -/
def maskLoopUnguarded (testParts : List Str) : List Str → Nat → List Str → G (List Str × Bool)
  | [], _, acc => pure (acc, false)
  | ep :: rest, i, acc =>
    if isGlob ep then do
      let acc1 := acc ++ [ep]
      let tail ← sliceFrom testParts ((i : Int) + 1)
      let acc2 := acc1 ++ tail
      let acc3 ← sliceTo acc2 ((acc2.length : Int) - ((testParts.length : Int) - (i : Int) - 1))
      pure (acc3, true)
    else if isVar ep then maskLoopUnguarded testParts rest (i + 1) (acc ++ [ep])
    else if i ≥ testParts.length then maskLoopUnguarded testParts rest (i + 1) (acc ++ [ep])
    else do
      let t ← idx testParts i
      maskLoopUnguarded testParts rest (i + 1) (acc ++ [t])

/-- path "/" against the pattern "/a/b/{{x...}}/": without the guard the slice `testParts[4:]` of a two-element
slice is out of range — the model can express the fault, and the guard in the code is what prevents it. -/
theorem C40_unguarded_loop_panics :
    maskLoopUnguarded (split [47]) (split [47, 97, 47, 98, 47, 123, 123, 120, 46, 46, 46, 125, 125, 47]) 0 []
      = .error .slice := rfl

example : maskLoop (split [47]) (split [47, 97, 47, 98, 47, 123, 123, 120, 46, 46, 46, 125, 125, 47]) 0 []
    = .ok ([[], [], [98], [123, 123, 120, 46, 46, 46, 125, 125]], true) := rfl

example : idx ([] : List Nat) 0 = .error .index := rfl
example : deref (none : Option Nat) = .error .nilDeref := rfl

def noPrims : Prims := ⟨fun _ => none, fun _ _ => none, fun _ => 0, fun _ => false⟩

/-- a request that goes all the way to the handler: GET /u/bob reaches the handler of "/u/{{name}}" with
name = "bob" -/
example : serve noPrims
    [{ endpoint := [47, 117, 47, 123, 123, 110, 125, 125], method := [71, 69, 84] }]
    { method := [71, 69, 84], path := [47, 117, 47, 98, 111, 98] }
    = .ok (.handler [47, 117, 47, 123, 123, 110, 125, 125] [71, 69, 84] [([117], .bool true), ([110], .str [98, 111, 98])] 0 0) := rfl

/-- a path that matches nothing is answered 404 by the front end itself -/
example : serve noPrims
    [{ endpoint := [47, 117, 47, 123, 123, 110, 125, 125], method := [71, 69, 84] }]
    { method := [71, 69, 84], path := [47, 120] } = .ok (.status 404) := rfl

end EgoVerif.C40
