import EgoVerif.C35.Model
/-
C35 — langlint's loop body is split into "classify the line" (`pline`) and "push the event"
(`PSt.push`); on every line langlint accepts the compiler's `cline` sees the same event.  The compiler
is run over a functional table (`srun`, bridged to `crun`), where neither the stable sort nor the
blank separators of `render` can be observed (`Equiv`).
-/
namespace EgoVerif.C35

theorem trimRightBy_eq (p : Char → Bool) (l : Str) : trimRightBy p l = (l.reverse.dropWhile p).reverse := by
  induction l with
  | nil => rfl
  | cons c cs ih =>
    rw [trimRightBy, ih, List.reverse_cons, List.dropWhile_append]
    cases h : cs.reverse.dropWhile p with
    | nil => simp [List.dropWhile_cons]; split <;> rfl
    | cons d ds =>
      obtain ⟨e, es, he⟩ := List.exists_cons_of_ne_nil (l := (d :: ds).reverse) (by simp)
      rw [he]; simp [← he]

theorem dropWhile_absorb (p q : Char → Bool) (h : ∀ c, q c = true → p c = true) (l : Str) :
    (l.dropWhile q).dropWhile p = l.dropWhile p := by
  induction l with
  | nil => rfl
  | cons a l ih => by_cases hq : q a = true <;> simp [List.dropWhile_cons, hq, h, ih]

theorem trimRightBy_absorb (p q : Char → Bool) (h : ∀ c, q c = true → p c = true) (l : Str) :
    trimRightBy p (trimRightBy q l) = trimRightBy p l := by
  simp only [trimRightBy_eq, List.reverse_reverse, dropWhile_absorb p q h]

theorem trimRightBy_mid (p : Char → Bool) (x : Str) (c : Char) (y : Str) (hc : p c = false) :
    trimRightBy p (x ++ c :: y) = x ++ c :: trimRightBy p y := by
  simp only [trimRightBy_eq, List.reverse_append, List.reverse_cons, List.append_assoc, List.dropWhile_append (xs := y.reverse)]
  split <;> simp_all

theorem isCR_isSpace (c : Char) (h : isCR c = true) : isSpace c = true := by
  have : c = '\r' := by simpa [isCR] using h
  subst this; decide

theorem trimRight_trimCR (l : Str) : trimRight (trimCR l) = trimRight l :=
  trimRightBy_absorb isSpace isCR isCR_isSpace l

theorem trim_trimCR (l : Str) : trim (trimCR l) = trim l := by
  simp [trim, trimRight_trimCR]

theorem mem_trimRightBy (p : Char → Bool) (l : Str) (x : Char) (h : x ∈ trimRightBy p l) : x ∈ l := by
  rw [trimRightBy_eq, List.mem_reverse] at h
  exact List.mem_reverse.1 ((List.dropWhile_sublist p).subset h)

theorem head_trimRightBy (p : Char → Bool) (a : Char) (ha : p a = false) (l : Str) :
    (trimRightBy p l).head? = some a ↔ l.head? = some a := by
  cases l with
  | nil => rfl
  | cons c cs =>
    rw [trimRightBy]
    cases trimRightBy p cs with
    | cons d ds => rfl
    | nil =>
      -- `c` goes only if `p c`, and then it is not `a`
      by_cases hc : p c = true
      · have : c ≠ a := fun e => by rw [e, ha] at hc; cases hc
        simp [hc, this]
      · simp [hc]

theorem splitEq_spec (l k v : Str) (h : splitEq l = some (k, v)) : l = k ++ '=' :: v ∧ '=' ∉ k := by
  induction l generalizing k with
  | nil => simp [splitEq] at h
  | cons c cs ih =>
    unfold splitEq at h
    split at h
    · rename_i hc
      simp at h; obtain ⟨rfl, rfl⟩ := h; simp [hc]
    · rename_i hc
      split at h
      · simp at h
      · rename_i k' v' hs
        simp at h; obtain ⟨rfl, rfl⟩ := h
        obtain ⟨h1, h2⟩ := ih k' hs
        constructor
        · simp [h1]
        · simp [h2]; exact fun h => hc h.symm

theorem splitEq_of (k v : Str) (h : '=' ∉ k) : splitEq (k ++ '=' :: v) = some (k, v) := by
  induction k with
  | nil => simp [splitEq]
  | cons c cs ih =>
    have hc : ¬ c = '=' := fun e => h (by simp [e])
    have := ih (fun e => h (List.mem_cons_of_mem _ e))
    simp [splitEq, hc, this]

def noNL (l : Str) : Prop := '\n' ∉ l

theorem splitLines_line (l rest : Str) (h : noNL l) : splitLines (l ++ '\n' :: rest) = l :: splitLines rest := by
  induction l with
  | nil => simp [splitLines]
  | cons c l ih =>
    have hc : ¬ c = '\n' := fun e => h (by simp [e])
    have := ih (fun e => h (List.mem_cons_of_mem _ e))
    simp [splitLines, hc, this]

theorem splitLines_join (ls : List Str) (h : ∀ l ∈ ls, noNL l) : splitLines (joinLines ls) = ls ++ [[]] := by
  induction ls with
  | nil => simp [joinLines, splitLines]
  | cons l ls ih =>
    have h1 := ih (fun x hx => h x (by simp [hx]))
    have : joinLines (l :: ls) = l ++ '\n' :: joinLines ls := by simp [joinLines]
    rw [this, splitLines_line l _ (h l (by simp)), h1]
    rfl

theorem splitLines_noNL (s : Str) : ∀ l ∈ splitLines s, noNL l := by
  induction s with
  | nil => exact fun l hl => List.mem_singleton.1 hl ▸ List.not_mem_nil
  | cons c cs ih =>
    rw [splitLines]
    by_cases hc : c = '\n'
    · rw [if_pos hc]
      exact List.forall_mem_cons.2 ⟨List.not_mem_nil, ih⟩
    · rw [if_neg hc]
      -- `c` joins the first line of the rest
      cases hs : splitLines cs with
      | nil => exact fun l hl => List.mem_singleton.1 hl ▸ fun hm => hc (List.mem_singleton.1 hm).symm
      | cons l ls =>
        rw [hs] at ih
        obtain ⟨h1, h2⟩ := List.forall_mem_cons.1 ih
        exact List.forall_mem_cons.2 ⟨fun hm => (List.mem_cons.1 hm).elim (fun e => hc e.symm) h1, h2⟩

theorem eq_notSpace : isSpace '=' = false := by decide

theorem trimLeft_append_stop (k : Str) (c : Char) (rest : Str) (hc : isSpace c = false) :
    trimLeft (k ++ c :: rest) = trimLeft k ++ c :: rest := by
  unfold trimLeft
  rw [List.dropWhile_append]
  split <;> simp_all

theorem mem_trimLeft (k : Str) (x : Char) (h : x ∈ trimLeft k) : x ∈ k :=
  (List.dropWhile_sublist _).subset h

theorem trim_cons_space (c : Char) (cs : Str) (hc : isSpace c = true) : trim (c :: cs) = trim cs := by
  unfold trim trimRight
  cases ht : trimRightBy isSpace cs with
  | nil => simp [trimRightBy, ht, hc, trimLeft]
  | cons d ds => simp [trimRightBy, ht, trimLeft, List.dropWhile, hc]

theorem trim_trimLeft (k : Str) : trim (trimLeft k) = trim k := by
  induction k with
  | nil => rfl
  | cons c cs ih =>
    by_cases hc : isSpace c = true
    · rw [trim_cons_space c cs hc, ← ih]; simp [trimLeft, List.dropWhile, hc]
    · simp [trimLeft, List.dropWhile, hc]

/-- the compiler splits the trimmed line, langlint the line as it stands -/
theorem splitEq_trim (l k v : Str) (h : splitEq l = some (k, v)) :
    splitEq (trim l) = some (trimLeft k, trimRight v) := by
  obtain ⟨hl, hk⟩ := splitEq_spec l k v h
  subst hl
  have : trim (k ++ '=' :: v) = trimLeft k ++ '=' :: trimRight v := by
    unfold trim trimRight
    rw [trimRightBy_mid isSpace k '=' v eq_notSpace, trimLeft_append_stop k '=' _ eq_notSpace]
  rw [this]
  exact splitEq_of _ _ (fun e => hk (mem_trimLeft k _ e))

theorem cline_trimCR (r : Str) : cline (trimCR r) = cline r := by
  have hh : (trimCR r).head? = some '#' ↔ r.head? = some '#' :=
    head_trimRightBy isCR '#' (by decide) r
  unfold cline
  rw [trim_trimCR]
  by_cases h : r.head? = some '#'
  · simp [h, hh.2 h]
  · have : ¬ (trimCR r).head? = some '#' := fun e => h (hh.1 e)
    simp [h, this]

theorem cline_nil : cline [] = .skip := by decide

theorem cline_comment (l : Str) (h : l.head? = some '#') : cline l = .skip := by
  simp [cline, h]

theorem trim_id (l : Str) (a b : Char) (ha : isSpace a = false) (hb : isSpace b = false)
    (h1 : l.head? = some a) (h2 : l.getLast? = some b) : trim l = l := by
  have hr : trimRight l = l := by
    obtain ⟨ys, hl⟩ := List.getLast?_eq_some_iff.1 h2
    unfold trimRight
    rw [hl, trimRightBy_mid isSpace _ b [] hb]
    simp [trimRightBy]
  unfold trim
  rw [hr]
  cases l with
  | nil => simp at h1
  | cons c cs =>
    simp at h1; subst h1
    simp [trimLeft, List.dropWhile, ha]

theorem headerLine_inner (l : Str) (h1 : l.head? = some '[') (h2 : l.getLast? = some ']') :
    headerLine (inner l) = l := by
  cases l with
  | nil => simp at h1
  | cons c cs =>
    simp at h1; subst h1
    cases cs with
    | nil => simp at h2
    | cons d ds =>
      have h3 : (d :: ds).getLast? = some ']' := by simpa [List.getLast?_cons_cons] using h2
      obtain ⟨ys, hl⟩ := List.getLast?_eq_some_iff.1 h3
      rw [hl]
      simp [headerLine, inner]

theorem cline_header (l : Str) (h1 : l.head? = some '[') (h2 : l.getLast? = some ']') :
    cline l = .pfx (inner l) := by
  have ht : trim l = l := trim_id l '[' ']' (by decide) (by decide) h1 h2
  have hne : l ≠ [] := by intro e; simp [e] at h1
  simp [cline, ht, h1, h2, hne]

theorem trim_ne_nil_of_mem (l : Str) (c : Char) (hc : isSpace c = false) (h : c ∈ l) : trim l ≠ [] := by
  obtain ⟨x, y, rfl⟩ := List.append_of_mem h
  unfold trim trimRight
  rw [trimRightBy_mid isSpace x c y hc, trimLeft_append_stop x c _ hc]
  simp

theorem cline_entry (l k v : Str) (h0 : ¬ l.head? = some '#') (h1 : ¬ (trim l).head? = some '[')
    (h2 : splitEq l = some (k, v)) : cline l = .entry (trim k) (trimRight v) := by
  have hs := splitEq_trim l k v h2
  obtain ⟨hl, _⟩ := splitEq_spec l k v h2
  have hne : trim l ≠ [] := trim_ne_nil_of_mem l '=' eq_notSpace (by rw [hl]; simp)
  simp [cline, h0, h1, hs, hne, trim_trimLeft]

theorem cline_blank (l : Str) (h : trim l = []) : cline l = .skip := by
  simp only [cline, h, ↓reduceIte, ite_self]

/-- what one line means to `parse` -/
inductive PEv where
  | blank
  | comment (l : Str)
  | header (h : Str)
  | entry (k v : Str)

/-- the tests at the top of the loop body of `parse`, without the state -/
def pline (raw : Str) : Except Err PEv :=
  if trim (trimCR raw) = [] then .ok .blank
  else if (trimCR raw).head? = some '#' then .ok (.comment (trimCR raw))
  else if (trimCR raw).head? = some '[' then
    if (trimCR raw).getLast? = some ']' then .ok (.header (inner (trimCR raw))) else .error .header
  else if (trim (trimCR raw)).head? = some '[' then .error .indentedHeader
  else match splitEq (trimCR raw) with
    | none => .error .noEq
    | some (k, v) => if k = [] then .error .emptyKey else .ok (.entry k v)

/-- the line `render` writes for an event -/
def PEv.line : PEv → Str
  | .blank => []
  | .comment l => l
  | .header h => headerLine h
  | .entry k v => entryLine (k, v)

/-- what `parse` records of an event in the blocks: everything but a blank line -/
def PEv.kept : PEv → List PEv
  | .blank => []
  | ev => [ev]

theorem PEv.eq_of_mem_kept {x ev : PEv} (h : x ∈ ev.kept) : x = ev := by
  cases ev with
  | blank => cases h
  | _ => exact List.mem_singleton.1 h

/-- what the compiler makes of a line that langlint reads as the event -/
def PEv.toC : PEv → CEv
  | .blank => .skip
  | .comment _ => .skip
  | .header h => .pfx h
  | .entry k v => .entry (trim k) (trimRight v)

theorem pline_spec (raw : Str) (ev : PEv) (h : pline raw = .ok ev) :
    cline raw = ev.toC ∧ (ev = .blank ∨ ev.line = trimCR raw) := by
  rw [← cline_trimCR raw]
  revert h
  fun_cases pline raw <;> rintro ⟨⟩
  · exact ⟨cline_blank _ ‹_›, .inl rfl⟩
  · exact ⟨cline_comment _ ‹_›, .inr rfl⟩
  · exact ⟨cline_header _ ‹_› ‹_›, .inr (headerLine_inner _ ‹_› ‹_›)⟩
  · exact ⟨cline_entry _ _ _ ‹_› ‹_› ‹_›, .inr (splitEq_spec _ _ _ ‹_›).1.symm⟩

theorem trimCR_idem (l : Str) : trimCR (trimCR l) = trimCR l :=
  trimRightBy_absorb isCR isCR (fun _ h => h) l

theorem pline_trimCR (raw : Str) : pline (trimCR raw) = pline raw := by
  simp only [pline, trimCR_idem]

/-- a line `render` writes that `parse` reads back as the event it was written for -/
def Reads (ev : PEv) : Prop := noNL ev.line ∧ pline ev.line = .ok ev

theorem reads_blank : Reads .blank := ⟨List.not_mem_nil, rfl⟩

theorem reads_of_pline (raw : Str) (ev : PEv) (hnl : noNL raw) (h : pline raw = .ok ev) : Reads ev := by
  rcases (pline_spec raw ev h).2 with rfl | hl
  · exact reads_blank
  · unfold Reads
    rw [hl, pline_trimCR]
    exact ⟨fun hm => hnl (mem_trimRightBy _ _ _ hm), h⟩

theorem Reads.cline {ev : PEv} (h : Reads ev) : cline ev.line = ev.toC := (pline_spec _ _ h.2).1

def emptyComment : Block := ⟨.comment, [], [], false, []⟩

/-- the block a comment line (`κ = .comment`) or an entry (`κ = .sect`) goes into, with the finished
blocks before it: the current block if it has that kind, otherwise the fresh block `nb` -/
def PSt.target (st : PSt) (κ : Kind) (nb : Block) : List Block × Block :=
  match st.cur with
  | none => (st.done, nb)
  | some b => if b.kind = κ then (st.done, b) else (st.done ++ [b], nb)

/-- the state change of one iteration of the loop in `parse` -/
def PSt.push (st : PSt) (n : Nat) : PEv → PSt
  | .blank => st
  | .comment l =>
    let t := st.target .comment emptyComment
    { st with done := t.1, cur := some { t.2 with comments := t.2.comments ++ [l] } }
  | .header h => { st with done := st.blocks, cur := some (sectionBlock h true), pfx := h }
  | .entry k v =>
    let t := st.target .sect (sectionBlock st.pfx false)
    ⟨t.1, some { t.2 with entries := t.2.entries ++ [(k, v)] }, st.pfx,
      st.seen ++ [(fullKey t.2.header (trim k), n)]⟩

theorem pstep_eq (st : PSt) (n : Nat) (raw : Str) :
    pstep st n raw = match pline raw with
      | .ok ev => .ok (st.push n ev)
      | .error e => .error (n, e) := by
  unfold pstep
  fun_cases pline raw <;> simp only [*, ↓reduceIte, Option.some.injEq, Char.reduceEq]
  any_goals rfl
  -- left: the comment line, the one case that inspects `st.cur`
  simp only [PSt.push, PSt.target]
  cases st.cur with
  | none => rfl
  | some b => dsimp only; split <;> rfl

def PSt.pushAll : PSt → Nat → List PEv → PSt
  | st, _, [] => st
  | st, n, ev :: evs => (st.push n ev).pushAll (n + 1) evs

theorem PSt.pushAll_append (a b : List PEv) (st : PSt) (n : Nat) :
    st.pushAll n (a ++ b) = (st.pushAll n a).pushAll (n + a.length) b := by
  induction a generalizing st n with
  | nil => rfl
  | cons ev a ih => simp only [List.cons_append, pushAll, ih, List.length_cons]; congr 1; omega

theorem prun_lines (evs : List PEv) (h : ∀ ev ∈ evs, Reads ev) (st : PSt) (n : Nat) :
    prun st n (evs.map PEv.line) = .ok (st.pushAll n evs) := by
  induction evs generalizing st n with
  | nil => rfl
  | cons ev evs ih =>
    simp only [List.map_cons, prun, pstep_eq, (h ev (by simp)).2]
    exact ih (fun x hx => h x (by simp [hx])) _ _

/-! ### the compiler over a functional table -/

abbrev Tab := Str → Option Str

def upd (f : Tab) (k v : Str) : Tab := fun x => if k = x then some v else f x

structure SSt where
  pfx : Str
  tab : Tab

def sstep (σ : SSt) (raw : Str) : Option SSt :=
  match cline raw with
  | .skip => some σ
  | .pfx h => some { σ with pfx := h }
  | .bad => none
  | .entry k v => some { σ with tab := upd σ.tab (fullKey σ.pfx k) v }

def srun : SSt → List Str → Option SSt
  | σ, [] => some σ
  | σ, l :: ls =>
    match sstep σ l with
    | none => none
    | some σ' => srun σ' ls

def abs (σ : CSt) : SSt := ⟨σ.pfx, get σ.tab⟩

theorem get_snoc (t : List (Str × Str)) (k v : Str) : get (t ++ [(k, v)]) = upd (get t) k v := by
  funext x
  simp [get, upd, List.foldl_append]

theorem bridge_step (σ : CSt) (raw : Str) : (cstep σ raw).map abs = sstep (abs σ) raw := by
  unfold cstep sstep
  cases cline raw <;> simp [abs, get_snoc]

theorem bridge (σ : CSt) (ls : List Str) : (crun σ ls).map abs = srun (abs σ) ls := by
  induction ls generalizing σ with
  | nil => rfl
  | cons l ls ih =>
    rw [crun, srun, ← bridge_step]
    cases cstep σ l with
    | none => rfl
    | some σ' => exact ih σ'

theorem table_eq (s : Str) : table s = (srun ⟨[], fun _ => none⟩ (splitLines s)).map (·.tab) := by
  show _ = (srun (abs ⟨[], []⟩) _).map _
  rw [← bridge, table, compile, Option.map_map, Option.map_map]
  rfl

theorem srun_append (σ : SSt) (a b : List Str) :
    srun σ (a ++ b) = (srun σ a).bind (fun σ' => srun σ' b) := by
  induction a generalizing σ with
  | nil => simp [srun]
  | cons l ls ih =>
    simp only [List.cons_append, srun]
    cases sstep σ l with
    | none => simp
    | some σ' => simpa using ih σ'

/-- two line lists the compiler cannot tell apart, from any state -/
def Equiv (a b : List Str) : Prop := ∀ σ, srun σ a = srun σ b

theorem Equiv.refl (a : List Str) : Equiv a a := fun _ => rfl
theorem Equiv.trans {a b c : List Str} (h1 : Equiv a b) (h2 : Equiv b c) : Equiv a c :=
  fun σ => (h1 σ).trans (h2 σ)
theorem Equiv.symm {a b : List Str} (h : Equiv a b) : Equiv b a := fun σ => (h σ).symm

theorem Equiv.append {a a' b b' : List Str} (h1 : Equiv a a') (h2 : Equiv b b') :
    Equiv (a ++ b) (a' ++ b') := by
  intro σ
  rw [srun_append, srun_append, h1 σ]
  cases srun σ a' with
  | none => rfl
  | some σ' => simpa using h2 σ'

theorem equiv_single (l r : Str) (h : cline l = cline r) : Equiv [l] [r] := by
  intro σ; simp [srun, sstep, h]

theorem equiv_skip (l : Str) (h : cline l = .skip) : Equiv [l] [] := by
  intro σ; simp [srun, sstep, h]

theorem equiv_out (raw : Str) (ev : PEv) (h : pline raw = .ok ev) (hr : Reads ev) :
    Equiv (ev.kept.map PEv.line) [raw] := by
  have hc := (pline_spec raw ev h).1
  cases ev with
  | blank => exact (equiv_skip raw hc).symm
  | _ => exact equiv_single _ raw (hr.cline.trans hc.symm)

theorem mem_insertE (e x : Str × Str) (l : List (Str × Str)) : x ∈ insertE e l ↔ x = e ∨ x ∈ l := by
  induction l with
  | nil => simp [insertE]
  | cons y ys ih =>
    unfold insertE
    split <;> simp [ih, or_left_comm]

theorem mem_sortE (x : Str × Str) (l : List (Str × Str)) : x ∈ sortE l ↔ x ∈ l := by
  induction l with
  | nil => simp [sortE]
  | cons e es ih => simp [sortE, mem_insertE, ih]

theorem upd_comm (f : Tab) (k1 v1 k2 v2 : Str) (h : k1 ≠ k2) :
    upd (upd f k1 v1) k2 v2 = upd (upd f k2 v2) k1 v1 := by
  funext x
  unfold upd
  by_cases h1 : k1 = x <;> by_cases h2 : k2 = x <;> simp [h1, h2]
  exact absurd (h1.trans h2.symm) h

theorem fullKey_inj (p k1 k2 : Str) (h : fullKey p k1 = fullKey p k2) : k1 = k2 := by
  unfold fullKey at h
  by_cases hp : p = [] <;> simpa [hp] using h

/-- the assignments the compiler makes for a run of entry lines under prefix `p` -/
def applyE (p : Str) (f : Tab) (es : List (Str × Str)) : Tab :=
  es.foldl (fun f e => upd f (fullKey p (trim e.1)) (trimRight e.2)) f

theorem applyE_insertE (p : Str) (f : Tab) (e : Str × Str) (l : List (Str × Str)) :
    applyE p f (insertE e l) = applyE p (upd f (fullKey p (trim e.1)) (trimRight e.2)) l := by
  induction l generalizing f with
  | nil => simp [insertE, applyE]
  | cons y ys ih =>
    unfold insertE
    split
    · rename_i hlt
      -- `y` stays in front of `e` only if its key is strictly smaller, so the two assignments commute
      have hne : fullKey p (trim y.1) ≠ fullKey p (trim e.1) := by
        intro h
        rw [fullKey_inj p _ _ h] at hlt
        exact List.lt_irrefl _ hlt
      have h1 : applyE p f (y :: insertE e ys) =
          applyE p (upd f (fullKey p (trim y.1)) (trimRight y.2)) (insertE e ys) := rfl
      rw [h1, ih, upd_comm _ _ _ _ _ hne]
      rfl
    · rfl

theorem applyE_sortE (p : Str) (f : Tab) (es : List (Str × Str)) : applyE p f (sortE es) = applyE p f es := by
  induction es generalizing f with
  | nil => rfl
  | cons e es ih =>
    simp only [sortE]
    rw [applyE_insertE, ih]
    rfl

def entryEv (e : Str × Str) : PEv := .entry e.1 e.2

theorem srun_entries (σ : SSt) (es : List (Str × Str)) (h : ∀ e ∈ es, Reads (entryEv e)) :
    srun σ (es.map entryLine) = some ⟨σ.pfx, applyE σ.pfx σ.tab es⟩ := by
  induction es generalizing σ with
  | nil => rfl
  | cons e es ih =>
    have he : cline (entryLine e) = .entry (trim e.1) (trimRight e.2) := (h e (by simp)).cline
    simp only [List.map_cons, srun, sstep, he]
    exact ih ⟨σ.pfx, upd σ.tab (fullKey σ.pfx (trim e.1)) (trimRight e.2)⟩ (fun x hx => h x (by simp [hx]))

theorem equiv_sorted (es : List (Str × Str)) (h : ∀ e ∈ es, Reads (entryEv e)) :
    Equiv ((sortE es).map entryLine) (es.map entryLine) := by
  intro σ
  rw [srun_entries σ es h, srun_entries σ (sortE es) (fun e he => h e ((mem_sortE e es).1 he)), applyE_sortE]

/-- the events a block is rendered as, its entries in the order `f` puts them -/
def Block.evs (f : List (Str × Str) → List (Str × Str)) (b : Block) : List PEv :=
  match b.kind with
  | .comment => b.comments.map .comment
  | .sect => (if b.hasHeader then [.header b.header] else []) ++ (f b.entries).map entryEv

theorem blockLines_eq (b : Block) : blockLines b = (b.evs sortE).map PEv.line := by
  unfold blockLines Block.evs
  cases b.kind
  · simp only [List.map_map]
    exact (List.map_id _).symm
  · cases b.hasHeader <;> simp [PEv.line, entryEv, Function.comp_def]

theorem mem_evs_sortE (b : Block) (ev : PEv) : ev ∈ b.evs sortE ↔ ev ∈ b.evs id := by
  unfold Block.evs
  cases b.kind <;> simp [mem_sortE]

def Good (b : Block) : Prop := ∀ ev ∈ b.evs id, Reads ev

theorem equiv_block (b : Block) (h : Good b) :
    Equiv ((b.evs sortE).map PEv.line) ((b.evs id).map PEv.line) := by
  unfold Good Block.evs at *
  cases hk : b.kind with
  | comment => exact Equiv.refl _
  | sect =>
    simp only [hk, List.map_append, List.map_map, id] at h ⊢
    exact Equiv.append (Equiv.refl _) (equiv_sorted _ (fun e he => h _ (List.mem_append_right _ (List.mem_map_of_mem he))))

def sepEvs (bs : List Block) : List PEv := bs.flatMap fun b => .blank :: b.evs sortE

theorem sepEvs_cons (b : Block) (bs : List Block) : sepEvs (b :: bs) = .blank :: (b.evs sortE ++ sepEvs bs) := rfl

theorem sepEvs_concat (bs : List Block) (b : Block) : sepEvs (bs ++ [b]) = sepEvs bs ++ .blank :: b.evs sortE := by
  simp [sepEvs]

/-- the events `render` writes: no blank line before the first block -/
def renderEvs (bs : List Block) : List PEv := (sepEvs bs).tail

theorem renderEvs_cons (b : Block) (bs : List Block) : renderEvs (b :: bs) = b.evs sortE ++ sepEvs bs := rfl

theorem renderLines_eq (bs : List Block) : renderLines bs = (renderEvs bs).map PEv.line := by
  cases bs with
  | nil => rfl
  | cons b bs => simp [renderLines, renderEvs, sepEvs, blockLines_eq, List.map_flatMap, PEv.line]

theorem reads_renderEvs (bs : List Block) (h : ∀ b ∈ bs, Good b) : ∀ ev ∈ renderEvs bs, Reads ev := by
  intro ev he
  obtain ⟨b, hb, he⟩ := List.mem_flatMap.1 (List.mem_of_mem_tail he)
  rcases List.mem_cons.1 he with rfl | he
  · exact reads_blank
  · exact h b hb ev ((mem_evs_sortE b ev).1 he)

theorem equiv_sepEvs (bs : List Block) (h : ∀ b ∈ bs, Good b) :
    Equiv ((sepEvs bs).map PEv.line) ((bs.flatMap (Block.evs id)).map PEv.line) := by
  induction bs with
  | nil => exact Equiv.refl _
  | cons b bs ih =>
    rw [sepEvs_cons, List.flatMap_cons, List.map_cons, List.map_append, List.map_append]
    exact Equiv.append
      (Equiv.append (a := [[]]) (a' := []) (equiv_skip [] cline_nil) (equiv_block b (h b (by simp))))
      (ih (fun x hx => h x (by simp [hx])))

theorem equiv_renderEvs (bs : List Block) (h : ∀ b ∈ bs, Good b) :
    Equiv ((renderEvs bs).map PEv.line) ((bs.flatMap (Block.evs id)).map PEv.line) := by
  cases bs with
  | nil => exact Equiv.refl _
  | cons b bs =>
    rw [renderEvs_cons, List.flatMap_cons, List.map_append, List.map_append]
    exact Equiv.append (equiv_block b (h b (by simp))) (equiv_sepEvs bs (fun x hx => h x (by simp [hx])))

theorem splitLines_render (bs : List Block) (h : ∀ b ∈ bs, Good b) :
    splitLines (render bs) = (renderEvs bs ++ [PEv.blank]).map PEv.line := by
  unfold render
  rw [renderLines_eq, splitLines_join _ (fun l hl => ?_), List.map_append]
  · rfl
  · obtain ⟨ev, he, rfl⟩ := List.mem_map.1 hl
    exact (reads_renderEvs bs h ev he).1

end EgoVerif.C35
