import EgoVerif.C35.Lemmas
/-
C35 — langlint's Format against the message compiler.  The three theorems rest on one invariant of
the loop in `parse` (`Inv`): the shape of the block list, that the blocks flattened are, to the
compiler, the lines read, and that `seenAt` lists the keys the compiler assigns.
-/
namespace EgoVerif.C35

/-! ### the shape of the block lists `parse` can produce -/

def lastKind (bs : List Block) : Option Kind := bs.getLast?.map (·.kind)

@[simp] theorem lastKind_concat (bs : List Block) (b : Block) : lastKind (bs ++ [b]) = some b.kind := by
  simp [lastKind]

/-- `b` may follow the blocks `bs` (after which the prefix in force is `p0`); then the prefix is `p`.
The three forms of a block that `parse` builds: comment lines; a header and the entries under it;
entries under the prefix in force, where no section block is open. -/
inductive Ext (bs : List Block) (p0 : Str) : Block → Str → Prop
  | comment (l : Str) (ls : List Str) : lastKind bs ≠ some .comment →
      Ext bs p0 ⟨.comment, l :: ls, [], false, []⟩ p0
  | headed (h : Str) (es : List (Str × Str)) : Ext bs p0 ⟨.sect, [], h, true, es⟩ h
  | bare (e : Str × Str) (es : List (Str × Str)) : lastKind bs ≠ some .sect →
      Ext bs p0 ⟨.sect, [], p0, false, e :: es⟩ p0

inductive WF : List Block → Str → Prop
  | nil : WF [] []
  | snoc {bs : List Block} {p0 : Str} {b : Block} {p : Str} : WF bs p0 → Ext bs p0 b p → WF (bs ++ [b]) p

inductive WFS : PSt → Prop
  | init (seen : List (Str × Nat)) : WFS ⟨[], none, [], seen⟩
  | cur {done : List Block} {p0 : Str} {b : Block} {p : Str} (seen : List (Str × Nat)) :
      WF done p0 → Ext done p0 b p → WFS ⟨done, some b, p, seen⟩

theorem WFS.blocks {st : PSt} (h : WFS st) : WF st.blocks st.pfx := by
  cases h with
  | init => exact .nil
  | cur _ h1 h2 => exact .snoc h1 h2

/-- a current section block files its entries under the prefix in force -/
theorem WFS.target_header {st : PSt} (h : WFS st) :
    (st.target .sect (sectionBlock st.pfx false)).2.header = st.pfx := by
  cases h with
  | init => rfl
  | cur _ _ hext => cases hext <;> rfl

theorem WFS.push {st : PSt} (hw : WFS st) (n : Nat) (ev : PEv) : WFS (st.push n ev) := by
  cases ev with
  | blank => exact hw
  | header h => exact .cur _ hw.blocks (.headed h [])
  | comment l =>
    cases hw with
    | init => exact .cur _ .nil (.comment l [] nofun)
    | cur _ hwf hext =>
      cases hext with
      | comment l0 ls hk => exact .cur _ hwf (.comment l0 (ls ++ [l]) hk)
      | headed _ es => exact .cur _ (.snoc hwf (.headed _ es)) (.comment l [] (by simp [PSt.target]))
      | bare e es hk => exact .cur _ (.snoc hwf (.bare e es hk)) (.comment l [] (by simp [PSt.target]))
  | entry k v =>
    cases hw with
    | init => exact .cur _ .nil (.bare (k, v) [] nofun)
    | cur _ hwf hext =>
      cases hext with
      | comment l0 ls hk => exact .cur _ (.snoc hwf (.comment l0 ls hk)) (.bare (k, v) [] (by simp [PSt.target]))
      | headed _ es => exact .cur _ hwf (.headed _ (es ++ [(k, v)]))
      | bare e es hk => exact .cur _ hwf (.bare e (es ++ [(k, v)]) hk)

def PSt.evs (st : PSt) : List PEv := st.blocks.flatMap (Block.evs id)

/-- the blocks are exactly the non-blank events read, in order -/
theorem PSt.evs_push (st : PSt) (n : Nat) (ev : PEv) :
    (st.push n ev).evs = st.evs ++ ev.kept := by
  cases ev with
  | blank => simp [PSt.push, PEv.kept]
  | header h => simp [PSt.push, PSt.evs, PSt.blocks, Block.evs, sectionBlock, PEv.kept]
  | comment l =>
    simp only [PSt.push, PSt.target, PSt.evs, PSt.blocks, PEv.kept]
    cases st.cur with
    | none => simp [Block.evs, emptyComment]
    | some b => by_cases hk : b.kind = .comment <;> simp [Block.evs, hk, emptyComment]
  | entry k v =>
    simp only [PSt.push, PSt.target, PSt.evs, PSt.blocks, PEv.kept]
    cases st.cur with
    | none => simp [Block.evs, sectionBlock, entryEv]
    | some b => by_cases hk : b.kind = .sect <;> simp [Block.evs, hk, sectionBlock, entryEv]

/-- `st` after reading the lines `P`, beside the compiler's state `σ` after the same lines -/
structure Inv (st : PSt) (P : List Str) (σ : CSt) : Prop where
  shape : WFS st
  good : ∀ ev ∈ st.evs, Reads ev
  lines : Equiv (st.evs.map PEv.line) P
  pfx : σ.pfx = st.pfx
  keys : σ.tab.map (·.1) = st.seen.map (·.1)

theorem inv_init : Inv pinit [] ⟨[], []⟩ := ⟨.init [], nofun, Equiv.refl _, rfl, rfl⟩

theorem Inv.good_blocks {st : PSt} {P : List Str} {σ : CSt} (h : Inv st P σ) : ∀ b ∈ st.blocks, Good b :=
  fun b hb ev he => h.good ev (List.mem_flatMap.2 ⟨b, hb, he⟩)

theorem Inv.push {st : PSt} {P : List Str} {σ : CSt} (hinv : Inv st P σ) (n : Nat) {raw : Str} {ev : PEv}
    (hnl : noNL raw) (h : pline raw = .ok ev) :
    ∃ σ', cstep σ raw = some σ' ∧ Inv (st.push n ev) (P ++ [raw]) σ' := by
  have hr := reads_of_pline raw ev hnl h
  have hsh := hinv.shape.push n ev
  have hg : ∀ x ∈ (st.push n ev).evs, Reads x := by
    rw [PSt.evs_push]
    intro x hx
    rcases List.mem_append.1 hx with hx | hx
    · exact hinv.good x hx
    · exact PEv.eq_of_mem_kept hx ▸ hr
  have hl : Equiv ((st.push n ev).evs.map PEv.line) (P ++ [raw]) := by
    rw [PSt.evs_push, List.map_append]
    exact Equiv.append hinv.lines (equiv_out raw ev h hr)
  unfold cstep
  rw [(pline_spec raw ev h).1]
  cases ev with
  | blank | comment => exact ⟨σ, rfl, hsh, hg, hl, hinv.pfx, hinv.keys⟩
  | header h => exact ⟨_, rfl, hsh, hg, hl, rfl, hinv.keys⟩
  | entry k v =>
    refine ⟨_, rfl, hsh, hg, hl, hinv.pfx, ?_⟩
    simp [PSt.push, hinv.shape.target_header, hinv.keys, hinv.pfx]

theorem run_inv {st st' : PSt} {P : List Str} {σ : CSt} (L : List Str) (n : Nat) (hinv : Inv st P σ)
    (hnl : ∀ l ∈ L, noNL l) (h : prun st n L = .ok st') :
    ∃ σ', crun σ L = some σ' ∧ Inv st' (P ++ L) σ' := by
  induction L generalizing st n P σ with
  | nil => cases h; exact ⟨σ, rfl, by simpa using hinv⟩
  | cons l ls ih =>
    unfold prun at h
    rw [pstep_eq] at h
    cases hp : pline l with
    | error e => simp [hp] at h
    | ok ev =>
      simp only [hp] at h
      obtain ⟨σ1, h1, hinv1⟩ := hinv.push n (hnl l (by simp)) hp
      obtain ⟨σ2, h2, hinv2⟩ := ih (n + 1) hinv1 (fun x hx => hnl x (by simp [hx])) h
      exact ⟨σ2, by simp [crun, h1, h2], by simpa using hinv2⟩

theorem format_ok (s : Str) (f : Formatted) (h : format s = .ok f) :
    ∃ st σ, f = ⟨render st.blocks, dupKeys st.seen, st.seen⟩ ∧ crun ⟨[], []⟩ (splitLines s) = some σ ∧
      Inv st (splitLines s) σ := by
  unfold format at h
  split at h
  · cases h
  · rename_i st hp
    cases h
    obtain ⟨σ, h1, hinv⟩ := run_inv (splitLines s) 1 inv_init (splitLines_noNL s) hp
    exact ⟨st, σ, rfl, h1, by simpa using hinv⟩

theorem format_equiv (s : Str) (f : Formatted) (h : format s = .ok f) :
    Equiv (splitLines f.out) (splitLines s) := by
  obtain ⟨st, σ, rfl, _, hinv⟩ := format_ok s f h
  have hg := hinv.good_blocks
  show Equiv (splitLines (render st.blocks)) _
  rw [splitLines_render _ hg, List.map_append]
  simpa [PEv.line] using Equiv.append ((equiv_renderEvs _ hg).trans hinv.lines) (equiv_skip [] cline_nil)

/-- **C35 (table).**  Whenever `Format` succeeds, the compiler builds from the formatted file
exactly the key→message table it builds from the original (and panics on one iff on the other). -/
theorem C35_table (s : Str) (f : Formatted) (h : format s = .ok f) : table f.out = table s := by
  rw [table_eq, table_eq, format_equiv s f h]

theorem mem_insertUniq (x k : Str) (l : List Str) : x ∈ insertUniq k l ↔ x = k ∨ x ∈ l := by
  induction l with
  | nil => simp [insertUniq]
  | cons y ys ih =>
    unfold insertUniq
    split
    · simp [ih, or_left_comm]
    · split <;> simp_all

theorem mem_foldr_insertUniq (x : Str) (l : List Str) : x ∈ l.foldr insertUniq [] ↔ x ∈ l := by
  induction l with
  | nil => simp
  | cons k ks ih => simp [mem_insertUniq, ih]

theorem mem_dupKeys (seen : List (Str × Nat)) (K : Str) :
    K ∈ dupKeys seen ↔ 1 < (seen.map (·.1)).count K := by
  unfold dupKeys
  simp only [List.mem_filter, mem_foldr_insertUniq, decide_eq_true_eq, gt_iff_lt]
  constructor
  · exact fun h => h.2
  · intro h
    exact ⟨List.count_pos_iff.1 (by omega), h⟩

/-- **C35 (duplicates).**  Whenever `Format` succeeds the compiler does not panic on the file, and a
fully-qualified key is reported as a duplicate by langlint exactly when the compiler assigns it more
than once (so every duplicate whose winner could matter is reported). -/
theorem C35_dup_reported (s : Str) (f : Formatted) (h : format s = .ok f) :
    ∃ T, compile s = some T ∧ ∀ K, K ∈ f.dups ↔ 1 < (T.map (·.1)).count K := by
  obtain ⟨st, σ, rfl, h1, hinv⟩ := format_ok s f h
  refine ⟨σ.tab, by simp [compile, h1], fun K => ?_⟩
  rw [hinv.keys]
  exact mem_dupKeys st.seen K

def Sorted (l : List (Str × Str)) : Prop := l.Pairwise (fun a b => ¬ trim b.1 < trim a.1)

theorem insertE_sorted (e : Str × Str) (l : List (Str × Str)) (h : Sorted l) : Sorted (insertE e l) := by
  induction l with
  | nil => simp [insertE, Sorted]
  | cons y ys ih =>
    rw [Sorted, List.pairwise_cons] at h
    unfold insertE
    split
    · rename_i hlt
      refine List.pairwise_cons.2 ⟨fun x hx => ?_, ih h.2⟩
      rcases (mem_insertE e x ys).1 hx with rfl | hx
      · exact List.not_lt.2 (List.le_of_lt hlt)
      · exact h.1 x hx
    · rename_i hnlt
      refine List.pairwise_cons.2 ⟨fun x hx => ?_, List.pairwise_cons.2 h⟩
      rcases List.mem_cons.1 hx with rfl | hx
      · exact hnlt
      · exact List.not_lt.2 (List.le_trans (List.not_lt.1 hnlt) (List.not_lt.1 (h.1 x hx)))

theorem sorted_sortE (l : List (Str × Str)) : Sorted (sortE l) := by
  induction l with
  | nil => simp [sortE, Sorted]
  | cons e es ih => exact insertE_sorted e _ ih

theorem sortE_of_sorted (l : List (Str × Str)) (h : Sorted l) : sortE l = l := by
  induction l with
  | nil => rfl
  | cons e es ih =>
    unfold Sorted at h
    rw [List.pairwise_cons] at h
    simp only [sortE]
    rw [ih h.2]
    cases es with
    | nil => rfl
    | cons y ys =>
      have := h.1 y (by simp)
      simp [insertE, this]

theorem sortE_idem (l : List (Str × Str)) : sortE (sortE l) = sortE l :=
  sortE_of_sorted _ (sorted_sortE l)

/-! ### parsing what `render` wrote gives the same blocks, entries sorted -/

def sortB (b : Block) : Block := { b with entries := sortE b.entries }

/-- the state without `seen`, whose line numbers a re-parse changes -/
def PSt.core (st : PSt) : List Block × Option Block × Str := (st.done, st.cur, st.pfx)

theorem comments_push (ls : List Str) (d : List Block) (cs : List Str) (p : Str) (seen : List (Str × Nat))
    (n : Nat) :
    (PSt.pushAll ⟨d, some ⟨.comment, cs, [], false, []⟩, p, seen⟩ n (ls.map .comment)).core =
      (d, some ⟨.comment, cs ++ ls, [], false, []⟩, p) := by
  induction ls generalizing cs n with
  | nil => simp [PSt.pushAll, PSt.core]
  | cons l ls ih => exact (ih (cs ++ [l]) (n + 1)).trans (by simp)

theorem entries_push (es : List (Str × Str)) (d : List Block) (h : Str) (hh : Bool) (es0 : List (Str × Str))
    (p : Str) (seen : List (Str × Nat)) (n : Nat) :
    (PSt.pushAll ⟨d, some ⟨.sect, [], h, hh, es0⟩, p, seen⟩ n (es.map entryEv)).core =
      (d, some ⟨.sect, [], h, hh, es0 ++ es⟩, p) := by
  induction es generalizing es0 seen n with
  | nil => simp [PSt.pushAll, PSt.core]
  | cons e es ih => exact (ih (es0 ++ [e]) _ (n + 1)).trans (by simp)

theorem sortE_ne_nil (es : List (Str × Str)) (h : es ≠ []) : sortE es ≠ [] := fun hn =>
  h (List.eq_nil_iff_forall_not_mem.2 fun x hx => by simpa [hn] using (mem_sortE x es).2 hx)

theorem block_push {bs : List Block} {p0 : Str} {b : Block} {p : Str} (hext : Ext bs p0 b p) (st : PSt)
    (hk : st.cur.map (·.kind) = lastKind bs) (hp : st.pfx = p0) (n : Nat) :
    (st.pushAll n (b.evs sortE)).core = (st.blocks, some (sortB b), p) := by
  -- the first line of a block whose kind differs from the last block's opens a new block
  have opens : ∀ κ nb, lastKind bs ≠ some κ → st.target κ nb = (st.blocks, nb) := by
    intro κ nb hne
    unfold PSt.target PSt.blocks
    cases hc : st.cur with
    | none => simp
    | some c =>
      have : c.kind ≠ κ := fun e => hne (by rw [← hk, hc, ← e]; rfl)
      simp [this]
  subst hp
  cases hext with
  | comment l ls hne =>
    show ((st.push n (.comment l)).pushAll (n + 1) (ls.map .comment)).core = _
    simp only [PSt.push, opens _ _ hne]
    exact comments_push ls st.blocks [l] st.pfx st.seen (n + 1)
  | headed _ es => exact entries_push (sortE es) st.blocks _ true [] _ st.seen (n + 1)
  | bare e es hne =>
    show (st.pushAll n ((sortE (e :: es)).map entryEv)).core =
      (st.blocks, some ⟨.sect, [], st.pfx, false, sortE (e :: es)⟩, st.pfx)
    cases hse : sortE (e :: es) with
    | nil => exact absurd hse (sortE_ne_nil _ (List.cons_ne_nil _ _))
    | cons e0 rest =>
      show ((st.push n (entryEv e0)).pushAll (n + 1) (rest.map entryEv)).core = _
      simp only [entryEv, PSt.push, opens _ _ hne]
      exact entries_push rest st.blocks st.pfx false [e0] st.pfx _ (n + 1)

theorem reparse {bs : List Block} {p : Str} (h : WF bs p) : ∀ n,
    (pinit.pushAll n (sepEvs bs)).blocks = bs.map sortB ∧
    (pinit.pushAll n (sepEvs bs)).cur.map (·.kind) = lastKind bs ∧
    (pinit.pushAll n (sepEvs bs)).pfx = p := by
  induction h with
  | nil => intro n; exact ⟨rfl, rfl, rfl⟩
  | @snoc bs p0 b p _ hext ih =>
    intro n
    obtain ⟨h2, h3, h4⟩ := ih n
    have g := block_push hext _ h3 h4 (n + (sepEvs bs).length + 1)
    simp only [PSt.core, Prod.mk.injEq] at g
    obtain ⟨g1, g2, g3⟩ := g
    rw [sepEvs_concat, PSt.pushAll_append]
    -- the separator is a blank line
    simp only [PSt.pushAll, PSt.push]
    refine ⟨?_, by simp [g2, sortB], g3⟩
    rw [PSt.blocks, g1, g2, h2]
    simp

theorem blockLines_sortB (b : Block) : blockLines (sortB b) = blockLines b := by
  unfold blockLines sortB
  cases b.kind <;> simp [sortE_idem]

theorem renderLines_sortB (bs : List Block) : renderLines (bs.map sortB) = renderLines bs := by
  cases bs with
  | nil => rfl
  | cons b bs =>
    simp [renderLines, List.flatMap_map, blockLines_sortB]

/-- **C35 (idempotence).**  Formatting a formatted file succeeds and changes nothing. -/
theorem C35_idempotent (s : Str) (f : Formatted) (h : format s = .ok f) :
    ∃ f', format f.out = .ok f' ∧ f'.out = f.out := by
  obtain ⟨st, σ, rfl, _, hinv⟩ := format_ok s f h
  have hwf := hinv.shape.blocks
  have hg := hinv.good_blocks
  have hrun : prun pinit 1 (splitLines (render st.blocks)) = .ok (pinit.pushAll 1 (renderEvs st.blocks)) := by
    rw [splitLines_render _ hg, prun_lines, PSt.pushAll_append]
    · rfl
    · intro ev he
      rcases List.mem_append.1 he with he | he
      · exact reads_renderEvs _ hg ev he
      · simp at he; subst he; exact reads_blank
  -- a blank line in front changes nothing
  have hsep : pinit.pushAll 1 (renderEvs st.blocks) = pinit.pushAll 0 (sepEvs st.blocks) := by
    unfold renderEvs sepEvs
    cases st.blocks <;> rfl
  refine ⟨_, by unfold format; rw [hrun], ?_⟩
  show render _ = render st.blocks
  unfold render
  rw [hsep, (reparse hwf 0).1, renderLines_sortB]

/-! ### non-vacuity: concrete files on which the hypotheses hold -/

/-- a file that is really reorganised (sorted, blank line inserted) -/
example : (format "[b]\nz=1\na =2\n# c\nq=1".toList).toOption.map (fun f => String.ofList f.out)
    = some "[b]\na =2\nz=1\n\n# c\n\nq=1\n" := by decide +kernel

/-- space-variant duplicate: reported, and the stable sort keeps the winner -/
example : (format "b =1\nb=2\n".toList).toOption.map (fun f => (String.ofList f.out, f.dups.map String.ofList))
    = some ("b =1\nb=2\n", ["b"]) := by decide

/-- an indented header is refused (the compiler would read it as a section) -/
example : (format "x=1\n  [a=b]\n".toList).toOption.isNone = true := by decide

example : (compile "[s]\nb=1\n b =2\n".toList) = some [("s.b".toList, "1".toList), ("s.b".toList, "2".toList)] := by decide

end EgoVerif.C35
