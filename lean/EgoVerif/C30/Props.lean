import EgoVerif.C30.Model
/-
Main result `C30_refines_table`: for every schema (well formed), every initial primary-key setting and EVERY
history of operations, the handle + database model answers exactly as the keyed in-memory record list `Spec`.
It rests on a closed form of the WHERE loop (`genWhere_eq`), whose clauses mean under `Db.matches` what the
resolved filters mean under `Spec.sel` (`clauses_sem`), and on agreement of single steps (`step_eq`).
-/
namespace EgoVerif.C30

theorem getElem?_append_cons_length {α} (l : List α) (x : α) (r : List α) :
    (l ++ x :: r)[l.length]? = some x := by
  simp

theorem findBy_eq_find? (p : Col → Bool) (cols : List Col) : findBy p cols = cols.find? p := by
  induction cols with
  | nil => rfl
  | cons c cs ih =>
    rw [findBy, List.find?_cons, ih]
    cases p c <;> rfl

theorem findIdxBy_eq_findIdx? (p : Col → Bool) (cols : List Col) : findIdxBy p cols = cols.findIdx? p := by
  induction cols with
  | nil => rfl
  | cons c cs ih => rw [findIdxBy, List.findIdx?_cons, ih]

theorem findIdxBy_lt {p : Col → Bool} {cols : List Col} {i : Nat} (h : findIdxBy p cols = some i) :
    i < cols.length :=
  (List.findIdx?_eq_some_iff_getElem.1 (findIdxBy_eq_findIdx? p cols ▸ h)).1

theorem findBy_none_iff {p : Col → Bool} {cols : List Col} :
    findBy p cols = none ↔ findIdxBy p cols = none := by
  simp [findBy_eq_find?, findIdxBy_eq_findIdx?]

theorem findBy_of_findIdxBy {p : Col → Bool} {cols : List Col} {i : Nat} (h : findIdxBy p cols = some i) :
    ∃ c, cols[i]? = some c ∧ findBy p cols = some c := by
  rw [findIdxBy_eq_findIdx?, List.findIdx?_eq_some_iff_getElem] at h
  obtain ⟨hi, hp, hmin⟩ := h
  refine ⟨cols[i], List.getElem?_eq_getElem hi, ?_⟩
  rw [findBy_eq_find?, List.find?_eq_some_iff_getElem]
  exact ⟨hp, i, hi, rfl, fun j hj => by simp [hmin j hj]⟩

theorem findIdxBy_sqlName_self {cols : List Col} {k : Nat} {c : Col}
    (hd : distinctSql cols = true) (h : cols[k]? = some c) :
    findIdxBy (sqlIs c.sqlName) cols = some k := by
  induction cols generalizing k with
  | nil => simp at h
  | cons c0 cs ih =>
    simp only [distinctSql, Bool.and_eq_true, List.all_eq_true] at hd
    cases k with
    | zero =>
      cases h
      simp [findIdxBy, sqlIs]
    | succ k =>
      have hne := hd.1 c (List.mem_of_getElem? h)
      have : sqlIs c.sqlName c0 = false := by
        simp [sqlIs] at hne ⊢
        exact fun e => hne e.symm
      simp [findIdxBy, this, ih hd.2 h]

theorem findIdxBy_name_self {cols : List Col} {k : Nat} {c : Col}
    (hd : distinctNames cols = true) (h : cols[k]? = some c) :
    findIdxBy (nameIs c.name) cols = some k := by
  induction cols generalizing k with
  | nil => simp at h
  | cons c0 cs ih =>
    simp only [distinctNames, Bool.and_eq_true, List.all_eq_true] at hd
    cases k with
    | zero =>
      cases h
      simp [findIdxBy, nameIs]
    | succ k =>
      have hne := hd.1 c (List.mem_of_getElem? h)
      have : nameIs c.name c0 = false := by
        simp [nameIs] at hne ⊢
        exact fun e => hne e.symm
      simp [findIdxBy, this, ih hd.2 h]

/-- the filters the loop does not skip -/
def nonNil (fl : List (Option Filter)) : List Filter := fl.filterMap id

def isInvalid (f : Filter) : Bool := f.op == .invalid

/-- the clauses the loop emits for the non-nil filters, none of them invalid, when `n` arguments are
already bound -/
def clausesOf (nbase : Nat) : Nat → List Filter → List Clause
  | _, [] => []
  | n, f :: fs => ⟨if n = nbase then .where_ else .and_, f.name, f.op, n + 1⟩ :: clausesOf nbase (n + 1) fs

theorem clausesOf_length (nbase n : Nat) (fl : List Filter) : (clausesOf nbase n fl).length = fl.length := by
  induction fl generalizing n with
  | nil => rfl
  | cons f fl ih => rw [clausesOf, List.length_cons, ih, List.length_cons]

theorem genWhere_eq (nbase : Nat) (fl : List (Option Filter)) (cls : List Clause) (args : List Val) :
    genWhere nbase fl cls args =
      if (nonNil fl).any isInvalid then .error .badcol
      else .ok (cls ++ clausesOf nbase args.length (nonNil fl), args ++ (nonNil fl).map (·.value)) := by
  induction fl generalizing cls args with
  | nil => simp [genWhere, nonNil, clausesOf]
  | cons o fl ih =>
    cases o with
    | none => exact ih cls args
    | some f =>
      rw [genWhere, show nonNil (some f :: fl) = f :: nonNil fl from rfl, List.any_cons, isInvalid, ih]
      by_cases hf : f.op = .invalid
      · simp [hf]
      · simp [hf, clausesOf]

inductive All2 {α β} (R : α → β → Prop) : List α → List β → Prop
  | nil : All2 R [] []
  | cons {a b l₁ l₂} : R a b → All2 R l₁ l₂ → All2 R (a :: l₁) (b :: l₂)

/-- handle-level filter `f` and resolved filter `rf` denote the same comparison -/
def Rel (sc : Schema) (f : Filter) (rf : Spec.RF) : Prop :=
  findIdxBy (sqlIs f.name) sc.cols = some rf.idx ∧ f.op.cmp? = some rf.cmp ∧ f.value = rf.v

theorem cmp_toOperator (op : Cmp) : op.toOperator.cmp? = some op := by cases op <;> rfl

theorem nonNil_mkFilters_mk (sc : Schema) (name : List Char) (op : Cmp) (v : Val) (fs : List FSpec) :
    nonNil (mkFilters sc (.mk name op v :: fs)) = newFilter sc name op v :: nonNil (mkFilters sc fs) := rfl

theorem newFilter_of_none {sc : Schema} {name : List Char} (h : findIdxBy (nameIs name) sc.cols = none)
    (op : Cmp) (v : Val) : newFilter sc name op v = ⟨name, .str [], .invalid⟩ := by
  rw [newFilter, findBy_none_iff.2 h]

theorem newFilter_of_some {sc : Schema} (hd : distinctSql sc.cols = true) {name : List Char} {i : Nat}
    (h : findIdxBy (nameIs name) sc.cols = some i) (op : Cmp) (v : Val) :
    isInvalid (newFilter sc name op v) = false ∧ Rel sc (newFilter sc name op v) ⟨i, op, v⟩ := by
  obtain ⟨c, hc, hb⟩ := findBy_of_findIdxBy h
  rw [newFilter, hb]
  exact ⟨by cases op <;> rfl, findIdxBy_sqlName_self hd hc, cmp_toOperator op, rfl⟩

theorem resolve_spec {sc : Schema} (hd : distinctSql sc.cols = true) (fs : List FSpec) :
    match Spec.resolve sc fs with
    | .error e => e = .badcol ∧ (nonNil (mkFilters sc fs)).any isInvalid = true
    | .ok rfs => (nonNil (mkFilters sc fs)).any isInvalid = false ∧ All2 (Rel sc) (nonNil (mkFilters sc fs)) rfs := by
  induction fs with
  | nil => exact ⟨rfl, All2.nil⟩
  | cons f fs ih =>
    cases f with
    | nil => exact ih
    | mk name op v =>
      rw [Spec.resolve, nonNil_mkFilters_mk, List.any_cons]
      cases hi : findIdxBy (nameIs name) sc.cols with
      | none => exact ⟨rfl, by rw [newFilter_of_none hi]; rfl⟩
      | some i =>
        obtain ⟨hv, hrel⟩ := newFilter_of_some hd hi op v
        rw [hv]
        generalize Spec.resolve sc fs = r at ih ⊢
        cases r with
        | error e => exact ih
        | ok rest => exact ih.imp_right (All2.cons hrel)

theorem clausesOf_and (nbase : Nat) {n : Nat} (hn : nbase < n) (fl : List Filter) :
    (clausesOf nbase n fl).all (fun c => c.kw == .and_) = true := by
  induction fl generalizing n with
  | nil => rfl
  | cons f fl ih =>
    rw [clausesOf, List.all_cons, if_neg (Nat.ne_of_gt hn), ih (Nat.lt_succ_of_lt hn)]
    rfl

theorem clausesOf_wellFormed (nbase : Nat) (fl : List Filter) : wellFormed (clausesOf nbase nbase fl) = true := by
  cases fl with
  | nil => rfl
  | cons f fl =>
    rw [clausesOf, wellFormed, if_pos rfl, clausesOf_and nbase (Nat.lt_succ_self _)]
    rfl

/-- every emitted clause is accepted by the database and means what the resolved filter means, once the
arguments from position `n` on are the filters' own values: placeholder `$n+1` is bound to the first of them -/
theorem clauses_sem {sc : Schema} {fl : List Filter} {rfs : List Spec.RF} (h : All2 (Rel sc) fl rfs)
    (nbase : Nat) {n : Nat} {args : List Val} (hargs : args.drop n = fl.map (·.value)) :
    (clausesOf nbase n fl).all (checkClause sc args) = true ∧
    ∀ row, Db.matches sc args (clausesOf nbase n fl) row = Spec.sel rfs row := by
  induction h generalizing n with
  | nil => exact ⟨rfl, fun _ => rfl⟩
  | @cons f rf fl rfs hrel _ ih =>
    obtain ⟨hidx, hcmp, hval⟩ := hrel
    have hn : args[n]? = some rf.v := by rw [← List.head?_drop, hargs, ← hval]; rfl
    have ⟨ih1, ih2⟩ := ih (n := n + 1) (by rw [← List.tail_drop, hargs]; rfl)
    refine ⟨?_, fun row => ?_⟩
    · rw [clausesOf, List.all_cons, ih1, Bool.and_true]
      have hph : n + 1 ≤ args.length := (List.getElem?_eq_some_iff.1 hn).1
      simp [checkClause, hidx, hcmp, hph]
    · rw [clausesOf, Db.matches, List.all_cons, Spec.sel, List.all_cons]
      congr 1
      · simp only [evalClause, hidx, hcmp, Nat.add_sub_cancel, hn, Spec.RF.holds]
      · exact ih2 row

theorem genWhere_resolve {sc : Schema} (hd : distinctSql sc.cols = true) (fs : List FSpec) (base : List Val) :
    match Spec.resolve sc fs with
    | .error e => genWhere base.length (mkFilters sc fs) [] base = .error e
    | .ok rfs => ∃ cls extra, genWhere base.length (mkFilters sc fs) [] base = .ok (cls, base ++ extra) ∧
        Db.prepare sc (base ++ extra) cls = true ∧ Db.matches sc (base ++ extra) cls = Spec.sel rfs := by
  have hr := resolve_spec hd fs
  rw [genWhere_eq]
  generalize Spec.resolve sc fs = r at hr ⊢
  cases r with
  | error e => rw [if_pos hr.2, hr.1]
  | ok rfs =>
    have hs := clauses_sem hr.2 base.length (List.drop_left (l₁ := base))
    exact ⟨_, _, by rw [hr.1]; rfl, Bool.and_eq_true_iff.2 ⟨clausesOf_wellFormed _ _, hs.1⟩, funext hs.2⟩

theorem read_eq {sc : Schema} (hw : sc.WF) (s : St) (fs : List FSpec) :
    Impl.read sc s (mkFilters sc fs) =
      match Spec.resolve sc fs with
      | .error e => .error e
      | .ok rfs =>
        match s.tbl with
        | none => .error .sql
        | some rows => .ok (rows.filter (Spec.sel rfs)) := by
  have h := genWhere_resolve hw.1 fs []
  rw [List.length_nil] at h
  rw [Impl.read]
  generalize Spec.resolve sc fs = r at h ⊢
  cases r with
  | error e => rw [h]
  | ok rfs =>
    obtain ⟨cls, extra, hg, hp, hm⟩ := h
    rw [hg]
    cases s.tbl with
    | none => rfl
    | some rows => simp only [Db.select, hp, hm, if_true]

theorem delete_eq {sc : Schema} (hw : sc.WF) (s : St) (fs : List FSpec) :
    Impl.delete sc s (mkFilters sc fs) =
      match Spec.resolve sc fs with
      | .error e => (s, .error e)
      | .ok rfs =>
        match s.tbl with
        | none => (s, .error .sql)
        | some rows =>
          ({ s with tbl := some (rows.filter (fun r => !Spec.sel rfs r)) }, .ok (rows.filter (Spec.sel rfs)).length) := by
  have h := genWhere_resolve hw.1 fs []
  rw [List.length_nil] at h
  rw [Impl.delete]
  generalize Spec.resolve sc fs = r at h ⊢
  cases r with
  | error e => rw [h]
  | ok rfs =>
    obtain ⟨cls, extra, hg, hp, hm⟩ := h
    rw [hg]
    cases s.tbl with
    | none => rfl
    | some rows => simp only [Db.delete, hp, hm, if_true]

theorem update_eq {sc : Schema} (hw : sc.WF) (s : St) (row : Row) (hrow : row.length = sc.cols.length)
    (fs : List FSpec) :
    Impl.update sc s row (mkFilters sc fs) =
      match Spec.resolve sc fs with
      | .error e => (s, .err e)
      | .ok rfs => Spec.update sc s row rfs := by
  have h := genWhere_resolve hw.1 fs row
  rw [Impl.update]
  generalize Spec.resolve sc fs = r at h ⊢
  cases r with
  | error e => rw [h]
  | ok rfs =>
    obtain ⟨cls, extra, hg, hp, hm⟩ := h
    rw [hg]
    cases ht : s.tbl with
    | none => simp only [Db.update, Spec.update, ht]
    | some rows =>
      -- the first `|cols|` bound arguments are the record itself
      have hle : sc.cols.length ≤ (row ++ extra).length := by rw [List.length_append, hrow]; omega
      have htake : (row ++ extra).take sc.cols.length = row := hrow ▸ List.take_left
      simp only [Db.update, Spec.update, ht, hp, hm, hle, htake, decide_true, Bool.and_self, if_true]
      cases keysDistinct (s.keyIdx sc) (rows.map fun r => if Spec.sel rfs r = true then row else r) <;> rfl

theorem resolve_key {sc : Schema} (hw : sc.WF) {k : Nat} {c : Col} (h : sc.cols[k]? = some c) (kv : Val) :
    Spec.resolve sc [.mk c.name .eq kv] = .ok [⟨k, .eq, kv⟩] := by
  simp [Spec.resolve, findIdxBy_name_self hw.2.1 h]

theorem sel_key (k : Nat) (kv : Val) : Spec.sel [⟨k, .eq, kv⟩] = fun r => keyOf k r == some kv := by
  funext r
  simp only [Spec.sel, List.all_cons, List.all_nil, Bool.and_true, Spec.RF.holds, keyOf]
  cases r[k]? with
  | none => rfl
  | some x => simp [Cmp.eval]

theorem mkFilters_one (sc : Schema) (n : List Char) (kv : Val) :
    [some (newFilter sc n .eq kv)] = mkFilters sc [.mk n .eq kv] := rfl

theorem filter_not_eq_self {α} {p : α → Bool} {l : List α} (h : (l.filter p).length = 0) :
    l.filter (fun a => !p a) = l :=
  List.filter_eq_self.2 fun a ha => by simpa using List.filter_eq_nil_iff.1 (List.length_eq_zero_iff.1 h) a ha

theorem step_eq {sc : Schema} (hw : sc.WF) (s : St) (hk : s.keyOk sc) (op : Op) (hs : op.shaped sc = true) :
    Impl.step sc s op = Spec.step sc s op := by
  obtain ⟨key, tbl⟩ := s
  cases op with
  | create | createIf => cases tbl <;> rfl
  | begin => rfl
  | insert row =>
    cases tbl with
    | none => rfl
    | some rows =>
      simp only [Impl.step, Spec.step, Db.insert]
      cases keysDistinct (St.keyIdx sc ⟨key, some rows⟩) (rows ++ [row]) <;> rfl
  | read fs =>
    simp only [Impl.step, Spec.step, read_eq hw]
    cases Spec.resolve sc fs with
    | error e => rfl
    | ok rfs => cases tbl <;> rfl
  | update row fs =>
    simp only [Impl.step, Spec.step, update_eq hw _ row (of_decide_eq_true hs)]
    cases Spec.resolve sc fs <;> rfl
  | delete fs =>
    simp only [Impl.step, Spec.step, delete_eq hw]
    cases Spec.resolve sc fs with
    | error e => rfl
    | ok rfs => cases tbl <;> rfl
  | readOne kv =>
    cases key with
    | none => rfl
    | some k =>
      have hc := List.getElem?_eq_getElem (hk k rfl)
      simp only [Impl.step, Spec.step, Impl.primaryKeyName, hc, Option.map_some, mkFilters_one, read_eq hw,
        resolve_key hw hc, sel_key]
      cases tbl with
      | none => rfl
      | some rows =>
        dsimp only
        generalize rows.filter _ = l
        cases l <;> rfl
  | deleteOne kv =>
    cases key with
    | none => rfl
    | some k =>
      have hc := List.getElem?_eq_getElem (hk k rfl)
      simp only [Impl.step, Spec.step, Impl.primaryKeyName, hc, Option.map_some, mkFilters_one, delete_eq hw,
        resolve_key hw hc, sel_key]
      cases tbl with
      | none => rfl
      | some rows =>
        dsimp only
        -- when no record has the key, the table the `delete` statement leaves is the old one
        cases hn : (rows.filter fun r => keyOf k r == some kv).length with
        | zero => rw [filter_not_eq_self hn]; rfl
        | succ n => rfl
  | updateOne row =>
    cases key with
    | none => rfl
    | some k =>
      have hc := List.getElem?_eq_getElem (hk k rfl)
      simp only [Impl.step, Spec.step, hc]
      cases row[k]? with
      | none => rfl
      | some kv => simp only [mkFilters_one, update_eq hw _ row (of_decide_eq_true hs), resolve_key hw hc]

theorem defaultKey_lt {sc : Schema} (hw : sc.WF) : defaultKey sc < sc.cols.length := by
  unfold defaultKey
  split
  · next i h => exact findIdxBy_lt h
  · split
    · next i h => exact findIdxBy_lt h
    · exact List.length_pos_iff.mpr hw.2.2

theorem keyIdx_lt {sc : Schema} (hw : sc.WF) {s : St} (hk : s.keyOk sc) : s.keyIdx sc < sc.cols.length := by
  unfold St.keyIdx
  cases hkey : s.key with
  | none => exact defaultKey_lt hw
  | some k => exact hk k hkey

/-- what one call can do to the state: nothing; mark the key in use; create the empty table; put a table with
distinct keys in place of the old one; remove records -/
inductive Spec.Next (sc : Schema) (s : St) : St → Prop
  | same : Next sc s s
  | mark : Next sc s { s with key := some (s.keyIdx sc) }
  | fresh : Next sc s ⟨some (s.keyIdx sc), some []⟩
  | distinct {rows' : List Row} : keysDistinct (s.keyIdx sc) rows' = true → Next sc s { s with tbl := some rows' }
  | filter {rows : List Row} (p : Row → Bool) : s.tbl = some rows → Next sc s { s with tbl := some (rows.filter p) }

namespace Spec

theorem create_next (sc : Schema) (s : St) : Next sc s (Spec.create sc s).1 := by
  unfold Spec.create
  split
  · exact .mark
  · exact .fresh

theorem update_next (sc : Schema) (s : St) (row : Row) (rfs : List Spec.RF) :
    Next sc s (Spec.update sc s row rfs).1 := by
  unfold Spec.update
  split
  · exact .same
  · dsimp only
    split
    · next h => exact .distinct h
    · exact .same

theorem step_next (sc : Schema) (s : St) (op : Op) : Next sc s (Spec.step sc s op).1 := by
  obtain ⟨key, tbl⟩ := s
  cases op with
  | create => exact create_next ..
  | createIf =>
    cases tbl
    · exact create_next ..
    · exact .same
  | begin | read fs | readOne kv =>
    -- every branch answers with the state it was given
    rw [Spec.step]
    repeat' split
    all_goals exact .same
  | insert row =>
    cases tbl
    · exact .same
    · rw [Spec.step]
      dsimp only
      split
      · next h => exact .distinct h
      · exact .same
  | update row fs =>
    rw [Spec.step]
    cases Spec.resolve sc fs
    · exact .same
    · exact update_next ..
  | delete fs =>
    rw [Spec.step]
    cases Spec.resolve sc fs
    · exact .same
    · cases tbl
      · exact .same
      · exact .filter _ rfl
  | deleteOne kv =>
    cases key
    · exact .same
    · cases tbl
      · exact .same
      · rw [Spec.step]
        dsimp only
        split
        · exact .same
        · exact .filter _ rfl
  | updateOne row =>
    cases key
    · exact .same
    · rw [Spec.step]
      dsimp only
      split
      · exact .same
      · exact update_next ..

end Spec

theorem keyOk_next {sc : Schema} (hw : sc.WF) {s s' : St} (hk : s.keyOk sc) (h : Spec.Next sc s s') :
    s'.keyOk sc := by
  cases h with
  | same | distinct _ | filter _ _ => exact hk
  | mark | fresh =>
    intro k hkey
    cases hkey
    exact keyIdx_lt hw hk

def Spec.final (sc : Schema) : St → List Op → St
  | s, [] => s
  | s, op :: ops => Spec.final sc (Spec.step sc s op).1 ops

def Impl.final (sc : Schema) : St → List Op → St
  | s, [] => s
  | s, op :: ops => Impl.final sc (Impl.step sc s op).1 ops

theorem run_final_eq {sc : Schema} (hw : sc.WF) (s : St) (hk : s.keyOk sc) (ops : List Op)
    (hs : ∀ op ∈ ops, op.shaped sc = true) :
    Impl.run sc s ops = Spec.run sc s ops ∧ Impl.final sc s ops = Spec.final sc s ops := by
  induction ops generalizing s with
  | nil => exact ⟨rfl, rfl⟩
  | cons op ops ih =>
    have ih := ih _ (keyOk_next hw hk (Spec.step_next sc s op)) fun o ho => hs o (List.mem_cons_of_mem _ ho)
    rw [Impl.run, Spec.run, Impl.final, Spec.final, step_eq hw s hk op (hs op List.mem_cons_self)]
    exact ⟨congrArg _ ih.1, ih.2⟩

/-- **C30 main theorem.**  For every well-formed schema, every initial state whose primary-key
mark (if any) names a column, and EVERY history of create / createIf / begin / insert / read /
update / delete / readOne / deleteOne / updateOne calls with arbitrary filter lists (valid and
invalid column names in any spelling, literal nils, any values) over records of the handle's
type, the handle + SQL + database model returns exactly what the keyed in-memory record list
returns, call by call. -/
theorem C30_refines_table (sc : Schema) (hw : sc.WF) (s : St) (hk : s.keyOk sc) (ops : List Op)
    (hs : ∀ op ∈ ops, op.shaped sc = true) :
    Impl.run sc s ops = Spec.run sc s ops :=
  (run_final_eq hw s hk ops hs).1

/-- The generated WHERE fragment is always syntactically well formed (`where` first, `and`
afterwards, whatever mixture of nil / non-nil filters was passed) and binds exactly one argument
per clause, after the `base` arguments already bound (none for Read/Delete, the SET values for
Update). -/
theorem C30_where_wellformed (base : List Val) (fl : List (Option Filter)) (cls : List Clause) (args : List Val)
    (h : genWhere base.length fl [] base = .ok (cls, args)) :
    wellFormed cls = true ∧ args.length = base.length + cls.length ∧ args.take base.length = base := by
  rw [genWhere_eq] at h
  split at h
  · cases h
  · simp only [List.nil_append, Except.ok.injEq, Prod.mk.injEq] at h
    obtain ⟨h1, h2⟩ := h
    subst h1 h2
    exact ⟨clausesOf_wellFormed _ _, by simp [clausesOf_length], List.take_left⟩

theorem any_invalid_of_mem {sc : Schema} {fs : List FSpec} {name : List Char} {op : Cmp} {v : Val}
    (hmem : FSpec.mk name op v ∈ fs) (hbad : findBy (nameIs name) sc.cols = none) :
    (nonNil (mkFilters sc fs)).any isInvalid = true :=
  List.any_eq_true.2 ⟨newFilter sc name op v, List.mem_filterMap.2 ⟨_, List.mem_map_of_mem hmem, rfl⟩,
    by rw [newFilter, hbad]; rfl⟩

/-- An unknown column name anywhere in the filter list makes Read, Update and Delete fail with
the invalid-column error, and the table is left as it was. -/
theorem C30_invalid_column_fails (sc : Schema) (s : St) (fs : List FSpec) (name : List Char) (op : Cmp) (v : Val)
    (hmem : FSpec.mk name op v ∈ fs) (hbad : findBy (nameIs name) sc.cols = none) (row : Row) :
    Impl.step sc s (.read fs) = (s, .err .badcol) ∧
    Impl.step sc s (.delete fs) = (s, .err .badcol) ∧
    Impl.step sc s (.update row fs) = (s, .err .badcol) := by
  have h := any_invalid_of_mem hmem hbad
  refine ⟨?_, ?_, ?_⟩ <;> simp [Impl.step, Impl.read, Impl.delete, Impl.update, genWhere_eq, h]

theorem nonNil_dropNil (sc : Schema) (fs : List FSpec) :
    nonNil (mkFilters sc (fs.filter (fun f => f != .nil))) = nonNil (mkFilters sc fs) := by
  rw [nonNil, nonNil, mkFilters, mkFilters, List.filterMap_map, List.filterMap_map, List.filterMap_filter]
  congr 1
  funext f
  cases f <;> rfl

/-- Literal `nil` filters mean "no constraint": dropping them from the argument list changes
nothing, wherever they stand. -/
theorem C30_nil_is_no_filter (sc : Schema) (s : St) (fs : List FSpec) (row : Row) :
    Impl.step sc s (.read fs) = Impl.step sc s (.read (fs.filter (fun f => f != .nil))) ∧
    Impl.step sc s (.delete fs) = Impl.step sc s (.delete (fs.filter (fun f => f != .nil))) ∧
    Impl.step sc s (.update row fs) = Impl.step sc s (.update row (fs.filter (fun f => f != .nil))) := by
  refine ⟨?_, ?_, ?_⟩ <;>
    simp only [Impl.step, Impl.read, Impl.delete, Impl.update, genWhere_eq, nonNil_dropNil]

theorem keysDistinct_filter (k : Nat) (p : Row → Bool) (rows : List Row) (h : keysDistinct k rows = true) :
    keysDistinct k (rows.filter p) = true := by
  induction rows with
  | nil => rfl
  | cons r rs ih =>
    simp only [keysDistinct, Bool.and_eq_true, List.all_eq_true] at h
    simp only [List.filter]
    split
    · simp only [keysDistinct, Bool.and_eq_true, List.all_eq_true]
      exact ⟨fun x hx => h.1 x (List.mem_filter.mp hx).1, ih h.2⟩
    · exact ih h.2

def KeysUnique (sc : Schema) (s : St) : Prop := ∀ rows, s.tbl = some rows → keysDistinct (s.keyIdx sc) rows = true

theorem keysUnique_next {sc : Schema} {s s' : St} (hu : KeysUnique sc s) (h : Spec.Next sc s s') :
    KeysUnique sc s' := by
  cases h with
  | same | mark => exact hu
  | fresh => exact fun _ h => by cases h; rfl
  | distinct hd => exact fun _ h => by cases h; exact hd
  | filter p ht => exact fun _ h => by cases h; exact keysDistinct_filter _ _ _ (hu _ ht)

theorem keysUnique_final (sc : Schema) (s : St) (ops : List Op) (hu : KeysUnique sc s) :
    KeysUnique sc (Spec.final sc s ops) := by
  induction ops generalizing s with
  | nil => exact hu
  | cons op ops ih => exact ih _ (keysUnique_next hu (Spec.step_next sc s op))

/-- After every history starting from a fresh database, the stored records have pairwise different
primary keys: the store is a *keyed* record set. -/
theorem C30_keys_unique (sc : Schema) (key : Option Nat) (ops : List Op) :
    KeysUnique sc (Spec.final sc (init key) ops) :=
  keysUnique_final sc _ ops fun _ h => nomatch h

/-- …and the handle + database model reaches exactly the same states, so the same holds for it -/
theorem C30_impl_keys_unique (sc : Schema) (hw : sc.WF) (key : Option Nat) (hk : (init key).keyOk sc)
    (ops : List Op) (hs : ∀ op ∈ ops, op.shaped sc = true) :
    KeysUnique sc (Impl.final sc (init key) ops) :=
  (run_final_eq hw _ hk ops hs).2 ▸ C30_keys_unique sc key ops

/-! ### the unpatched code: counterexamples (why fixes/C30.patch is needed) -/

def exSchema : Schema := ⟨"t", [⟨['K', 'e', 'y'], ['k', 'e', 'y'], .str⟩, ⟨['N', 'a', 'm', 'e'], ['n', 'a', 'm', 'e'], .str⟩]⟩
def exRows : List Row := [[.str [1], .str [97]], [.str [2], .str [98]], [.str [3], .str [99]]]
def exSt : St := ⟨some 0, some exRows⟩
def exBad : FSpec := .mk ['n', 'o', 's', 'u', 'c', 'h'] .eq (.str [97])
def exNameA : FSpec := .mk ['n', 'a', 'm', 'e'] .eq (.str [97])

/-- unpatched code: `Read(Equals("nosuch", "a"))` on three records answers all three records with
no error, where the record set (and the fixed code) report the invalid column -/
theorem C30_old_invalid_column_counterexample :
    (match Old.read exSchema exSt [exBad] with | .ok rs => rs == exRows | .error _ => false) = true ∧
    Spec.step exSchema exSt (.read [exBad]) = (exSt, .err .badcol) ∧
    Impl.step exSchema exSt (.read [exBad]) = (exSt, .err .badcol) := by decide +kernel

/-- unpatched code: `Read(nil, Equals("name", "a"))` produces `… and "name" = $1` with no `where`
(a syntax error), where the record set (and the fixed code) answer the one matching record -/
theorem C30_old_nil_first_counterexample :
    (match Old.read exSchema exSt [.nil, exNameA] with | .ok _ => false | .error e => e == .sql) = true ∧
    (Spec.step exSchema exSt (.read [.nil, exNameA])).2 = .rows [[.str [1], .str [97]]] ∧
    (Impl.step exSchema exSt (.read [.nil, exNameA])).2 = .rows [[.str [1], .str [97]]] := by decide +kernel

/-! ### non-vacuity: the hypotheses of the theorems are met by a non-trivial instance -/

example : exSchema.WF := ⟨by decide, by decide, by decide⟩
example : exSt.keyOk exSchema := by intro k h; cases h; decide
example : (init none).keyOk exSchema := by intro k h; cases h

def exHistory : List Op :=
  [.read [], .create, .insert [.str [1], .str [97]], .insert [.str [2], .str [98]], .insert [.str [1], .str [99]],
   .read [.nil, .mk ['N', 'A', 'M', 'E'] .gt (.str [97])], .update [.str [2], .str [100]] [exNameA],
   .delete [exBad], .readOne (.str [2]), .updateOne [.str [2], .str [101]], .deleteOne (.str [9]),
   .delete [.mk ['K', 'E', 'Y'] .ne (.str [7]), .nil], .read []]

example : ∀ op ∈ exHistory, op.shaped exSchema = true := by decide

example : Impl.run exSchema (init none) exHistory =
    [.err .sql, .ok, .ok, .ok, .err .dup, .rows [[.str [2], .str [98]]], .err .dup, .err .badcol,
     .row [.str [2], .str [98]], .ok, .err .notfound, .count 2, .rows []] := by decide

example : ∃ cls args, genWhere 2 [none, some ⟨['n'], .str [5], .eq⟩, none, some ⟨['k'], .int 3, .lt⟩] []
    [.str [1], .str [2]] = .ok (cls, args) ∧ cls.length = 2 := ⟨_, _, rfl, rfl⟩

example : findBy (nameIs ['n', 'o', 's', 'u', 'c', 'h']) exSchema.cols = none := by decide

end EgoVerif.C30
