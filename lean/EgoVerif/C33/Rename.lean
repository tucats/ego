/-
C33 — the renaming half.  Generated names have a shape no reserved word has (`shortShape`), which with
`pick` makes the rename map fresh and injective (`buildMap_spec`); the apply loop turns each token
into one of three segments (`SegList`).
-/
import EgoVerif.C33.Model
namespace EgoVerif.C33

theorem digits_head (n : Nat) : ∃ d r, digits n = d :: r ∧ isDigit d = true := by
  induction n using Nat.strongRecOn with
  | _ n ih =>
    rw [digits]
    by_cases h : n < 10
    · refine ⟨48 + n, [], by simp [h], ?_⟩
      simp [isDigit]; omega
    · obtain ⟨d, r, e, hd⟩ := ih (n / 10) (by omega)
      exact ⟨d, r ++ [48 + n % 10], by simp [h, e], hd⟩

/-- a generated name is one letter, or a letter followed by a digit -/
def shortShape (s : Name) : Bool :=
  match s with
  | [_] => true
  | _ :: d :: _ => isDigit d
  | [] => false

theorem nameAt_shape (k : Nat) : shortShape (nameAt k) = true := by
  unfold nameAt
  by_cases h : k < 26
  · simp [h, shortShape]
  · obtain ⟨d, r, e, hd⟩ := digits_head ((k - 26) / 26 + 1)
    simp [h, e, shortShape, hd]

theorem reserved_not_short : reservedWords.all (fun w => !shortShape w) = true := by decide

theorem short_not_reserved (s : Name) (h : shortShape s = true) : isReserved s = false := by
  cases hr : isReserved s with
  | false => rfl
  | true =>
    have hm : s ∈ reservedWords := by simpa [isReserved] using hr
    have := List.all_eq_true.mp reserved_not_short s hm
    simp [h] at this

theorem pick_spec (ex : List Name) (f n : Nat) (s : Name) (n' : Nat) (h : pick ex f n = some (s, n')) :
    s ∉ ex ∧ shortShape s = true := by
  induction f generalizing n with
  | zero => cases h
  | succ f ih =>
    simp only [pick] at h
    split at h
    · exact ih _ h
    · rename_i hc
      cases h
      exact ⟨by simpa using hc, nameAt_shape n⟩

structure MapOK (order ex : List Name) (m : List (Name × Name)) : Prop where
  keys : m.map (·.1) = order
  fresh : ∀ p ∈ m, p.2 ∉ ex
  shape : ∀ p ∈ m, shortShape p.2 = true
  nodup : (m.map (·.2)).Nodup

theorem buildMap_spec (fuel : Nat) (order ex : List Name) (n : Nat) (m : List (Name × Name))
    (h : buildMap fuel order ex n = some m) : MapOK order ex m := by
  induction order generalizing ex n m with
  | nil =>
    cases h
    exact ⟨rfl, by simp, by simp, by simp⟩
  | cons x xs ih =>
    simp only [buildMap] at h
    split at h
    · cases h
    · rename_i s n' hp
      obtain ⟨m', hb, rfl⟩ := Option.map_eq_some_iff.mp h
      obtain ⟨hf, hs⟩ := pick_spec ex fuel n s n' hp
      -- the rest of the map avoids `s :: ex`: the names in use and the name just given out
      have ok := ih (s :: ex) n' m' hb
      refine ⟨by simp [ok.keys],
        List.forall_mem_cons.mpr ⟨hf, fun p hp' hm => ok.fresh p hp' (List.mem_cons_of_mem s hm)⟩,
        List.forall_mem_cons.mpr ⟨hs, ok.shape⟩, List.nodup_cons.mpr ⟨fun hmem => ?_, ok.nodup⟩⟩
      obtain ⟨p, hp', e⟩ := List.mem_map.mp hmem
      exact ok.fresh p hp' (e ▸ List.mem_cons_self)

theorem applyTok_cases (m : List (Name × Name)) (t : Tok) (prev next : Option Tok) (ctx : List Nat) :
    applyTok m t prev next ctx = [t] ∨ (t.kind = .ident ∧ ∃ s, lookup m t.val = some s ∧
      applyTok m t prev next ctx = renameIdent t s prev next ctx) := by
  unfold applyTok
  by_cases hk : t.kind = .ident
  · cases hl : lookup m t.val with
    | none => simp [hk]
    | some s => exact Or.inr ⟨hk, s, rfl, by simp [hk]⟩
  · simp [hk]

theorem renameIdent_after_dot (t : Tok) (s : Name) (prev next : Option Tok) (ctx : List Nat)
    (h : optIsP prev [46] = true ∨ optIsP prev [63, 46] = true) : renameIdent t s prev next ctx = [t] := by
  rcases h with h | h <;> simp [renameIdent, h]

theorem optIsP_unique {o : Option Tok} {v : List Nat} (w : List Nat) (h : optIsP o v = true) (hne : v ≠ w) :
    optIsP o w = false := by
  cases o with
  | none => rfl
  | some t =>
    simp only [optIsP, Bool.and_eq_true, beq_iff_eq] at h
    simp [optIsP, h.2, hne]

/-- inside braces, directly after `{` or `,`, only the next token decides -/
theorem renameIdent_in_object (t : Tok) (s : Name) (prev next : Option Tok) (ctx : List Nat)
    (hc : ctx.head? = some 123) (hp : optIsP prev [123] = true ∨ optIsP prev [44] = true) :
    renameIdent t s prev next ctx =
      if optIsP next [58] then [t]
      else if optIsP next [44] || optIsP next [125] then [t, colonTok, ⟨.ident, s⟩] else [⟨.ident, s⟩] := by
  rcases hp with hp | hp <;>
    simp [renameIdent, hc, hp, optIsP_unique [46] hp (by decide), optIsP_unique [63, 46] hp (by decide)]

theorem renameIdent_shape (t : Tok) (s : Name) (prev next : Option Tok) (ctx : List Nat) :
    renameIdent t s prev next ctx = [t] ∨ renameIdent t s prev next ctx = [⟨.ident, s⟩] ∨
      renameIdent t s prev next ctx = [t, colonTok, ⟨.ident, s⟩] := by
  unfold renameIdent
  cases optIsP prev [46] || optIsP prev [63, 46]
  · cases ctx.head? == some 123 && (optIsP prev [123] || optIsP prev [44])
    · simp
    · cases optIsP next [58] <;> cases optIsP next [44] || optIsP next [125] <;> simp
  · simp

/-- what one input token may become in the output of the apply loop -/
def Seg (m : List (Name × Name)) (t : Tok) (seg : List Tok) : Prop :=
  seg = [t] ∨ (t.kind = .ident ∧ ∃ s, lookup m t.val = some s ∧
    (seg = [⟨.ident, s⟩] ∨ seg = [t, colonTok, ⟨.ident, s⟩]))

/-- token-by-token: the i-th segment is what the i-th input token became -/
inductive SegList (m : List (Name × Name)) : List Tok → List (List Tok) → Prop
  | nil : SegList m [] []
  | cons {t ts seg segs} : Seg m t seg → SegList m ts segs → SegList m (t :: ts) (seg :: segs)

theorem applyTok_seg (m : List (Name × Name)) (t : Tok) (prev next : Option Tok) (ctx : List Nat) :
    Seg m t (applyTok m t prev next ctx) := by
  rcases applyTok_cases m t prev next ctx with h | ⟨hk, s, hl, h⟩
  · exact Or.inl h
  · rw [h]
    rcases renameIdent_shape t s prev next ctx with h' | h'
    · exact Or.inl h'
    · exact Or.inr ⟨hk, s, hl, h'⟩

theorem applyGo_shape (m : List (Name × Name)) (ts : List Tok) (ctx : List Nat) (res : List Tok) :
    ∃ segs, SegList m ts segs ∧ applyGo m ctx res ts = res.reverse ++ segs.flatten := by
  induction ts generalizing ctx res with
  | nil => exact ⟨[], SegList.nil, by simp [applyGo]⟩
  | cons t rest ih =>
    obtain ⟨segs, hf, he⟩ := ih (ctxStep ctx t)
      ((applyTok m t (firstSig res) (firstSig rest) (ctxStep ctx t)).reverse ++ res)
    refine ⟨applyTok m t (firstSig res) (firstSig rest) (ctxStep ctx t) :: segs,
      SegList.cons (applyTok_seg m t _ _ _) hf, ?_⟩
    simp [applyGo, he]

end EgoVerif.C33
