/-
C33 — property theorems, lexical (`C33_relex`, `C33_sep_*`, …) and rename hygiene (`C33_rename_*`);
see checks/C33.py for how they are tied to the Go code.
JavaScript semantics is NOT modelled: that a consistent renaming of locally declared names to
fresh names outside property positions preserves behaviour is a meta-assumption.
-/
import EgoVerif.C33.Relex
import EgoVerif.C33.Rename
namespace EgoVerif.C33

/-- MAIN LEXICAL THEOREM.  For EVERY token list that meets the well-formedness predicate `wf`
    (Wf.lean), lexing the emitted text again yields exactly the same significant tokens:
    no two tokens glue, no separator is missing, regex/division context is unchanged. -/
theorem C33_relex (ts : List Tok) (h : wf ts = true) : sig (tokenize (emit ts)) = sig ts := by
  unfold tokenize emit
  rw [← emitFrom_sig]
  exact relex_aux (sig ts) none [] _ h (Nat.le_refl _)

/-- the same for `Minify(src, false)` -/
theorem C33_minify_relex (src : List Nat) (h : wf (stripComments (tokenize src)) = true) :
    sig (tokenize (minify0 src)) = sig (stripComments (tokenize src)) :=
  C33_relex _ h

/-- REGEX/DIVISION CONTEXT IS PRESERVED, for EVERY source text: each token of `tokenize src` that
    survives `stripComments` and is not whitespace stands — in the stripped list, where `emit` and a
    second `tokenize` see it — in exactly the context (`isRegexContext` of the preceding code token)
    in which it was lexed: a regex token after a regex context, a `/` or `/=` after a value. -/
theorem C33_context_preserved (src : List Nat) :
    ctxAll none (sig (stripComments (tokenize src))) = true := by
  rw [sig_strip]
  exact ctxAll_filter _ none (tokF_ctx _ none src)

/-- Hence, for a minified SOURCE, the context part of `wf` is automatic: it is enough that the
    tokens are complete lexemes and that no following byte extends a token (`wfLex`). -/
theorem C33_minify_relex_lex (src : List Nat) (h : wfLex (sig (stripComments (tokenize src))) = true) :
    sig (tokenize (minify0 src)) = sig (stripComments (tokenize src)) := by
  apply C33_minify_relex
  unfold wf
  exact wfFrom_split _ none h (C33_context_preserved src)

/-- `wf` is met by a real token list (non-vacuity): `a + +b - -c / 2 ; r = /x y/g . test ( 5 .k )` -/
example : wf [⟨.ident, [97]⟩, ⟨.ws, [32]⟩, ⟨.punct, [43]⟩, ⟨.punct, [43]⟩, ⟨.ident, [98]⟩, ⟨.punct, [45]⟩, ⟨.punct, [45]⟩,
    ⟨.ident, [99]⟩, ⟨.punct, [47]⟩, ⟨.num, [50]⟩, ⟨.punct, [59]⟩, ⟨.ident, [114]⟩, ⟨.punct, [61]⟩,
    ⟨.regex, [47, 120, 32, 121, 47, 103]⟩, ⟨.punct, [46]⟩, ⟨.ident, [116]⟩, ⟨.punct, [40]⟩, ⟨.num, [53]⟩, ⟨.punct, [46]⟩,
    ⟨.ident, [107]⟩, ⟨.punct, [41]⟩] = true := by decide +kernel

/-- …and the emitted text of that list keeps the separators: `a+ +b- -c/2;r=/x y/g.t(5 .k)` -/
example : emit [⟨.ident, [97]⟩, ⟨.punct, [43]⟩, ⟨.punct, [43]⟩, ⟨.ident, [98]⟩, ⟨.punct, [45]⟩, ⟨.punct, [45]⟩, ⟨.ident, [99]⟩,
    ⟨.num, [53]⟩, ⟨.punct, [46]⟩, ⟨.ident, [107]⟩] = [97, 43, 32, 43, 98, 45, 32, 45, 99, 32, 53, 32, 46, 107] := by decide

/-- Go `needsSep` once both sides are known to be non-empty -/
theorem needsSep_cons (l r : List Nat) (c : Nat) (hl : l ≠ []) :
    needsSep l (c :: r) =
      ((isIdentCont (lastD l) && isIdentCont c) || (lastD l == 43 && c == 43) || (lastD l == 45 && c == 45) ||
       (lastD l == 47 && (c == 42 || c == 47)) || (lastD l == 60 && c == 33) || (c == 46 && startsNumber l)) := by
  cases l with
  | nil => exact absurd rfl hl
  | cons a l' => rfl

/-- Separator rule, words: after an identifier/keyword the next byte `emit` writes never extends
    it, whatever token follows (so `bnd` holds automatically for identifiers). -/
theorem C33_sep_words (a u : Tok) (ts : List Tok) (ha : validTok a = true) (hk : a.kind = .ident) :
    bnd a (nextByte a (u :: ts)) = true := by
  obtain ⟨k, v⟩ := a
  cases hk
  cases v with
  | nil => simp [validTok] at ha
  | cons c r =>
    simp only [nextByte]
    cases hs : needsSep (c :: r) u.val
    · cases hu : u.val with
      | nil => rfl
      | cons x xs =>
        -- the last byte of an identifier continues an identifier, so `needsSep` tested `x`
        simp only [validTok, Bool.and_eq_true, List.all_eq_true] at ha
        have hl : isIdentCont (lastD (c :: r)) = true := by
          rw [lastD, List.getLastD_cons]
          rcases List.mem_cons.mp (List.getLastD_mem_cons (l := r) (a := c)) with h | h
          · rw [h]; simp [isIdentCont, ha.1]
          · exact ha.2 _ h
        rw [hu, needsSep_cons _ _ _ (List.cons_ne_nil c r)] at hs
        simp only [hl, Bool.true_and, Bool.or_eq_false_iff] at hs
        simp [bnd, hs.1.1.1.1.1]
    · simp [bnd, isIdentCont, isIdentStart, isDigit]

theorem ne_nil_of_lastD {l : List Nat} {c : Nat} (h : lastD l = c) (hc : c ≠ 0) : l ≠ [] := by
  rintro rfl
  exact hc h.symm

theorem needsSep_sign (l r : List Nat) (c : Nat) (hc : c = 43 ∨ c = 45) (h : lastD l = c) :
    needsSep l (c :: r) = true := by
  rcases hc with rfl | rfl <;> simp [needsSep_cons l r _ (ne_nil_of_lastD h (by decide)), h]

/-- Separator rule, signs: `+` before `+…`/`++…` and `-` before `-…`/`--…` are always kept apart. -/
theorem C33_sep_sign (l r : List Nat) (c : Nat) (hl : l ≠ []) (hc : c = 43 ∨ c = 45)
    (h : lastD l = c) : needsSep l (c :: r) = true :=
  needsSep_sign l r c hc h

theorem needsSep_slash (l r : List Nat) (c : Nat)
    (h : (lastD l = 47 ∧ (c = 47 ∨ c = 42)) ∨ (lastD l = 60 ∧ c = 33)) : needsSep l (c :: r) = true := by
  rcases h with ⟨h1, rfl | rfl⟩ | ⟨h1, rfl⟩ <;> simp [needsSep_cons l r _ (ne_nil_of_lastD h1 (by decide)), h1]

/-- Separator rule, slashes: a token ending in `/` is never followed directly by `/` or `*`
    (no comment can appear), and `<` never directly by `!`. -/
theorem C33_sep_slash (l r : List Nat) (c : Nat) (hl : l ≠ [])
    (h : (lastD l = 47 ∧ (c = 47 ∨ c = 42)) ∨ (lastD l = 60 ∧ c = 33)) : needsSep l (c :: r) = true :=
  needsSep_slash l r c h

/-- Separator rule, `5 .x`: a number literal is never followed directly by `.`. -/
theorem C33_sep_number_dot (c : Nat) (l r : List Nat) (h : startsNumber (c :: l) = true) :
    needsSep (c :: l) (46 :: r) = true := by
  simp [needsSep_cons _ r _ (List.cons_ne_nil c l), h]

/-- RENAME HYGIENE.  Whatever order Go's map iteration takes (`order`), a finished rename map
    (1) has exactly `order` as its keys, (2) is injective — the short names are pairwise distinct,
    (3) uses no identifier token of the source (so no file-scope name, no undeclared global, no
    property name; a name spelled only inside a template literal is not a token), and
    (4) uses no reserved word. -/
theorem C33_rename_hygiene (fuel : Nat) (order : List Name) (ts : List Tok) (m : List (Name × Name))
    (h : buildMap fuel order (identsOf ts) 0 = some m) :
    m.map (·.1) = order ∧ (m.map (·.2)).Nodup ∧
    (∀ p ∈ m, p.2 ∉ identsOf ts) ∧ (∀ p ∈ m, isReserved p.2 = false) := by
  have ok := buildMap_spec fuel order (identsOf ts) 0 m h
  exact ⟨ok.keys, ok.nodup, ok.fresh, fun p hp => short_not_reserved _ (ok.shape p hp)⟩

/-- non-vacuity: a map is built, and it skips the names already in use (`a`, `b`) -/
example : buildMap 10 [[120], [121]] [[97], [98], [120], [121]] 0 = some [([120], [99]), ([121], [100])] := by decide

/-- The rename set (`locals` after the `delete` loops of `renameLocals`) holds only names that
    `collectLocals` found below file scope, that are not ALSO bound at file scope and that are not
    spelled inside a template literal.  Left out: that `order` in `renameWith` enumerates this set
    (the driver tests it on every case), and that no reserved word is in it (`collectLocals`
    tests `reserved` at every insertion). -/
theorem C33_rename_domain (ts : List Tok) (x : Name) (h : x ∈ renameSet ts) :
    x ∈ (collectLocals ts).loc ∧ x ∉ (collectLocals ts).fs ∧ x ∉ templateWords ts := by
  simpa [renameSet] using h

/-- The output of the apply loop is the input token by token: every token is kept, or — only
    if it is an identifier with a rename entry `s` — replaced by `s`, or expanded to `key : s`.
    Nothing else is inserted, dropped or reordered. -/
theorem C33_rename_shape (m : List (Name × Name)) (ts : List Tok) :
    ∃ segs, SegList m ts segs ∧ applyGo m [] [] ts = segs.flatten := by
  obtain ⟨segs, hf, he⟩ := applyGo_shape m ts [] []
  exact ⟨segs, hf, by simpa using he⟩

/-- An identifier directly after `.` or `?.` (a property read) is never renamed. -/
theorem C33_rename_after_dot (m : List (Name × Name)) (t : Tok) (prev next : Option Tok) (ctx : List Nat)
    (h : optIsP prev [46] = true ∨ optIsP prev [63, 46] = true) : applyTok m t prev next ctx = [t] := by
  rcases applyTok_cases m t prev next ctx with e | ⟨_, s, _, e⟩
  · exact e
  · rw [e, renameIdent_after_dot t s prev next ctx h]

/-- An explicit object key `{ key : … }` / `, key : …` inside braces is never renamed. -/
theorem C33_rename_object_key (m : List (Name × Name)) (t : Tok) (prev next : Option Tok) (ctx : List Nat)
    (hc : ctx.head? = some 123) (hp : optIsP prev [123] = true ∨ optIsP prev [44] = true)
    (hn : optIsP next [58] = true) : applyTok m t prev next ctx = [t] := by
  rcases applyTok_cases m t prev next ctx with e | ⟨_, s, _, e⟩
  · exact e
  · rw [e, renameIdent_in_object t s prev next ctx hc hp, if_pos hn]

/-- A shorthand property `{ name }` / `{ name , …` keeps its KEY: it is either untouched or
    expanded to `name : short`. -/
theorem C33_rename_shorthand (m : List (Name × Name)) (t : Tok) (prev next : Option Tok) (ctx : List Nat)
    (hc : ctx.head? = some 123) (hp : optIsP prev [123] = true ∨ optIsP prev [44] = true)
    (hn : optIsP next [44] = true ∨ optIsP next [125] = true) :
    applyTok m t prev next ctx = [t] ∨
    ∃ s, lookup m t.val = some s ∧ applyTok m t prev next ctx = [t, colonTok, ⟨.ident, s⟩] := by
  rcases applyTok_cases m t prev next ctx with e | ⟨_, s, hl, e⟩
  · exact Or.inl e
  · rw [e, renameIdent_in_object t s prev next ctx hc hp]
    have hn' : (optIsP next [44] || optIsP next [125]) = true := by rcases hn with h | h <;> simp [h]
    cases optIsP next [58]
    · exact Or.inr ⟨s, hl, by simp [hn']⟩
    · exact Or.inl rfl

/-- non-vacuity of the three position rules on `function f(v){return {v, k: o.v};}` with v ↦ a -/
example :
    applyGo [([118], [97])] [] []
      [⟨.punct, [123]⟩, ⟨.ident, [118]⟩, ⟨.punct, [44]⟩, ⟨.ident, [107]⟩, ⟨.punct, [58]⟩, ⟨.ident, [111]⟩, ⟨.punct, [46]⟩,
       ⟨.ident, [118]⟩, ⟨.punct, [44]⟩, ⟨.ident, [118]⟩, ⟨.punct, [43]⟩, ⟨.num, [49]⟩, ⟨.punct, [125]⟩] =
      [⟨.punct, [123]⟩, ⟨.ident, [118]⟩, ⟨.punct, [58]⟩, ⟨.ident, [97]⟩, ⟨.punct, [44]⟩, ⟨.ident, [107]⟩, ⟨.punct, [58]⟩,
       ⟨.ident, [111]⟩, ⟨.punct, [46]⟩, ⟨.ident, [118]⟩, ⟨.punct, [44]⟩, ⟨.ident, [97]⟩, ⟨.punct, [43]⟩, ⟨.num, [49]⟩,
       ⟨.punct, [125]⟩] := by decide

end EgoVerif.C33
