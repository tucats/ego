/-
C33 — lexing the emitted text again: the induction over the token list behind `C33_relex`, and
the regex/division context — every token produced by `tokenize` stands in the context that
`isRegexContext` computes again once comments and whitespace are gone.
-/
import EgoVerif.C33.Lex1
namespace EgoVerif.C33

/-- tokens that `emit` writes and `isRegexContext` does not skip -/
def isCode (t : Tok) : Bool := t.kind != .ws && t.kind != .lineC && t.kind != .blockC

theorem validTok_isCode (t : Tok) (hv : validTok t = true) : isCode t = true ∧ t.val ≠ [] := by
  obtain ⟨k, v⟩ := t
  cases v with
  | nil => cases k <;> cases hv
  -- `validTok` is false on whitespace and comments; for the other kinds both claims hold by computation
  | cons c r => cases k <;> first | cases hv | exact ⟨rfl, List.cons_ne_nil c r⟩

theorem nextLast_eq (last : Option Tok) (t : Tok) : nextLast last t = if isCode t then some t else last := by
  unfold nextLast isCode
  cases t.kind <;> rfl

theorem kind_ne_ws (t : Tok) (h : isCode t = true) : t.kind ≠ .ws := by
  simp only [isCode, Bool.and_eq_true, bne_iff_ne, ne_eq] at h
  exact h.1.1

theorem emitFrom_cons (lv : List Nat) (t : Tok) (ts : List Tok) (hk : t.kind ≠ .ws) :
    emitFrom lv (t :: ts) = (if needsSep lv t.val then [32] else []) ++ t.val ++ emitFrom t.val ts := by
  simp [emitFrom, hk]

theorem sig_cons (t : Tok) (ts : List Tok) (hk : t.kind ≠ .ws) : sig (t :: ts) = t :: sig ts := by
  simp [sig, hk]

theorem emitFrom_sig (lv : List Nat) (ts : List Tok) : emitFrom lv (sig ts) = emitFrom lv ts := by
  induction ts generalizing lv with
  | nil => rfl
  | cons t ts ih =>
    by_cases hk : t.kind = .ws
    · simpa [sig, emitFrom, hk] using ih lv
    · rw [sig_cons t ts hk, emitFrom_cons _ _ _ hk, emitFrom_cons _ _ _ hk, ih]

theorem emitFrom_head (t : Tok) (ts : List Tok) (h : wfFrom (some t) ts = true) :
    (emitFrom t.val ts).head? = nextByte t ts := by
  cases ts with
  | nil => rfl
  | cons u ts' =>
    simp only [wfFrom, Bool.and_eq_true] at h
    obtain ⟨hcode, hne⟩ := validTok_isCode u h.1.1.1
    obtain ⟨c, r, hval⟩ := List.exists_cons_of_ne_nil hne
    rw [emitFrom_cons _ _ _ (kind_ne_ws u hcode), nextByte]
    cases needsSep t.val u.val <;> simp [hval]

theorem lex1_ws_kind (last : Option Tok) (b : Nat) (s : List Nat) (t : Tok) (r : List Nat)
    (h : lex1 last (b :: s) = some (t, r)) (hb : isWs b = true) : t.kind = .ws := by
  rw [lex1_ws last b s hb] at h
  cases h
  rfl

/-- a separator comes back as a whitespace token, which `sig` drops and `isRegexContext` skips -/
theorem sig_tokF_space (n : Nat) (last : Option Tok) (c : Nat) (s : List Nat) (hc : isWs c = false) :
    sig (tokF (n + 1) last (32 :: c :: s)) = sig (tokF n last (c :: s)) := by
  simp [tokF, lex1_ws last 32 _ rfl, mk, hc, sig, nextLast]

theorem relex_aux (ts : List Tok) (last : Option Tok) (lv : List Nat) (n : Nat)
    (hw : wfFrom last ts = true) (hn : (emitFrom lv ts).length ≤ n) :
    sig (tokF n last (emitFrom lv ts)) = ts := by
  induction ts generalizing last lv n with
  | nil => cases n <;> rfl
  | cons t ts ih =>
    simp only [wfFrom, Bool.and_eq_true] at hw
    obtain ⟨⟨⟨hv, hc⟩, hb⟩, hw'⟩ := hw
    obtain ⟨hcode, hne⟩ := validTok_isCode t hv
    have hk := kind_ne_ws t hcode
    have hlex := lex1_spec last t (emitFrom t.val ts) hv hc (by rw [emitFrom_head t ts hw']; exact hb)
    obtain ⟨c, r, hval⟩ := List.exists_cons_of_ne_nil hne
    rw [emitFrom_cons _ _ _ hk, List.append_assoc] at hn ⊢
    rw [hval, List.cons_append] at hlex hn ⊢
    have step : ∀ m, (emitFrom (c :: r) ts).length ≤ m →
        sig (tokF (m + 1) last (c :: (r ++ emitFrom (c :: r) ts))) = t :: ts := fun m hm => by
      rw [tokF, hlex]
      simp only [nextLast_eq, hcode, if_true]
      rw [sig_cons _ _ hk, ih (some t) _ m hw' hm]
    cases hs : needsSep lv (c :: r) <;> simp [hs] at hn ⊢
    · obtain ⟨m, rfl⟩ : ∃ m, n = m + 1 := ⟨n - 1, by omega⟩
      exact step m (by omega)
    · obtain ⟨m, rfl⟩ : ∃ m, n = m + 2 := ⟨n - 2, by omega⟩
      -- `c` is not white space: `lex1` would have answered a whitespace token, not `t`
      have hcw : isWs c = false := by
        cases h : isWs c with
        | false => rfl
        | true => exact absurd (lex1_ws_kind _ _ _ _ _ hlex h) hk
      exact (sig_tokF_space _ last c _ hcw).trans (step m (by omega))

/-- every token stands in the context it was lexed in; `last` is threaded exactly as `tokenize` does -/
def ctxAll (last : Option Tok) : List Tok → Bool
  | [] => true
  | t :: ts => ctxOK last t && ctxAll (nextLast last t) ts

/-- a punctuator read at `b :: tl` starts with `b`, and `b` is a `/` only in a division context -/
theorem ctxOK_punct (last : Option Tok) (b : Nat) (tl : List Nat) (k : Nat) (hk : 1 ≤ k)
    (hre : ¬ (b == 47 && isRegexCtx last) = true) : ctxOK last ⟨.punct, (b :: tl).take k⟩ = true := by
  obtain ⟨j, rfl⟩ : ∃ j, k = j + 1 := ⟨k - 1, by omega⟩
  by_cases hb : b = 47 <;> simp_all [ctxOK, hdIs]

theorem lex1_ctx (last : Option Tok) (s : List Nat) (t : Tok) (r : List Nat)
    (h : lex1 last s = some (t, r)) : ctxOK last t = true := by
  revert h
  -- the arms of `lex1`: only the regex arm and the punctuator arm look at the context
  fun_cases lex1 last s <;> intro h
  case case1 => cases h
  case case7 hre =>
    cases h
    simp only [Bool.and_eq_true] at hre
    simp [ctxOK, hre.2]
  case case10 =>
    cases h
    exact ctxOK_punct last _ _ _ (lexPunct_pos _) (by assumption)
  all_goals cases h; rfl

theorem tokF_ctx (n : Nat) (last : Option Tok) (s : List Nat) : ctxAll last (tokF n last s) = true := by
  induction n generalizing last s with
  | zero => rfl
  | succ n ih =>
    unfold tokF
    cases h : lex1 last s with
    | none => rfl
    | some p => simp only [ctxAll, lex1_ctx last s p.1 p.2 h, ih, Bool.and_self]

theorem ctxAll_filter (ts : List Tok) (last : Option Tok) (h : ctxAll last ts = true) :
    ctxAll last (ts.filter isCode) = true := by
  induction ts generalizing last with
  | nil => rfl
  | cons t ts ih =>
    simp only [ctxAll, Bool.and_eq_true] at h
    cases hc : isCode t
    · simp only [List.filter_cons, hc, Bool.false_eq_true, if_false]
      rw [nextLast_eq, hc] at h
      exact ih _ h.2
    · simp only [List.filter_cons, hc, if_true, ctxAll, h.1, Bool.true_and]
      exact ih _ h.2

theorem sig_strip (ts : List Tok) : sig (stripComments ts) = ts.filter isCode := by
  simp only [sig, stripComments, List.filter_filter]
  congr 1
  funext t
  simp only [isCode, Bool.and_assoc]

/-- the lexeme part of `wf`: complete lexemes whose following byte does not extend them -/
def wfLex : List Tok → Bool
  | [] => true
  | t :: ts => validTok t && bnd t (nextByte t ts) && wfLex ts

theorem wfFrom_split (ts : List Tok) (last : Option Tok) (hl : wfLex ts = true) (hc : ctxAll last ts = true) :
    wfFrom last ts = true := by
  induction ts generalizing last with
  | nil => rfl
  | cons t ts ih =>
    simp only [wfLex, Bool.and_eq_true] at hl
    simp only [ctxAll, Bool.and_eq_true] at hc
    rw [nextLast_eq, (validTok_isCode t hl.1.1).1] at hc
    simp only [wfFrom, hl.1.1, hc.1, hl.1.2, ih (some t) hl.2 hc.2, Bool.and_self]

end EgoVerif.C33
