/-
C33 — the inner loops of `tokenize`.  Each scanner, and the longest match over the operator
tables, consumes exactly a complete lexeme, whatever follows it, provided the following byte
does not extend it.
-/
import EgoVerif.C33.Wf
namespace EgoVerif.C33

def hdNot (p : Nat → Bool) (R : List Nat) : Bool :=
  match R with
  | [] => true
  | c :: _ => !p c

theorem hdNot_of_head (p : Nat → Bool) (R : List Nat)
    (h : ∀ c, R.head? = some c → p c = false) : hdNot p R = true := by
  cases R with
  | nil => rfl
  | cons c R' => simp [hdNot, h c rfl]

theorem takeWhile_hdNot (p : Nat → Bool) (R : List Nat) (hR : hdNot p R = true) :
    R.takeWhile p = [] ∧ R.dropWhile p = R := by
  cases R with
  | nil => simp
  | cons c R' =>
    have : p c = false := by simpa [hdNot] using hR
    simp [this]

theorem takeWhile_app (p : Nat → Bool) (v R : List Nat) (hv : v.all p = true) (hR : hdNot p R = true) :
    (v ++ R).takeWhile p = v ∧ (v ++ R).dropWhile p = R := by
  have hv' := List.all_eq_true.mp hv
  simp [List.takeWhile_append_of_pos hv', List.dropWhile_append_of_pos hv', takeWhile_hdNot p R hR]

theorem scanStr_cons (q c : Nat) (t : List Nat) : scanStr q (c :: t) =
    (if c == 92 then (match t with | [] => ([92], []) | d :: t' => cons2 92 d (scanStr q t'))
     else if c == q then ([c], t) else cons1 c (scanStr q t)) := by
  cases t <;> rfl

theorem scanRe_cons (ic : Bool) (c : Nat) (t : List Nat) : scanRe ic (c :: t) =
    (if c == 92 then (match t with | [] => ([92], []) | d :: t' => cons2 92 d (scanRe ic t'))
     else if c == 91 then cons1 c (scanRe true t)
     else if c == 93 then cons1 c (scanRe false t)
     else if c == 47 && !ic then (47 :: t.takeWhile isIdentCont, t.dropWhile isIdentCont)
     else cons1 c (scanRe ic t)) := by
  cases t <;> rfl

/-! `closedStr`/`scanStr` and `closedRe`/`scanRe` recurse in the same way, so each scanner lemma
is an induction along the definition of the predicate. -/

theorem scanStr_closed (q : Nat) (body R : List Nat) (h : closedStr q body = true) :
    scanStr q (body ++ R) = (body, R) := by
  fun_induction closedStr q body <;> simp_all [scanStr_cons, cons1, cons2]

theorem scanRe_closed (ic : Bool) (body R : List Nat) (hR : hdNot isIdentCont R = true)
    (h : closedRe ic body = true) : scanRe ic (body ++ R) = (body, R) := by
  fun_induction closedRe ic body <;> simp_all [scanRe_cons, cons1, cons2, takeWhile_hdNot _ R hR]

theorem scanNum_all (v R : List Nat) (prev : Nat) (hv : numAll prev v = true)
    (hR : hdNot (numCont (lastD (prev :: v))) R = true) : scanNum prev (v ++ R) = (v, R) := by
  induction v generalizing prev with
  | nil =>
    cases R with
    | nil => rfl
    | cons c R' =>
      have : numCont prev c = false := by simpa [hdNot, lastD] using hR
      simp [scanNum, this]
  | cons a v ih =>
    simp only [numAll, Bool.and_eq_true] at hv
    have hR' : hdNot (numCont (lastD (a :: v))) R = true := by
      simpa [lastD, List.getLastD_cons] using hR
    simp [scanNum, hv.1, cons1, ih a hv.2 hR']

theorem contains_iff (l : List (List Nat)) (v : List Nat) : l.contains v = true ↔ v ∈ l := by
  simp

theorem ops3_len : ∀ v ∈ ops3, v.length = 3 := by decide

theorem ops2_len : ∀ v ∈ ops2, v.length = 2 := by decide

theorem lexPunct_pos (s : List Nat) : 1 ≤ lexPunct s := by
  unfold lexPunct
  split
  · omega
  · split <;> omega

theorem take_ne_of_noExt (v R : List Nat) (hs : hdNot (fun c => !noExt v c) R = true) (o : List Nat)
    (ho : o ∈ ops3 ∨ o ∈ ops2) (hl : v.length < o.length) : (v ++ R).take o.length ≠ o := by
  intro e
  cases R with
  | nil =>
    have := congrArg List.length e
    simp at this
    omega
  | cons c R' =>
    simp only [hdNot, Bool.not_not, noExt, Bool.not_eq_true', List.any_eq_false, List.isPrefixOf_iff_prefix,
      List.mem_append] at hs
    apply hs o ho
    -- `v ++ [c]` is the shorter prefix `take (|v| + 1)` of the same text
    have hp : (v ++ [c] ++ R').take (v.length + 1) <+: (v ++ [c] ++ R').take o.length :=
      List.take_prefix_take_left (by omega)
    rw [List.take_left' (by simp)] at hp
    simpa [e] using hp

theorem lexPunct_op (v R : List Nat) (h : v ∈ ops3 ∨ v ∈ ops2) (hs : hdNot (fun c => !noExt v c) R = true) :
    lexPunct (v ++ R) = v.length := by
  rcases h with h | h
  · have hl := ops3_len v h
    simp [lexPunct, List.take_left' hl, h, hl]
  · have hl := ops2_len v h
    have h3 : (v ++ R).take 3 ∉ ops3 := fun hm =>
      take_ne_of_noExt v R hs _ (Or.inl hm) (by rw [ops3_len _ hm]; omega) (by rw [ops3_len _ hm])
    simp [lexPunct, List.take_left' hl, h, hl, h3]

theorem lexPunct_one (p : Nat) (R : List Nat) (hs : hdNot (fun c => !noExt [p] c) R = true) :
    lexPunct (p :: R) = 1 := by
  have h3 : ([p] ++ R).take 3 ∉ ops3 := fun hm =>
    take_ne_of_noExt [p] R hs _ (Or.inl hm) (by rw [ops3_len _ hm]; simp) (by rw [ops3_len _ hm])
  have h2 : ([p] ++ R).take 2 ∉ ops2 := fun hm =>
    take_ne_of_noExt [p] R hs _ (Or.inr hm) (by rw [ops2_len _ hm]; simp) (by rw [ops2_len _ hm])
  simp only [List.singleton_append, List.take_succ_cons] at h3 h2
  simp [lexPunct, h3, h2]

end EgoVerif.C33
