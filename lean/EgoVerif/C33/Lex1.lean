/-
C33 — one iteration of `tokenize` on a complete lexeme followed by a byte that does not extend
it returns that lexeme (`lex1_spec`): the first byte selects the arm of `lex1`, the scanner lemmas
do the rest.
-/
import EgoVerif.C33.Scan
namespace EgoVerif.C33

theorem identStart_facts (c : Nat) (h : isIdentStart c = true) :
    isWs c = false ∧ (c == 47) = false ∧ (c == 39) = false ∧ (c == 34) = false ∧ (c == 96) = false ∧
    isDigit c = false ∧ (c == 46) = false := by
  simp only [isIdentStart, isWs, isDigit, Bool.or_eq_true, Bool.and_eq_true, decide_eq_true_eq, beq_iff_eq,
    Bool.or_eq_false_iff, Bool.and_eq_false_iff, decide_eq_false_iff_not, beq_eq_false_iff_ne, ne_eq] at *
  omega

theorem digit_facts (c : Nat) (h : isDigit c = true) :
    isWs c = false ∧ (c == 47) = false ∧ (c == 39) = false ∧ (c == 34) = false ∧ (c == 96) = false := by
  simp only [isWs, isDigit, Bool.and_eq_true, decide_eq_true_eq,
    Bool.or_eq_false_iff, beq_eq_false_iff_ne, ne_eq] at *
  omega

theorem punctChar_facts (c : Nat) (h : punctChar c = true) :
    isWs c = false ∧ (c == 39) = false ∧ (c == 34) = false ∧ (c == 96) = false ∧
    isDigit c = false ∧ isIdentStart c = false := by
  simpa [punctChar, and_assoc] using h

theorem hdDigit_app (r R : List Nat) (h : hdDigit r = true) : hdDigit (r ++ R) = true := by
  cases r with
  | nil => simp [hdDigit] at h
  | cons a r' => simpa [hdDigit] using h

theorem lex1_ws (last : Option Tok) (b : Nat) (s : List Nat) (h : isWs b = true) :
    lex1 last (b :: s) = mk .ws b (s.takeWhile isWs, s.dropWhile isWs) := by
  simp [lex1, h]

theorem lex1_ident (last : Option Tok) (c : Nat) (r R : List Nat) (hc : isIdentStart c = true)
    (hr : r.all isIdentCont = true) (hR : hdNot isIdentCont R = true) :
    lex1 last (c :: r ++ R) = some (⟨.ident, c :: r⟩, R) := by
  obtain ⟨h1, h2, h3, h4, h5, h6, h7⟩ := identStart_facts c hc
  have tw := takeWhile_app isIdentCont r R hr hR
  simp [lex1, mk, h1, h2, h3, h4, h5, h6, h7, hc, tw.1, tw.2]

theorem lex1_num (last : Option Tok) (c : Nat) (r R : List Nat)
    (hc : (isDigit c || (c == 46 && hdDigit r)) = true) (hr : numAll c r = true)
    (hR : hdNot (numCont (lastD (c :: r))) R = true) :
    lex1 last (c :: r ++ R) = some (⟨.num, c :: r⟩, R) := by
  have sc := scanNum_all r R c hr hR
  rcases Bool.or_eq_true _ _ |>.mp hc with hd | hdot
  · obtain ⟨h1, h2, h3, h4, h5⟩ := digit_facts c hd
    simp [lex1, mk, h1, h2, h3, h4, h5, hd, sc]
  · simp only [Bool.and_eq_true, beq_iff_eq] at hdot
    obtain ⟨rfl, hdr⟩ := hdot
    simp [lex1, mk, isWs, hdDigit_app r R hdr, sc]

theorem lex1_str (last : Option Tok) (q : Nat) (body R : List Nat) (hq : (q == 39 || q == 34) = true)
    (hb : closedStr q body = true) : lex1 last (q :: body ++ R) = some (⟨.str, q :: body⟩, R) := by
  have sc := scanStr_closed q body R hb
  simp only [Bool.or_eq_true, beq_iff_eq] at hq
  rcases hq with rfl | rfl <;> simp [lex1, mk, isWs, sc]

theorem lex1_tpl (last : Option Tok) (body R : List Nat) (hb : closedStr 96 body = true) :
    lex1 last (96 :: body ++ R) = some (⟨.tpl, 96 :: body⟩, R) := by
  simp [lex1, mk, isWs, scanStr_closed 96 body R hb]

theorem lex1_regex (last : Option Tok) (body R : List Nat) (hctx : isRegexCtx last = true)
    (h47 : hdIs body 47 = false) (h42 : hdIs body 42 = false) (hb : closedRe false body = true)
    (hR : hdNot isIdentCont R = true) :
    lex1 last (47 :: body ++ R) = some (⟨.regex, 47 :: body⟩, R) := by
  cases body with
  | nil => simp [closedRe] at hb
  | cons a body' =>
    have sc := scanRe_closed false (a :: body') R hR hb
    rw [List.cons_append] at sc
    simp only [hdIs, List.head?_cons] at h47 h42
    simp [lex1, mk, isWs, hdIs, h47, h42, hctx, sc]

theorem lex1_punct (last : Option Tok) (b : Nat) (t : List Nat) (hp : punctChar b = true)
    (hctx : b = 47 → isRegexCtx last = false)
    (hcm : b = 47 → hdIs t 47 = false ∧ hdIs t 42 = false) (hdot : b = 46 → hdDigit t = false) :
    lex1 last (b :: t) =
      some (⟨.punct, (b :: t).take (lexPunct (b :: t))⟩, (b :: t).drop (lexPunct (b :: t))) := by
  obtain ⟨p1, p2, p3, p4, p5, p6⟩ := punctChar_facts b hp
  have a47 : (b == 47 && hdIs t 47) = false ∧ (b == 47 && hdIs t 42) = false ∧
      (b == 47 && isRegexCtx last) = false := by
    by_cases hb : b = 47
    · simp [hcm hb, hctx hb]
    · simp [hb]
  have a46 : (b == 46 && hdDigit t) = false := by
    by_cases hb : b = 46
    · simp [hdot hb]
    · simp [hb]
  simp only [lex1, p1, p2, p3, p4, p5, p6, a47, a46, Bool.or_false, Bool.false_eq_true, if_false]

/-- every multi-byte operator starts with a punctuation byte; its second byte is not a digit
    and does not open a comment -/
theorem op_table : (ops3 ++ ops2).all (fun v => match v with
    | b :: d :: _ => punctChar b && !isDigit d && !(b == 47 && (d == 47 || d == 42))
    | _ => false) = true := by decide

theorem op_head (v : List Nat) (h : v ∈ ops3 ∨ v ∈ ops2) :
    ∃ b d v', v = b :: d :: v' ∧ punctChar b = true ∧ isDigit d = false ∧ (b = 47 → d ≠ 47 ∧ d ≠ 42) := by
  have := List.all_eq_true.mp op_table v (List.mem_append.mpr h)
  match v, this with
  | b :: d :: v', ht => exact ⟨b, d, v', rfl, by simpa [and_assoc, Decidable.imp_iff_not_or] using ht⟩

theorem lex1_op (last : Option Tok) (v R : List Nat) (h : v ∈ ops3 ∨ v ∈ ops2)
    (hctx : hdIs v 47 = true → isRegexCtx last = false) (hs : hdNot (fun c => !noExt v c) R = true) :
    lex1 last (v ++ R) = some (⟨.punct, v⟩, R) := by
  have hlen := lexPunct_op v R h hs
  obtain ⟨b, d, v', rfl, hp, hd, hcm⟩ := op_head v h
  have e := lex1_punct last b (d :: (v' ++ R)) hp (fun hb => hctx (by simp [hdIs, hb]))
    (fun hb => by simpa [hdIs] using hcm hb) (fun _ => by simpa [hdDigit] using hd)
  rw [List.cons_append, List.cons_append] at hlen ⊢
  rw [e, hlen]
  simp

theorem hdNot_of_bnd {p : Nat → Bool} {t : Tok} {R : List Nat} (h : bnd t R.head? = true)
    (hp : ∀ c, bnd t (some c) = true → p c = false) : hdNot p R = true :=
  hdNot_of_head p R fun c hc => hp c (hc ▸ h)

theorem bnd_punct (v R : List Nat) (h : bnd ⟨.punct, v⟩ R.head? = true) :
    hdNot (fun c => !noExt v c) R = true ∧ (v = [47] → hdIs R 47 = false ∧ hdIs R 42 = false) ∧
    (v = [46] → hdDigit R = false) := by
  cases R with
  | nil => simp [hdNot, hdIs, hdDigit]
  | cons x R' =>
    simp only [bnd, List.head?_cons, Bool.and_eq_true, Bool.not_eq_true', Bool.and_eq_false_iff] at h
    refine ⟨by simpa [hdNot] using h.1.1, fun hv => ?_, fun hv => ?_⟩
    · simpa [hv, hdIs] using h.1.2
    · simpa [hv, hdDigit] using h.2

theorem lex1_spec (last : Option Tok) (t : Tok) (R : List Nat) (hv : validTok t = true)
    (hc : ctxOK last t = true) (hb : bnd t R.head? = true) : lex1 last (t.val ++ R) = some (t, R) := by
  obtain ⟨k, v⟩ := t
  revert hv
  fun_cases validTok ⟨k, v⟩ <;> intro hv <;> subst_vars
  case case1 c r =>
    rw [Bool.and_eq_true] at hv
    exact lex1_ident last c r R hv.1 hv.2 (hdNot_of_bnd hb (by simp [bnd]))
  case case2 c r =>
    rw [Bool.and_eq_true] at hv
    exact lex1_num last c r R hv.1 hv.2 (hdNot_of_bnd hb (by simp [bnd]))
  case case3 q body =>
    rw [Bool.and_eq_true] at hv
    exact lex1_str last q body R hv.1 hv.2
  case case4 q body =>
    rw [Bool.and_eq_true] at hv
    cases beq_iff_eq.mp hv.1
    exact lex1_tpl last body R hv.2
  case case5 s body =>
    simp only [Bool.and_eq_true, beq_iff_eq, Bool.not_eq_true'] at hv
    obtain ⟨⟨⟨rfl, h47⟩, h42⟩, hcl⟩ := hv
    exact lex1_regex last body R (by simpa [ctxOK] using hc) h47 h42 hcl (hdNot_of_bnd hb (by simp [bnd]))
  case case6 c =>
    obtain ⟨hs, hcm, hdot⟩ := bnd_punct [c] R hb
    rw [List.singleton_append, lex1_punct last c R hv (fun h => by simpa [ctxOK, hdIs, h] using hc)
      (fun h => hcm (by rw [h])) (fun h => hdot (by rw [h])), lexPunct_one c R hs]
    rfl
  case case7 =>
    exact lex1_op last v R (by simpa using hv) (fun h => by simpa [ctxOK, h] using hc) (bnd_punct v R hb).1
  case case8 => cases hv

end EgoVerif.C33
