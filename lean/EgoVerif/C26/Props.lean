import EgoVerif.C26.Model
/-
Containment for the model of util.SandboxJoin (Model.lean): wherever the kernel ends up when handed the
result of `sandboxJoin`, that location is at or below the place the sandbox root physically is.  The kernel's
path resolution is the relation `Walk`; `walk` (Model.lean, Go's EvalSymlinks/Lstat) is sound for it.
-/
namespace EgoVerif.C26

/-- segments the kernel ignores -/
def dots (rest : List Seg) : Prop := ∀ x ∈ rest, x = "" ∨ x = "."

/-- The KERNEL's path resolution as a relation (no fuel: a looping path simply has no derivation): an
operation on path `rest`, started in the physical directory `cur`, acts on the physical location `l` (an
existing node, or a not-yet-existing last component that a creating call would create). -/
inductive Walk (fs : FS) : List Seg → List Seg → List Seg → Prop
  | done (cur) : Walk fs cur [] cur
  | skip {cur s rest l} : (s = "" ∨ s = ".") → Walk fs cur rest l → Walk fs cur (s :: rest) l
  | up {cur rest l} : Walk fs cur.dropLast rest l → Walk fs cur (".." :: rest) l
  | missing {cur s rest} : plain s = true → look fs (cur ++ [s]) = none → dots rest →
      Walk fs cur (s :: rest) (cur ++ [s])
  | file {cur s rest} : plain s = true → look fs (cur ++ [s]) = some Kind.file → dots rest →
      Walk fs cur (s :: rest) (cur ++ [s])
  | dir {cur s rest l} : plain s = true → look fs (cur ++ [s]) = some Kind.dir →
      Walk fs (cur ++ [s]) rest l → Walk fs cur (s :: rest) l
  | link {cur s rest l a t} : plain s = true → look fs (cur ++ [s]) = some (Kind.link a t) →
      Walk fs (if a then [] else cur) (t ++ rest) l → Walk fs cur (s :: rest) l

theorem plain_iff {s : Seg} : plain s = true ↔ s ≠ "" ∧ s ≠ "." ∧ s ≠ ".." := by
  simp [plain, and_assoc]

theorem not_plain_dots {s : Seg} (h : s = "" ∨ s = ".") : plain s = false := by
  rcases h with h | h <;> subst h <;> decide

theorem not_plain_dotdot : ¬ plain ".." = true := by decide

/-- the last branch of `walk` and of `cleanAux` -/
theorem plain_of_not {s : Seg} (hd : ¬ (s == "" || s == ".") = true) (hu : ¬ (s == "..") = true) :
    plain s = true := by
  simp only [Bool.or_eq_true, beq_iff_eq, not_or] at hd hu
  exact plain_iff.mpr ⟨hd.1, hd.2, hu⟩

theorem walk_sound {fs : FS} {fuel : Nat} {cur rest l : List Seg} (h : walk fs fuel cur rest = some l) :
    Walk fs cur rest l := by
  -- the branches of `walk` are `Walk`'s constructors
  fun_induction walk fs fuel cur rest with
  | case1 => cases h; exact .done _
  | case2 => cases h
  | case3 _ _ _ _ hd ih => exact .skip (by simpa using hd) (ih h)
  | case4 _ _ _ _ _ hu ih => cases beq_iff_eq.1 hu; exact .up (ih h)
  | case5 _ _ _ _ hd hu hl he =>
    cases h; cases List.isEmpty_iff.1 he; exact .missing (plain_of_not hd hu) hl nofun
  | case6 => cases h
  | case7 _ _ _ _ hd hu hl he =>
    cases h; cases List.isEmpty_iff.1 he; exact .file (plain_of_not hd hu) hl nofun
  | case8 => cases h
  | case9 _ _ _ _ hd hu hl ih => exact .dir (plain_of_not hd hu) hl (ih h)
  | case10 _ _ _ _ hd hu _ _ hl ih => exact .link (plain_of_not hd hu) hl (ih h)

/-! ### the kernel relation is directed by the first segment, hence deterministic -/

theorem Walk.skip_inv {fs : FS} {c rest l : List Seg} {s : Seg} (hs : s = "" ∨ s = ".")
    (h : Walk fs c (s :: rest) l) : Walk fs c rest l := by
  have hn := not_plain_dots hs
  cases h with
  | skip _ h => exact h
  | up _ => rcases hs with hs | hs <;> simp at hs
  | missing hp _ _ => rw [hn] at hp; cases hp
  | file hp _ _ => rw [hn] at hp; cases hp
  | dir hp _ _ => rw [hn] at hp; cases hp
  | link hp _ _ => rw [hn] at hp; cases hp

theorem Walk.up_inv {fs : FS} {c rest l : List Seg} (h : Walk fs c (".." :: rest) l) :
    Walk fs c.dropLast rest l := by
  cases h with
  | skip hs _ => rcases hs with hs | hs <;> simp at hs
  | up h => exact h
  | missing hp _ _ => exact absurd hp not_plain_dotdot
  | file hp _ _ => exact absurd hp not_plain_dotdot
  | dir hp _ _ => exact absurd hp not_plain_dotdot
  | link hp _ _ => exact absurd hp not_plain_dotdot

theorem Walk.plain_inv {fs : FS} {c rest l : List Seg} {s : Seg} {k : Option Kind} (hp : plain s = true)
    (h : Walk fs c (s :: rest) l) (hk : look fs (c ++ [s]) = k) :
    match (generalizing := false) k with
    | none | some .file => l = c ++ [s]
    | some .dir => Walk fs (c ++ [s]) rest l
    | some (.link a t) => Walk fs (if a then [] else c) (t ++ rest) l := by
  subst hk
  cases h with
  | skip hs _ => rw [not_plain_dots hs] at hp; cases hp
  | up _ => exact absurd hp not_plain_dotdot
  | missing _ hl _ => rw [hl]
  | file _ hl _ => rw [hl]
  | dir _ hl h => rw [hl]; exact h
  | link _ hl h => rw [hl]; exact h

theorem Walk.det {fs : FS} {c r l₁ l₂ : List Seg} (h1 : Walk fs c r l₁) (h2 : Walk fs c r l₂) : l₁ = l₂ := by
  induction h1 generalizing l₂ with
  | done cur => cases h2; rfl
  | skip hs _ ih => exact ih (h2.skip_inv hs)
  | up _ ih => exact ih h2.up_inv
  | missing hp hl _ => exact (h2.plain_inv hp hl).symm
  | file hp hl _ => exact (h2.plain_inv hp hl).symm
  | dir hp hl _ ih => exact ih (h2.plain_inv hp hl)
  | link hp hl _ ih => exact ih (h2.plain_inv hp hl)

/-- `c` is a chain of directories from "/" with no symlink in it -/
inductive Phys (fs : FS) : List Seg → Prop
  | root : Phys fs []
  | snoc {c s} : Phys fs c → plain s = true → look fs (c ++ [s]) = some Kind.dir → Phys fs (c ++ [s])

theorem Phys.dropLast {fs : FS} {c : List Seg} (h : Phys fs c) : Phys fs c.dropLast := by
  cases h with
  | root => exact Phys.root
  | snoc h _ _ => simpa using h

theorem Phys.look_dir {fs : FS} {c : List Seg} (h : Phys fs c) : look fs c = some Kind.dir := by
  cases h with
  | root => simp [look]
  | snoc _ _ hl => exact hl

/-- what the kernel can end up at: a directory chain, or a file / a missing name in one -/
def PhysLoc (fs : FS) (l : List Seg) : Prop :=
  Phys fs l ∨ ∃ d s, l = d ++ [s] ∧ Phys fs d ∧ plain s = true ∧
    (look fs l = none ∨ look fs l = some Kind.file)

theorem Walk.physLoc {fs : FS} {c r l : List Seg} (h : Walk fs c r l) (hc : Phys fs c) : PhysLoc fs l := by
  induction h with
  | done cur => exact Or.inl hc
  | skip _ _ ih => exact ih hc
  | up _ ih => exact ih hc.dropLast
  | missing hp hl _ => exact Or.inr ⟨_, _, rfl, hc, hp, Or.inl hl⟩
  | file hp hl _ => exact Or.inr ⟨_, _, rfl, hc, hp, Or.inr hl⟩
  | dir hp hl _ ih => exact ih (Phys.snoc hc hp hl)
  | link _ _ _ ih =>
    apply ih
    split
    · exact Phys.root
    · exact hc

theorem Walk.through {fs : FS} {d : List Seg} (hd : Phys fs d) :
    ∀ rest l, Walk fs [] (d ++ rest) l → Walk fs d rest l := by
  induction hd with
  | root => intro rest l h; simpa using h
  | @snoc c s hc hp hl ih =>
    intro rest l h
    have h' : Walk fs [] (c ++ (s :: rest)) l := by simpa using h
    exact (ih _ _ h').plain_inv hp hl

theorem findExisting_le (fs : FS) (fuel : Nat) (c : List Seg) (n : Nat) : findExisting fs fuel c n ≤ n := by
  fun_induction findExisting fs fuel c n with
  | case1 => exact Nat.le_refl _
  | case2 => exact Nat.le_refl _
  | case3 _ _ ih => exact Nat.le_succ_of_le ih

theorem findExisting_next (fs : FS) (fuel : Nat) (c : List Seg) (n : Nat) (h : findExisting fs fuel c n < n) :
    lstatOk fs fuel (c.take (findExisting fs fuel c n + 1)) = false := by
  fun_induction findExisting fs fuel c n with
  | case1 => cases h
  | case2 => exact absurd h (Nat.lt_irrefl _)
  | case3 k hl ih =>
    by_cases heq : findExisting fs fuel c k = k
    · rw [heq]; exact Bool.eq_false_iff.2 hl
    · exact ih (Nat.lt_of_le_of_ne (findExisting_le fs fuel c k) heq)

theorem evalSymlinks_spec {fs : FS} {fuel : Nat} {p l : List Seg} (h : evalSymlinks fs fuel p = some l) :
    walk fs fuel [] p = some l ∧ (look fs l).isSome = true := by
  unfold evalSymlinks at h
  cases hw : walk fs fuel [] p with
  | none => rw [hw] at h; cases h
  | some l' =>
    have : (look fs l').isSome = true ∧ l' = l := by simpa [hw] using h
    exact this.2 ▸ ⟨rfl, this.1⟩

theorem root_contained {fs : FS} {fuel : Nat} {r R L : List Seg}
    (hr : evalSymlinks fs fuel r = some R) (hk : Walk fs [] r L) : R <+: L := by
  have := (walk_sound (evalSymlinks_spec hr).1).det hk
  subst this
  exact List.prefix_refl _

theorem resolveWithin_contained {fs : FS} {fuel : Nat} {cand r R L : List Seg}
    (hplain : ∀ s ∈ cand, plain s = true)
    (hr : evalSymlinks fs fuel r = some R)
    (hk : Walk fs [] (resolveWithin fs fuel cand r) L) : R <+: L := by
  unfold resolveWithin at hk
  simp only [hr] at hk
  generalize hkdef : findExisting fs fuel cand cand.length = k at hk
  cases he : evalSymlinks fs fuel (cand.take k) with
  | none => simp only [he] at hk; exact root_contained hr hk
  | some res =>
    simp only [he] at hk
    by_cases hpre : R.isPrefixOf res = true
    · rw [if_pos hpre] at hk
      -- `R` is a prefix of `res`, and the kernel ends at or just below `res`
      refine (List.isPrefixOf_iff_prefix.mp hpre).trans ?_
      obtain ⟨hw, hex⟩ := evalSymlinks_spec he
      rcases (walk_sound hw).physLoc Phys.root with hphys | ⟨d, s, hres, hd, hp, hmf⟩
      · -- the existing prefix resolves to a directory chain
        have h2 := Walk.through hphys _ _ hk
        by_cases hlt : k < cand.length
        · -- the next component is a name Lstat did not find in `res`
          rw [List.drop_eq_getElem_cons hlt] at h2
          have hnext := findExisting_next fs fuel cand cand.length (hkdef ▸ hlt)
          rw [hkdef, List.take_succ_eq_append_getElem hlt] at hnext
          have hmiss : look fs (res ++ [cand[k]]) = none := by
            unfold lstatOk at hnext
            simp only [List.getLast?_concat, List.dropLast_concat, hw, hphys.look_dir] at hnext
            simpa using hnext
          exact h2.plain_inv (hplain _ (List.getElem_mem hlt)) hmiss ▸ List.prefix_append _ _
        · rw [List.drop_eq_nil_of_le (Nat.le_of_not_lt hlt)] at h2
          cases h2
          exact List.prefix_refl _
      · -- the existing prefix resolves to a file (a missing location is excluded by EvalSymlinks)
        have hfile : look fs (d ++ [s]) = some Kind.file := by
          rcases hmf with hm | hf
          · rw [hm] at hex; cases hex
          · exact hres ▸ hf
        rw [hres, List.append_assoc] at hk
        exact (Walk.through hd _ _ hk).plain_inv hp hfile ▸ hres ▸ List.prefix_refl _
    · rw [if_neg hpre] at hk
      exact root_contained hr hk

theorem cleanAux_abs_plain (segs st : List Seg) (hst : ∀ s ∈ st, plain s = true) :
    ∀ s ∈ cleanAux true segs st, plain s = true := by
  fun_induction cleanAux true segs st with
  | case1 => exact fun s hs => hst s (List.mem_reverse.1 hs)
  | case2 _ _ _ _ ih => exact ih hst
  | case3 _ _ _ _ _ ih => exact ih hst
  | case4 _ _ _ _ h => exact absurd rfl h
  | case5 _ _ _ _ _ _ h =>
    -- impossible: the stack holds entry names
    cases beq_iff_eq.1 h; exact absurd (hst _ List.mem_cons_self) not_plain_dotdot
  | case6 _ _ _ _ _ _ _ ih => exact ih fun s hs => hst s (List.mem_cons_of_mem _ hs)
  | case7 _ _ _ hd hu ih => exact ih (List.forall_mem_cons.2 ⟨plain_of_not hd hu, hst⟩)

theorem clean_abs_plain (segs : List Seg) : ∀ s ∈ clean true segs, plain s = true :=
  cleanAux_abs_plain segs [] nofun

theorem within_self (a : Bool) (r : List Seg) : within a r a r = true := by
  simp [within]

theorem within_abs {a b : Bool} {x y : List Seg} (h : within a x b y = true) : a = b := by
  unfold within at h
  simp only [Bool.and_eq_true, beq_iff_eq] at h
  exact h.1.1

/-- **Containment.**  For EVERY file system `fs` (any arrangement of directories, files and symlinks —
escaping, dangling, looping, chained — inside or outside the root), every absolute sandbox root
that Go can resolve (`EvalSymlinks(root) = R`), every spelling of the requested path (`pAbs`,
`pSegs`: relative, absolute, "..", repeated separators, anything) and every fuel: whatever physical
location `L` the kernel acts on when given `SandboxJoin(root, path)` — an existing node or a
name it would create — lies at or below the physical root `R`. -/
theorem C26_contained (fs : FS) (fuel : Nat) (rSegs : List Seg) (pAbs : Bool) (pSegs : List Seg)
    (R L : List Seg)
    (hroot : evalSymlinks fs fuel (clean true rSegs) = some R)
    (hk : Walk fs [] (sandboxJoin fs fuel true rSegs pAbs pSegs) L) :
    R <+: L := by
  unfold sandboxJoin sandboxJoinWith at hk
  simp only [if_true] at hk
  split at hk
  · rename_i hw
    cases within_abs hw
    exact resolveWithin_contained (clean_abs_plain _) hroot hk
  · split at hk
    · exact resolveWithin_contained (clean_abs_plain _) hroot hk
    · exact root_contained hroot hk

/-- the resolved root used in `C26_contained` is where the kernel itself finds the root -/
theorem C26_root_is_kernel_root (fs : FS) (fuel : Nat) (r R : List Seg)
    (h : evalSymlinks fs fuel r = some R) : Walk fs [] r R :=
  walk_sound (evalSymlinks_spec h).1

theorem sandboxJoinWith_within (rw : List Seg → List Seg → List Seg) (rAbs : Bool) (rSegs : List Seg)
    (pAbs : Bool) (pSegs : List Seg) (hrw : rAbs = true → ∀ c, rw c (clean rAbs rSegs) = c) :
    within rAbs (sandboxJoinWith rw rAbs rSegs pAbs pSegs) rAbs (clean rAbs rSegs) = true := by
  have hid : ∀ c, (if rAbs = true then rw c (clean rAbs rSegs) else c) = c := by
    intro c; split
    · exact hrw ‹_› c
    · rfl
  unfold sandboxJoinWith
  simp only [hid]
  split
  · rename_i hw
    exact within_abs hw ▸ hw
  · split
    · assumption
    · exact within_self _ _

/-- **String containment.**  When the root cannot be resolved (it does not exist yet) or is relative,
`SandboxJoin` is its pure-string self, and the result is lexically the root or below it
(`withinRoot(result, Clean(root))`), for every spelling of the path. -/
theorem C26_string_contained (fs : FS) (fuel : Nat) (rAbs : Bool) (rSegs : List Seg) (pAbs : Bool)
    (pSegs : List Seg)
    (h : rAbs = false ∨ evalSymlinks fs fuel (clean rAbs rSegs) = none) :
    within rAbs (sandboxJoin fs fuel rAbs rSegs pAbs pSegs) rAbs (clean rAbs rSegs) = true := by
  refine sandboxJoinWith_within _ rAbs rSegs pAbs pSegs fun ha c => ?_
  have he : evalSymlinks fs fuel (clean rAbs rSegs) = none := h.resolve_left (ha ▸ Bool.noConfusion)
  unfold resolveWithin; rw [he]

/-- "/sb" is the root; "/sb/esc" is a symlink to "/out/new", which does not exist; "/out" does -/
def cexFS : FS := fun p =>
  if p = ["sb"] then some Kind.dir
  else if p = ["out"] then some Kind.dir
  else if p = ["sb", "esc"] then some (Kind.link true ["", "out", "new"])
  else none

/-- **Counterexample for the unpatched resolveWithinSandbox** (`return candidate` when
EvalSymlinks of the existing prefix fails): `SandboxJoin("/sb", "esc")` = "/sb/esc", and a creating
open of that path makes the kernel create "/out/new" — outside the root "/sb". -/
theorem C26_dangling_counterexample :
    sandboxJoinOld cexFS 50 true ["", "sb"] false ["esc"] = ["sb", "esc"] ∧
    evalSymlinks cexFS 50 (clean true ["", "sb"]) = some ["sb"] ∧
    Walk cexFS [] ["sb", "esc"] ["out", "new"] ∧ ¬ (["sb"] <+: ["out", "new"]) := by
  refine ⟨by decide, by decide, ?_, by decide⟩
  refine Walk.dir (by decide) (by decide) ?_
  refine Walk.link (a := true) (t := ["", "out", "new"]) (by decide) (by decide) ?_
  refine Walk.skip (Or.inl rfl) ?_
  refine Walk.dir (by decide) (by decide) ?_
  exact Walk.missing (by decide) (by decide) (by intro x hx; cases hx)

/-- the patched code clamps the same request to the root -/
example : sandboxJoin cexFS 50 true ["", "sb"] false ["esc"] = ["sb"] := by decide

/-- **Partial theorem for the unpatched code**: on every request where the old and the new function agree —
in particular outside the class "the existing prefix of the candidate does not resolve" (dangling link,
loop), the only place where they differ — the old result is contained as well. -/
theorem C26_contained_old_partial (fs : FS) (fuel : Nat) (rSegs : List Seg) (pAbs : Bool) (pSegs : List Seg)
    (R L : List Seg)
    (hroot : evalSymlinks fs fuel (clean true rSegs) = some R)
    (hclass : sandboxJoinOld fs fuel true rSegs pAbs pSegs = sandboxJoin fs fuel true rSegs pAbs pSegs)
    (hk : Walk fs [] (sandboxJoinOld fs fuel true rSegs pAbs pSegs) L) :
    R <+: L := by
  rw [hclass] at hk
  exact C26_contained fs fuel rSegs pAbs pSegs R L hroot hk

/-! ### non-vacuity: the hypotheses of `C26_contained` are met by interesting instances -/

/-- root "/sb" with a directory "d", a symlink "l" to "/out" (outside), "/out/c" a file, and "d/up" a relative
symlink to "../../out/c" -/
def exFS : FS := fun p =>
  if p = ["sb"] then some Kind.dir
  else if p = ["sb", "d"] then some Kind.dir
  else if p = ["out"] then some Kind.dir
  else if p = ["out", "c"] then some Kind.file
  else if p = ["sb", "l"] then some (Kind.link true ["", "out"])
  else if p = ["sb", "d", "up"] then some (Kind.link false ["..", "..", "out", "c"])
  else none

example : evalSymlinks exFS 50 (clean true ["", "sb"]) = some ["sb"] := by decide
-- through an escaping symlink: clamped to the root
example : sandboxJoin exFS 50 true ["", "sb"] false ["l", "c"] = ["sb"] := by decide
-- through a relative symlink climbing out with "..": clamped
example : sandboxJoin exFS 50 true ["", "sb"] false ["d", ".", "", "up"] = ["sb"] := by decide
-- ".." spelling that stays inside, new file in an existing directory: kept, and the kernel creates it there
example : sandboxJoin exFS 50 true ["", "sb"] false ["d", "..", "d", "new"] = ["sb", "d", "new"] := by decide
example : Walk exFS [] ["sb", "d", "new"] ["sb", "d", "new"] :=
  Walk.dir (by decide) (by decide) (Walk.dir (by decide) (by decide)
    (Walk.missing (by decide) (by decide) (by intro x hx; cases hx)))
-- absolute path elsewhere: re-rooted under the sandbox
example : sandboxJoin exFS 50 true ["", "sb"] true ["", "out", "c"] = ["sb", "out", "c"] := by decide
-- lexical escape: clamped
example : sandboxJoin exFS 50 true ["", "sb"] false ["..", "out", "c"] = ["sb"] := by decide

/-- what the generated obligation `allRouted table = true` (by `decide`) means -/
theorem C26_all_routed_meaning (tbl : List Route) (h : allRouted tbl = true) :
    ∀ e ∈ tbl, e.routed = true ∨ e.fn ∈ knownUnrouted := by
  intro e he
  have := List.all_eq_true.mp h e he
  simpa using this

end EgoVerif.C26
