import EgoVerif.C25.Model
/-
`C25_iff` is structural (no hypothesis on the primitives); `C25_exact` and the migration
theorems are relative to `PrimsOK` (bcrypt verifies exactly the hashed password, SHA-256 hex is injective and
looks like neither a bcrypt hash nor a {quoted} value).  The harness probes those hypotheses on the real
primitives and reports where they fail (72-byte truncation, NUL key cycling) as limits of the trusted base.
-/
namespace EgoVerif.C25

structure PrimsOK (P : Prims) : Prop where
  bcrypt_correct : ∀ p h q, P.bcryptHash p = some h → (P.bcryptMatch h q = true ↔ p = q)
  bcrypt_prefix : ∀ p h, P.bcryptHash p = some h → isBcryptHash h = true
  sha_inj : ∀ a b, P.sha a = P.sha b → a = b
  sha_shape : ∀ a, isBcryptHash (P.sha a) = false ∧ isBraced (P.sha a) = false

def Matches (P : Prims) (plain : Bool) (cred pass : Str) : Prop :=
  if isBcryptHash cred then P.bcryptMatch cred pass = true
  else if isBraced cred then plain = true ∧ P.sha (inner cred) = P.sha pass
  else cred = P.sha pass

def HoldsLogonOrRoot (perms : List Str) : Prop :=
  hasPerm perms logonPerm = true ∨ hasPerm perms rootPerm = true

theorem credOK_iff (P : Prims) (plain : Bool) (cred pass : Str) :
    credOK P plain cred pass = true ↔ Matches P plain cred pass := by
  unfold credOK Matches legacyReal
  by_cases hb : isBcryptHash cred = true
  · simp [hb]
  · by_cases hq : isBraced cred = true
    · cases plain <;> simp [hb, hq]
    · simp [hb, hq]

/-- MAIN: a pair authenticates iff the user exists under the lower-cased name, the password matches the
    stored credential in its format, and the user holds logon or root.  (Empty names/passwords never do.) -/
theorem C25_iff (P : Prims) (plain : Bool) (st : Store) (user pass : Str) :
    accept P plain st user pass = true ↔
      user ≠ [] ∧ pass ≠ [] ∧
      ∃ r, st (P.lower user) = some r ∧ Matches P plain r.password pass ∧ HoldsLogonOrRoot r.perms := by
  unfold accept validate HoldsLogonOrRoot
  by_cases he : user = [] ∨ pass = []
  · simp only [he, if_true]
    constructor
    · intro h; cases h
    · rintro ⟨h1, h2, _⟩; rcases he with he | he <;> contradiction
  · have h1 : user ≠ [] := fun h => he (Or.inl h)
    have h2 : pass ≠ [] := fun h => he (Or.inr h)
    simp only [he, if_false]
    cases hs : st (P.lower user) with
    | none => simp
    | some r =>
      simp only [Bool.and_eq_true, Bool.or_eq_true, credOK_iff]
      constructor
      · rintro ⟨hm, hp⟩
        exact ⟨h1, h2, r, rfl, hm, hp.symm⟩
      · rintro ⟨_, _, r', hr, hm, hp⟩
        cases hr
        exact ⟨hm, hp.symm⟩

/-- how a credential for true password `t` is provisioned in each supported format -/
inductive Fmt | bcrypt | sha | plain
deriving DecidableEq

def Provisioned (P : Prims) : Fmt → Str → Str → Prop
  | .bcrypt, t, cred => P.bcryptHash t = some cred
  | .sha, t, cred => cred = P.sha t
  | .plain, t, cred => cred = lbrace :: (t ++ [rbrace])

theorem isBcryptHash_lbrace (s : Str) : isBcryptHash (lbrace :: s) = false := by
  simp [isBcryptHash, pfx2a, pfx2b, pfx2y, lbrace, List.isPrefixOf]

theorem isBraced_quote (t : Str) : isBraced (lbrace :: (t ++ [rbrace])) = true := by
  simp [isBraced, List.getLast?_cons, List.getLast?_append]

theorem inner_quote (t : Str) : inner (lbrace :: (t ++ [rbrace])) = t := by
  simp [inner, List.dropLast_append_of_ne_nil]

theorem PrimsOK.sha_eq_iff {P : Prims} (ok : PrimsOK P) {a b : Str} : P.sha a = P.sha b ↔ a = b :=
  ⟨ok.sha_inj a b, congrArg P.sha⟩

theorem matches_provisioned (P : Prims) (ok : PrimsOK P) (plain : Bool) (f : Fmt) (t cred p : Str)
    (hp : Provisioned P f t cred) :
    Matches P plain cred p ↔ (p = t ∧ (f = .plain → plain = true)) := by
  unfold Matches
  cases f with
  | bcrypt =>
    simp [ok.bcrypt_prefix t cred hp, ok.bcrypt_correct t cred p hp, eq_comm]
  | sha =>
    cases hp
    simp [ok.sha_shape t, ok.sha_eq_iff, eq_comm]
  | plain =>
    cases hp
    simp [isBcryptHash_lbrace, isBraced_quote, inner_quote, ok.sha_eq_iff, eq_comm, and_comm]

/-- EXACTNESS: for a user (non-empty name) whose credential was provisioned from the true password `t`
    (non-empty) in any of the three formats, a login is accepted iff the candidate IS `t` (byte for byte: no
    case variant, prefix, extension), plaintext is enabled when the format needs it, and the user holds logon
    or root. -/
theorem C25_exact (P : Prims) (ok : PrimsOK P) (plain : Bool) (st : Store) (f : Fmt)
    (user t cred : Str) (perms : List Str) (p : Str)
    (hu : user ≠ []) (ht : t ≠ [])
    (hst : st (P.lower user) = some ⟨cred, perms⟩) (hp : Provisioned P f t cred) :
    accept P plain st user p = true ↔
      p = t ∧ (f = .plain → plain = true) ∧ HoldsLogonOrRoot perms := by
  rw [C25_iff]
  constructor
  · rintro ⟨_, _, r, hr, hm, hperm⟩
    rw [hst] at hr; cases hr
    have := (matches_provisioned P ok plain f t cred p hp).1 hm
    exact ⟨this.1, this.2, hperm⟩
  · rintro ⟨h1, h2, h3⟩
    refine ⟨hu, by rw [h1]; exact ht, ⟨cred, perms⟩, hst, ?_, h3⟩
    exact (matches_provisioned P ok plain f t cred p hp).2 ⟨h1, h2⟩

theorem accept_write_congr (P : Prims) (b : Bool) (st : Store) (key : Str) (r : Rec) (h : Str)
    (hst : st key = some r) (hc : ∀ q, credOK P b h q = credOK P b r.password q) (u q : Str) :
    accept P b (st.write key { r with password := h }) u q = accept P b st u q := by
  rw [Bool.eq_iff_iff, C25_iff, C25_iff]
  by_cases hk : P.lower u = key
  · simp [Store.write, hk, hst, ← credOK_iff, hc]
  · simp [Store.write, hk]

theorem credOK_migrated (P : Prims) (ok : PrimsOK P) (b b' : Bool) (hbb : b = true → b' = true)
    (c p h : Str) (hleg : isBcryptHash c = false) (hok : credOK P b c p = true)
    (hh : P.bcryptHash p = some h) (q : Str) :
    credOK P b' h q = credOK P b' c q := by
  rw [Bool.eq_iff_iff, credOK_iff, credOK_iff]
  rw [credOK_iff] at hok
  unfold Matches at *
  have hb := ok.bcrypt_prefix p h hh
  simp only [hb, if_true, hleg, Bool.false_eq_true, if_false, ok.bcrypt_correct p h q hh] at *
  by_cases hq : isBraced c = true
  · rw [if_pos hq] at hok ⊢
    rw [hok.2, ok.sha_eq_iff]
    exact ⟨fun e => ⟨hbb hok.1, e⟩, And.right⟩
  · rw [if_neg hq] at hok ⊢
    rw [hok, ok.sha_eq_iff]

/-- one login attempt (whatever its outcome, under setting `b`) leaves every answer under setting `b'`
    unchanged, provided `b = true → b' = true`: a {quoted} credential migrates only under `b = true`, and the
    migrated hash must then be judged with plaintext enabled -/
theorem C25_migration_step (P : Prims) (ok : PrimsOK P) (b b' : Bool) (hbb : b = true → b' = true)
    (st : Store) (u p u' p' : Str) :
    accept P b' (step P st (b, u, p)) u' p' = accept P b' st u' p' := by
  unfold step validate
  by_cases he : u = [] ∨ p = []
  · simp [he]
  · simp only [he, if_false]
    cases hs : st (P.lower u) with
    | none => rfl
    | some r =>
      simp only
      by_cases hm : (!isBcryptHash r.password && credOK P b r.password p) = true
      · simp only [hm, if_true]
        simp only [Bool.and_eq_true, Bool.not_eq_true'] at hm
        unfold migrate
        cases hh : P.bcryptHash p with
        | none => rfl
        | some h =>
          exact accept_write_congr P b' st (P.lower u) r h hs
            (fun q => credOK_migrated P ok b b' hbb r.password p h hm.1 hm.2 hh q) u' p'
      · simp [hm]

/-- MAIN (histories): after ANY history of login attempts — successful or not, any users, any passwords,
    the plaintext setting possibly changing between attempts — the set of accepted (user, password) pairs
    under setting `b'` is the one before the history, as long as every attempt made with plaintext enabled is
    judged with plaintext enabled (b' = true, or the whole history ran with plaintext disabled). -/
theorem C25_migration_invariant (P : Prims) (ok : PrimsOK P) (b' : Bool) (hist : List Login)
    (hbb : ∀ e ∈ hist, e.1 = true → b' = true) (st : Store) (u' p' : Str) :
    accept P b' (run P st hist) u' p' = accept P b' st u' p' := by
  induction hist generalizing st with
  | nil => rfl
  | cons e rest ih =>
    have h1 := ih (fun e' he' => hbb e' (List.mem_cons_of_mem _ he')) (step P st e)
    obtain ⟨b, u, p⟩ := e
    have h2 := C25_migration_step P ok b b' (hbb (b, u, p) List.mem_cons_self) st u p u' p'
    simp only [run, List.foldl_cons] at *
    rw [h1, h2]

/-- corollary: with a fixed plaintext setting the accept set never changes -/
theorem C25_migration_invariant_fixed (P : Prims) (ok : PrimsOK P) (b : Bool) (hist : List (Str × Str))
    (st : Store) (u' p' : Str) :
    accept P b (run P st (hist.map fun e => (b, e.1, e.2))) u' p' = accept P b st u' p' := by
  apply C25_migration_invariant P ok
  intro e he
  simp only [List.mem_map] at he
  obtain ⟨_, _, rfl⟩ := he
  exact id

/-- after a legacy match whose re-hash succeeds the stored credential is a bcrypt hash, the permissions are
    kept, and no other user is touched -/
theorem C25_migrated_store (P : Prims) (ok : PrimsOK P) (b : Bool) (st : Store) (u p : Str) (r : Rec) (h : Str)
    (hu : u ≠ []) (hp : p ≠ []) (hs : st (P.lower u) = some r) (hleg : isBcryptHash r.password = false)
    (hm : credOK P b r.password p = true) (hh : P.bcryptHash p = some h) :
    step P st (b, u, p) (P.lower u) = some ⟨h, r.perms⟩ ∧ isBcryptHash h = true ∧
      ∀ k, k ≠ P.lower u → step P st (b, u, p) k = st k := by
  have he : ¬ (u = [] ∨ p = []) := by rintro (h | h) <;> contradiction
  have hw : step P st (b, u, p) = st.write (P.lower u) ⟨h, r.perms⟩ := by
    simp [step, validate, he, hs, hleg, hm, migrate, hh]
  rw [hw]
  exact ⟨if_pos rfl, ok.bcrypt_prefix p h hh, fun k hk => if_neg hk⟩

/-- a wrong password (for the stored format) never writes to the store -/
theorem C25_no_write_on_mismatch (P : Prims) (b : Bool) (st : Store) (u p : Str)
    (hm : ∀ r, st (P.lower u) = some r → credOK P b r.password p = false) :
    step P st (b, u, p) = st := by
  unfold step validate
  by_cases he : u = [] ∨ p = []
  · simp [he]
  · simp only [he, if_false]
    cases hs : st (P.lower u) with
    | none => rfl
    | some r => simp [hm r hs]

/-! ### Non-vacuity: the hypotheses are satisfiable and every implication has a live instance -/

def toy : Prims where
  lower := fun s => s.map lowerByte
  sha := fun a => 0x68 :: a
  bcryptMatch := fun h q => h == pfx2a ++ q
  bcryptHash := fun p => some (pfx2a ++ p)

/-- the hypotheses bundle `PrimsOK` is satisfiable -/
theorem C25_hypotheses_satisfiable : PrimsOK toy where
  bcrypt_correct p h q hh := by cases hh; simp [toy]
  bcrypt_prefix p h hh := by cases hh; rfl
  sha_inj a b h := (List.cons.inj h).2
  sha_shape a := ⟨rfl, rfl⟩

/-- ASCII text as bytes (kernel-reducible, unlike `String.toUTF8`) -/
def bs (cs : List Char) : Str := cs.map fun c => UInt8.ofNat c.toNat

def sAlice : Str := (bs ['a', 'l', 'i', 'c', 'e'])
def sALICE : Str := (bs ['A', 'L', 'I', 'C', 'E'])
def sPw : Str := (bs ['S', 'e', 'c', 'r', 'e', 't', '1'])
def sPwLower : Str := (bs ['s', 'e', 'c', 'r', 'e', 't', '1'])

/-- one user per stored format; `carol` holds no logon/root permission -/
def toyStore : Store := fun n =>
  if n = sAlice then some ⟨toy.sha sPw, [(bs ['E', 'G', 'O', '.', 'L', 'o', 'g', 'o', 'n'])]⟩
  else if n = (bs ['b', 'o', 'b']) then some ⟨lbrace :: (sPw ++ [rbrace]), [rootPerm]⟩
  else if n = (bs ['c', 'a', 'r', 'o', 'l']) then some ⟨toy.sha sPw, [(bs ['e', 'g', 'o', '.', 'l', 'o', 'g', 'o', 'n', 'x'])]⟩
  else if n = (bs ['d', 'a', 'v', 'e']) then some ⟨pfx2a ++ sPw, [logonPerm]⟩
  else none

-- C25_exact's hypotheses are met (user given in upper case, legacy SHA format) and both directions are live
example : toyStore (toy.lower sALICE) = some ⟨toy.sha sPw, [(bs ['E', 'G', 'O', '.', 'L', 'o', 'g', 'o', 'n'])]⟩ := by
  decide
example : Provisioned toy .sha sPw (toy.sha sPw) := rfl
example : accept toy false toyStore sALICE sPw = true := by decide
example : accept toy false toyStore sALICE sPwLower = false := by decide
example : accept toy false toyStore (bs ['b', 'o', 'b']) sPw = false := by decide      -- {quoted}, plaintext off
example : accept toy true toyStore (bs ['b', 'o', 'b']) sPw = true := by decide
example : accept toy true toyStore (bs ['c', 'a', 'r', 'o', 'l']) sPw = false := by decide     -- no logon/root
example : accept toy true toyStore (bs ['d', 'a', 'v', 'e']) sPw = true := by decide
-- the migration really rewrites the store (C25_migration_step is not about an identity function) …
example : step toy toyStore (false, sALICE, sPw) sAlice = some ⟨pfx2a ++ sPw, [(bs ['E', 'G', 'O', '.', 'L', 'o', 'g', 'o', 'n'])]⟩ := by
  decide
-- … even for a user who is then rejected for lack of permission
example : step toy toyStore (true, (bs ['c', 'a', 'r', 'o', 'l']), sPw) (bs ['c', 'a', 'r', 'o', 'l'])
    = some ⟨pfx2a ++ sPw, [(bs ['e', 'g', 'o', '.', 'l', 'o', 'g', 'o', 'n', 'x'])]⟩ := by decide
-- the side condition of C25_migration_invariant is needed: migrating a {quoted} credential with plaintext
-- enabled makes the password usable after plaintext is disabled again (documented one-time migration)
example : accept toy false toyStore (bs ['b', 'o', 'b']) sPw = false ∧
    accept toy false (step toy toyStore (true, (bs ['b', 'o', 'b']), sPw)) (bs ['b', 'o', 'b']) sPw = true := by decide

/-- the bcrypt hypothesis is NECESSARY for the migration invariant: with a bcrypt whose verification accepts
    a second password (what real bcrypt does for passwords agreeing on the cyclic 72-byte key: `p` vs
    `p ++ [0] ++ p`, or two passwords with the same first 72 bytes), upgrading a SHA-256 credential widens the
    accept set.  The harness probes exactly these classes on the real library. -/
def collide : Prims := { toy with bcryptMatch := fun h q => h == pfx2a ++ q.take 7 }

theorem C25_migration_needs_exact_bcrypt :
    accept collide false toyStore sAlice (sPw ++ [0x78]) = false ∧
    accept collide false (step collide toyStore (false, sAlice, sPw)) sAlice (sPw ++ [0x78]) = true := by
  decide

end EgoVerif.C25
