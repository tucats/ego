import EgoVerif.C44.Model
/-
C44 — theorems.  Settings: `covers rules sp` is a decidable check on a rule LIST, and `covers_sound` shows
that a list passing it elides EVERY name (any string, ASCII case variants included) the specification calls
secret-bearing; the lists regenerated from the source on every run are discharged in the generated
obligation by `decide` on `covers`.  Records: `C44_structs`.
-/
namespace EgoVerif.C44

/-- `foldCanon` and `goLower` differ from `asciiLower` only on two runes outside ASCII each -/
theorem lower_of_asciiLower {c : Char} (hc : (asciiLower c).toNat < 128) {k₁ k₂ : Nat} (h₁ : 128 ≤ k₁) (h₂ : 128 ≤ k₂)
    (a b : Char) :
    (if isUpper c then Char.ofNat (c.toNat + 32) else if c.toNat = k₁ then a else if c.toNat = k₂ then b else c) =
      asciiLower c := by
  unfold asciiLower at hc ⊢
  split
  · rfl
  · rw [if_neg ‹_›] at hc
    rw [if_neg (by omega), if_neg (by omega)]

theorem map_lower {f : Char → Char} (hf : ∀ c, (asciiLower c).toNat < 128 → f c = asciiLower c) {n : List Char}
    (hs : allAscii (n.map asciiLower) = true) : n.map f = n.map asciiLower :=
  List.map_congr_left fun c hc =>
    hf c (by simpa [allAscii] using List.all_eq_true.mp hs _ (List.mem_map_of_mem hc))

theorem isPrefix_eq (p l : List Char) : isPrefix p l = p.isPrefixOf l := by
  fun_induction isPrefix p l <;> simp [List.isPrefixOf, *]

theorem isInfix_iff {p l : List Char} : isInfix p l = true ↔ p <:+: l := by
  induction l with
  | nil => simp [isInfix, isPrefix_eq]
  | cons c cs ih => simp [isInfix, isPrefix_eq, List.infix_cons_iff, ih]

theorem infix_lower {p l : List Char} (hp : allAscii p = true) (h : isInfix p (l.map asciiLower) = true) :
    isInfix p (l.map goLower) = true := by
  rw [isInfix_iff] at h ⊢
  obtain ⟨m, hm, rfl⟩ := List.infix_map_iff.mp h
  rw [← map_lower (f := goLower) (fun _ hc => lower_of_asciiLower hc (by decide) (by decide) 'k' 'i') hp]
  exact hm.map goLower

/-! ### the unbounded part: a covering rule list elides every secret-bearing name -/

theorem hit_of_coversName {r : Rule} {n : List Char} (hs : allAscii (n.map asciiLower) = true)
    (hc : r.coversName (n.map asciiLower) = true) : r.hit n = true := by
  cases r with
  | eqFold t =>
    simp only [Rule.coversName, beq_iff_eq] at hc
    simp only [Rule.hit, beq_iff_eq, hc]
    exact map_lower (f := foldCanon) (fun _ hc => lower_of_asciiLower hc (by decide) (by decide) 'k' 's') hs
  | contains t => cases hc
  | containsLower t =>
    simp only [Rule.coversName, Bool.and_eq_true] at hc
    exact infix_lower hc.1 hc.2

theorem hit_of_coversSub {r : Rule} {s n : List Char} (hs : allAscii s = true)
    (he : isInfix s (n.map asciiLower) = true) (hc : r.coversSub s = true) : r.hit n = true := by
  cases r with
  | eqFold t => cases hc
  | contains t => cases hc
  | containsLower t =>
    simp only [Rule.coversSub, beq_iff_eq] at hc
    exact infix_lower (hc ▸ hs) (hc ▸ he)

theorem covers_sound (rules : List Rule) (sp : Spec) (h : covers rules sp = true)
    (n : List Char) (hn : isSecret sp n = true) : elide rules n = true := by
  simp only [covers, Bool.and_eq_true, List.all_eq_true, List.any_eq_true] at h
  simp only [isSecret, Bool.or_eq_true, List.any_eq_true, beq_iff_eq] at hn
  simp only [elide, List.any_eq_true]
  rcases hn with ⟨s, hs, he⟩ | ⟨s, hs, he⟩
  · obtain ⟨ha, r, hr, hc⟩ := h.1 s hs
    exact ⟨r, hr, hit_of_coversName (he ▸ ha) (he ▸ hc)⟩
  · obtain ⟨ha, r, hr, hc⟩ := h.2 s hs
    exact ⟨r, hr, hit_of_coversSub ha he hc⟩

theorem not_covers {rules : List Rule} {sp : Spec} {n : List Char} (hs : isSecret sp n = true)
    (he : elide rules n = false) : covers rules sp = false :=
  Bool.eq_false_iff.mpr fun h => Bool.false_ne_true (he.symm.trans (covers_sound rules sp h n hs))

/-- For ANY two rule lists that cover the specification (the decidable check `covers`), every secret-bearing setting
    name — every string, every ASCII case variant — is elided by both configuration endpoints. -/
theorem C44_settings_param (single all : List Rule)
    (hs : covers single spec = true) (ha : covers all spec = true) :
    ∀ name : String, isSecretSetting name = true →
      elide single name.toList = true ∧ elide all name.toList = true :=
  fun name h => ⟨covers_sound single spec hs name.toList h, covers_sound all spec ha name.toList h⟩

theorem fixedRules_cover : covers fixedRules spec = true := by decide +kernel

/-- The repaired code (one predicate, `secretSetting`, used by both endpoints). -/
theorem C44_settings : ∀ name : String, isSecretSetting name = true →
    elideSingle name = true ∧ elideAll name = true :=
  C44_settings_param fixedRules fixedRules fixedRules_cover fixedRules_cover

/-- Semantic reading: the response of a configuration endpoint does not depend on the value of any secret-bearing
    setting — two stores that agree on every non-secret name give the same response for every list of keys. -/
theorem C44_settings_noninterference (rules : List Rule) (hc : covers rules spec = true)
    (keys : List String) (σ σ' : String → String)
    (hag : ∀ k, isSecretSetting k = false → σ k = σ' k) :
    respond rules keys σ = respond rules keys σ' := by
  unfold respond
  apply List.map_congr_left
  intro k _
  cases hs : isSecretSetting k with
  | true => simp [covers_sound rules spec hc k.toList hs]
  | false => simp [hag k hs]

/-- The unrepaired single-setting endpoint returns the refresh token (and does not have a substring rule at all). -/
theorem C44_settings_counterexample_single :
    isSecretSetting "ego.logon.refresh.token" = true ∧ elide origSingle "ego.logon.refresh.token".toList = false ∧
    isSecretSetting "ego.database.password" = true ∧ elide origSingle "ego.database.password".toList = false := by
  -- `decide` evaluates in the elaborator, where `String.toList` of a literal decodes its UTF-8 bytes one by one, which
  -- is slow.  So the tables are unfolded until every literal stands under `String.toList`; a literal unfolds to
  -- `String.ofList` of its characters, and `toList_ofList` yields them as written.
  simp only [isSecretSetting, isSecret, spec, elide, origSingle, Rule.hit, List.any_cons, List.any_nil]
  repeat rw [String.toList_ofList]
  decide

/-- The unrepaired all-settings endpoint returns the OAuth client secret, the user-database key, the default
    credential, and a `…PASSWORD` spelled in upper case (its `strings.Contains` is case-sensitive). -/
theorem C44_settings_counterexample_all :
    isSecretSetting "ego.server.oauth.client.secret" = true ∧ elide origAll "ego.server.oauth.client.secret".toList = false ∧
    isSecretSetting "ego.server.userdata.key" = true ∧ elide origAll "ego.server.userdata.key".toList = false ∧
    isSecretSetting "ego.server.default.credential" = true ∧ elide origAll "ego.server.default.credential".toList = false ∧
    isSecretSetting "x.PASSWORD" = true ∧ elide origAll "x.PASSWORD".toList = false := by
  decide +kernel

/-- What the unrepaired lists do guarantee: the three token settings common to both lists, in any ASCII case. -/
def origSpec : Spec := { names := ["ego.server.token.key", "ego.server.token", "ego.logon.token"], subs := [] }

theorem C44_settings_orig_partial : ∀ name : String, isSecret origSpec name.toList = true →
    elide origSingle name.toList = true ∧ elide origAll name.toList = true := by
  have hc : covers origSingle origSpec = true ∧ covers origAll origSpec = true := by
    simp only [covers, origSingle, origAll, origSpec, Rule.coversName, Rule.coversSub, List.all_cons, List.all_nil,
      List.any_cons, List.any_nil]
    repeat rw [String.toList_ofList]
    decide
  exact fun name h => ⟨covers_sound _ _ hc.1 _ h, covers_sound _ _ hc.2 _ h⟩

/-! non-vacuity: the hypotheses are met by non-trivial instances -/
example : isSecretSetting "EGO.Server.Token.KEY" = true := by
  simp only [isSecretSetting, isSecret, spec, List.any_cons, List.any_nil]
  repeat rw [String.toList_ofList]
  decide
example : isSecretSetting "my.db.PassWord.file" = true := by
  simp only [isSecretSetting, isSecret, spec, List.any_cons, List.any_nil]
  repeat rw [String.toList_ofList]
  decide
example : isSecretSetting "ego.server.token.expiration" = false := by
  simp only [isSecretSetting, isSecret, spec, List.any_cons, List.any_nil]
  repeat rw [String.toList_ofList]
  decide
example : elideSingle "Ego.Logon.Refresh.Token" = true := by
  simp only [elideSingle, elide, fixedRules, Rule.hit, List.any_cons, List.any_nil]
  repeat rw [String.toList_ofList]
  decide
example : elideAll "ego.compiler.optimize" = false := by
  simp only [elideAll, elide, fixedRules, Rule.hit, List.any_cons, List.any_nil]
  repeat rw [String.toList_ofList]
  decide
example : elide fixedRules "ego.server.toKen.key".toList = true := by   -- EqualFold folds KELVIN SIGN to k
  simp only [elide, fixedRules, Rule.hit, List.any_cons, List.any_nil]
  repeat rw [String.toList_ofList]
  decide
example : covers origSingle spec = false :=
  not_covers C44_settings_counterexample_single.1 C44_settings_counterexample_single.2.1
example : covers origAll spec = false :=
  not_covers C44_settings_counterexample_all.1 C44_settings_counterexample_all.2.1

theorem filterMap_congr {α β : Type} (f g : α → Option β) (l : List α) (h : ∀ x ∈ l, f x = g x) :
    l.filterMap f = l.filterMap g := by
  induction l with
  | nil => rfl
  | cons a as ih => simp only [List.filterMap_cons, h a (by simp), ih fun x hx => h x (by simp [hx])]

/-- A site that passes `Site.ok` sends the same response for any two stored records that agree on the
    non-secret fields: no secret-typed field of the store influences the response. -/
theorem C44_structs (s : Site) (hok : s.ok = true) (σ σ' : String → String)
    (hag : ∀ l ∈ s.leaves, l.secret = false → σ l.path = σ' l.path) :
    s.render σ = s.render σ' := by
  unfold Site.render
  apply filterMap_congr
  intro l hl
  have hlok : l.ok = true := List.all_eq_true.mp hok l hl
  unfold Leaf.render
  cases hd : l.disp with
  | elided | sanitized | omitted => rfl
  | copied | raw =>
    cases hsec : l.secret with
    | false => simp [hag l hl hsec]
    | true => simp [Leaf.ok, hsec, hd] at hlok

/-- a raw secret leaf is observable: the two renders differ as soon as the stored secrets differ -/
theorem C44_structs_raw_leaks (p : String) (σ σ' : String → String) (h : σ p ≠ σ' p) :
    (Site.mk "leaky" [⟨p, true, .raw⟩]).render σ ≠ (Site.mk "leaky" [⟨p, true, .raw⟩]).render σ' := by
  simp [Site.render, Leaf.render, h]

example : (Site.mk "GetDSNHandler" [⟨"$.Name", false, .copied⟩, ⟨"$.Password", true, .elided⟩]).ok = true := by decide
example : (Site.mk "leaky" [⟨"$.Password", true, .raw⟩]).ok = false := by decide

end EgoVerif.C44
