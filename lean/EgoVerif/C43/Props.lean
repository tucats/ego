import EgoVerif.C43.Model
/-
C43 — theorems.  The decisions are proved once about `authorizedCore`, `authDSNCore` and `rowCore`; the file DSN service is these
applied to what `readDSN` answers (by `rfl`), the database DSN service is these applied to the stored row (the cache
being a memo, `dbReadDSN_spec`).
-/
namespace EgoVerif.C43

theorem isFor_iff (r : Rec) (u d t : Name) :
    r.isFor u d t = true ↔ r.user = u ∧ r.dsn = d ∧ r.table = t := by
  simp only [Rec.isFor, Bool.and_eq_true, decide_eq_true_eq]
  exact ⟨fun ⟨⟨h1, h2⟩, h3⟩ => ⟨h3, h1, h2⟩, fun ⟨h1, h2, h3⟩ => ⟨⟨h2, h3⟩, h1⟩⟩

theorem mem_lookup (ps : List Rec) (u d t : Name) (r : Rec) :
    r ∈ lookup ps u d t ↔ r ∈ ps ∧ r.user = u ∧ r.dsn = d ∧ r.table = t := by
  rw [lookup, List.mem_filter, isFor_iff]

theorem isFor_other {r : Rec} {u d t u' d' t' : Name} (h : (u', d', t') ≠ (u, d, t))
    (hr : r.isFor u' d' t' = true) : r.isFor u d t = false := by
  refine Bool.eq_false_iff.2 fun hk => h ?_
  rw [isFor_iff] at hr hk
  rw [← hr.1, ← hr.2.1, ← hr.2.2, hk.1, hk.2.1, hk.2.2]

theorem emptyRec_isFor (u d t : Name) : (emptyRec u d t).isFor u d t = true :=
  (isFor_iff _ u d t).2 ⟨rfl, rfl, rfl⟩

theorem fullRec_isFor (u d t : Name) : (fullRec u d t).isFor u d t = true :=
  (isFor_iff _ u d t).2 ⟨rfl, rfl, rfl⟩

theorem set_isFor (r : Rec) (p : Perm) (v : Bool) (u d t : Name) : (r.set p v).isFor u d t = r.isFor u d t := by
  cases p <;> rfl

theorem applyKey_isFor {r r' : Rec} {k : Name} (h : applyKey r k = some r') (u d t : Name) :
    r'.isFor u d t = r.isFor u d t := by
  unfold applyKey at h
  split at h
  split at h
  · injection h with h; subst h; exact set_isFor _ _ _ u d t
  · cases h

theorem applyKeys_isFor {r r' : Rec} {ks : List Name} (h : applyKeys r ks = some r') (u d t : Name) :
    r'.isFor u d t = r.isFor u d t := by
  induction ks generalizing r with
  | nil => injection h with h; rw [h]
  | cons k ks ih =>
    simp only [applyKeys] at h
    split at h
    · rename_i r1 h1; rw [ih h, applyKey_isFor h1]
    · cases h

theorem lookup_append (ps qs : List Rec) (u d t : Name) :
    lookup (ps ++ qs) u d t = lookup ps u d t ++ lookup qs u d t :=
  List.filter_append ..

theorem lookup_snoc_other (ps : List Rec) {r : Rec} {u d t u' d' t' : Name} (h : (u', d', t') ≠ (u, d, t))
    (hr : r.isFor u' d' t' = true) : lookup (ps ++ [r]) u d t = lookup ps u d t := by
  have : lookup [r] u d t = [] := List.filter_cons_of_neg (Bool.eq_false_iff.1 (isFor_other h hr))
  rw [lookup_append, this, List.append_nil]

theorem isFor_congr {r r' : Rec} {u' d' t' : Name} (hr : r.isFor u' d' t' = true) (hr' : r'.isFor u' d' t' = true)
    (u d t : Name) : r'.isFor u d t = r.isFor u d t := by
  rw [isFor_iff] at hr hr'
  rw [Rec.isFor, Rec.isFor, hr.1, hr.2.1, hr.2.2, hr'.1, hr'.2.1, hr'.2.2]

/-- the `map` is the write-back of GrantPermissions (`pHandle.Update` by id, see `grant`) -/
theorem lookup_map_replace (ps : List Rec) {item : Rec} {u' d' t' : Name} (hi : item.isFor u' d' t' = true)
    (u d t : Name) :
    lookup (ps.map fun r => if r.isFor u' d' t' then item else r) u d t =
      (lookup ps u d t).map fun r => if r.isFor u' d' t' then item else r := by
  rw [lookup, List.filter_map]
  refine congrArg _ (List.filter_congr fun r _ => ?_)
  show (if r.isFor u' d' t' then item else r).isFor u d t = r.isFor u d t
  split
  · next hr => exact isFor_congr hr hi u d t
  · rfl

theorem grant_item_isFor {ps : List Rec} {u d t : Name} {ks : List Name} {item' : Rec}
    (h : applyKeys ((lookup ps u d t).headD (emptyRec u d t)) ks = some item') : item'.isFor u d t = true := by
  rw [applyKeys_isFor h]
  cases hl : lookup ps u d t with
  | nil => exact emptyRec_isFor u d t
  | cons r rs => exact (isFor_iff ..).2 ((mem_lookup ..).1 (hl ▸ List.mem_cons_self)).2

theorem lookup_grant_other (ps : List Rec) (keys : List Name) {u d t u' d' t' : Name}
    (h : (u', d', t') ≠ (u, d, t)) :
    lookup (grant ps u' d' t' keys).1 u d t = lookup ps u d t := by
  have h1 : lookup (if (lookup ps u' d' t').isEmpty then ps ++ [emptyRec u' d' t'] else ps) u d t
      = lookup ps u d t := by
    split
    · exact lookup_snoc_other ps h (emptyRec_isFor u' d' t')
    · rfl
  unfold grant
  split
  · rfl
  · dsimp only
    split
    · exact h1
    · split
      · exact h1
      · rename_i item' hk
        rw [lookup_map_replace _ (grant_item_isFor hk), h1]
        exact (List.map_congr_left fun r hr =>
          if_neg (Bool.eq_false_iff.1 (isFor_other h.symm (List.mem_filter.1 hr).2))).trans (List.map_id' _)

theorem lookup_create_other (ps : List Rec) {u d t u' d' t' : Name} (h : (u', d', t') ≠ (u, d, t)) :
    lookup (create ps u' d' t') u d t = lookup ps u d t :=
  lookup_snoc_other ps h (fullRec_isFor u' d' t')

theorem lookup_filter (ps : List Rec) (f : Rec → Bool) (u d t : Name) :
    lookup (ps.filter f) u d t = (lookup ps u d t).filter f := by
  simp only [lookup, List.filter_filter, Bool.and_comm]

theorem lookup_filter_nil (ps : List Rec) (f : Rec → Bool) {u d t : Name} (h : lookup ps u d t = []) :
    lookup (ps.filter f) u d t = [] := by
  rw [lookup_filter, h]; rfl

/-- "the permission store records the matching grant": exactly one record, of exactly this user, DSN and
    table, carrying every requested operation (or admin) -/
def Recorded (ps : List Rec) (u d t : Name) (ops : List Name) : Prop :=
  ∃ r, lookup ps u d t = [r] ∧ ∀ op ∈ ops, r.permits (opOfName op) = true

theorem authorized_eq_core (st : St) (su : Name) (sa : Bool) (u d t : Name) (ops : List Name) :
    authorized st su sa u d t ops = authorizedCore (readDSN st d) st.perms su sa u d t ops := rfl

theorem authDSN_eq_core (st : St) (u n : Name) (a : Act) :
    authDSN st u n a = authDSNCore (readDSN st n) (st.auth.lookup (authKey u n)) a := rfl

theorem rowRequest_eq_core (st : St) (u : Name) (adm : Bool) (idp : Act) (op : RowOp) (d t : Name) :
    rowRequest st u adm idp op d t =
      rowCore (readDSN st d) adm (identityAuthorizes idp op.action) (authDSN st u d op.action)
        (authorized st u adm u d t [op.perm]) := rfl

theorem rowRequestTx_eq_core (st : St) (u : Name) (adm : Bool) (op : RowOp) (r : Bool) (d t : Name) :
    rowRequestTx st u adm op r d t = rowCore (some r) adm true true (authorized st u adm u d t [op.perm]) := by
  cases adm <;> rfl

theorem authorizedCore_congr {ps ps' : List Rec} {u d t : Name} (h : lookup ps' u d t = lookup ps u d t)
    (rd : Option Bool) (su : Name) (sa : Bool) (ops : List Name) :
    authorizedCore rd ps' su sa u d t ops = authorizedCore rd ps su sa u d t ops := by
  unfold authorizedCore; rw [h]

theorem authorizedCore_iff (ps : List Rec) (su : Name) (sa : Bool) (u d t : Name) (ops : List Name)
    (hna : ¬(u = su ∧ sa = true)) :
    authorizedCore (some true) ps su sa u d t ops = true ↔ Recorded ps u d t ops := by
  unfold authorizedCore Recorded
  rw [if_neg hna]
  simp only [Bool.not_true, Bool.false_eq_true, if_false]
  cases lookup ps u d t with
  | nil => simp
  | cons r rs =>
    cases rs with
    | nil => simp [List.all_eq_true]
    | cons r2 rs => simp

theorem authDSNCore_iff (e : Option Act) (a : Act) :
    authDSNCore (some true) e a = true ↔ ∃ v, e = some v ∧ v.meets a = true := by
  cases e <;> simp [authDSNCore]

theorem rowCore_pass : ∀ {idOK dsnOK tblOK : Bool}, rowCore (some true) false idOK dsnOK tblOK = .pass →
    (idOK = true ∨ dsnOK = true) ∧ tblOK = true := by decide

theorem rowCore_admin (r idOK dsnOK tblOK : Bool) : rowCore (some r) true idOK dsnOK tblOK = .pass := by
  cases r <;> rfl

/-- C43, main statement: on a restricted DSN, for a caller that is not (the administrator acting for itself),
    Authorized says yes exactly when the store records the matching grant.  Holds in every state, hence after
    every history `run st0 h`. -/
theorem C43_iff (st : St) (su : Name) (sa : Bool) (u d t : Name) (ops : List Name)
    (hr : readDSN st d = some true) (hna : ¬(u = su ∧ sa = true)) :
    authorized st su sa u d t ops = true ↔ Recorded st.perms u d t ops := by
  rw [authorized_eq_core, hr]; exact authorizedCore_iff _ su sa u d t ops hna

/-- … in particular after every history from every starting state -/
theorem C43_iff_history (st0 : St) (h : List Op) (su : Name) (sa : Bool) (u d t : Name) (ops : List Name)
    (hr : readDSN (run st0 h) d = some true) (hna : ¬(u = su ∧ sa = true)) :
    authorized (run st0 h) su sa u d t ops = true ↔ Recorded (run st0 h).perms u d t ops :=
  C43_iff _ su sa u d t ops hr hna

theorem Recorded_exact {ps : List Rec} {u d t : Name} {ops : List Name} (h : Recorded ps u d t ops) :
    ∃ r ∈ ps, r.user = u ∧ r.dsn = d ∧ r.table = t ∧ ∀ op ∈ ops, r.permits (opOfName op) = true := by
  obtain ⟨r, hl, hp⟩ := h
  obtain ⟨hm, hu, hd, ht⟩ := (mem_lookup ..).1 (hl ▸ List.mem_cons_self)
  exact ⟨r, hm, hu, hd, ht, hp⟩

/-- unrestricted DSNs and administrators are not limited -/
theorem C43_unrestricted_admin_unlimited (st : St) (su : Name) (sa : Bool) (u d t : Name) (ops : List Name) :
    (sa = true → authorized st su sa su d t ops = true) ∧
    (readDSN st d = some false → authorized st su sa u d t ops = true) ∧
    (∀ idp op, readDSN st d ≠ none → rowRequest st u true idp op d t = .pass) := by
  refine ⟨fun h => if_pos ⟨rfl, h⟩, fun h => ?_, fun idp op h => ?_⟩
  · unfold authorized; rw [h]; split <;> rfl
  · cases hd : readDSN st d with
    | none => exact absurd hd h
    | some r => exact (rowRequest_eq_core ..).trans (hd ▸ rowCore_admin ..)

/-- does the operation write a grant for exactly (u,d,t)? -/
def Op.grantsTo (u d t : Name) : Op → Prop
  | .grant u' d' t' _ => (u', d', t') = (u, d, t)
  | .create u' d' t' => (u', d', t') = (u, d, t)
  | _ => False

theorem step_perms_other (st : St) (op : Op) {u d t : Name} (h : ¬ op.grantsTo u d t)
    (h0 : lookup st.perms u d t = []) : lookup (step st op).perms u d t = [] := by
  cases op with
  | grant u' d' t' ks => exact (lookup_grant_other _ _ h).trans h0
  | create u' d' t' => exact (lookup_create_other _ h).trans h0
  | revoke d' t' u' =>
    show lookup ((revoke st.perms d' t' u').getD st.perms) u d t = []
    unfold revoke; split
    · exact lookup_filter_nil _ _ h0
    · exact h0
  | removeTable d' t' =>
    show lookup (removeTable st.perms d' t') u d t = []
    unfold removeTable; split
    · exact lookup_filter_nil _ _ h0
    · exact h0
  | deleteByDSN d' => exact lookup_filter_nil _ _ h0
  | deleteDSN n =>
    show lookup (deleteDSN st n).perms u d t = []
    unfold deleteDSN; split <;> exact h0
  | grantDSN u' n a g =>
    show lookup ((grantDSN st u' n a g).getD st).perms u d t = []
    unfold grantDSN; split <;> exact h0
  | _ => exact h0

theorem run_perms_other (st : St) (h : List Op) {u d t : Name} (hh : ∀ op ∈ h, ¬ op.grantsTo u d t)
    (h0 : lookup st.perms u d t = []) : lookup (run st h).perms u d t = [] :=
  List.foldlRecOn (motive := fun s => lookup s.perms u d t = []) h step h0
    fun s hs op hop => step_perms_other s op (hh op hop) hs

/-- C43, no cross-authorization: whatever is granted, revoked, created or removed for OTHER users, DSNs or
    tables, and whatever happens to the DSN stores, in any order and number — as long as no operation of the
    history grants to exactly (u,d,t), a non-administrator is never authorized for (u,d,t) on a restricted DSN. -/
theorem C43_no_cross (h : List Op) (su : Name) (sa : Bool) (u d t : Name) (ops : List Name)
    (hh : ∀ op ∈ h, ¬ op.grantsTo u d t) (hna : ¬(u = su ∧ sa = true))
    (hr : readDSN (run St.init h) d = some true) :
    authorized (run St.init h) su sa u d t ops = false := by
  refine Bool.eq_false_iff.2 fun ha => ?_
  obtain ⟨r, hl, -⟩ := (C43_iff _ su sa u d t ops hr hna).1 ha
  rw [run_perms_other St.init h hh rfl] at hl
  cases hl

/-- one more grant (or table creation) for a different key never changes the decision for (u,d,t) -/
theorem C43_other_key_irrelevant (st : St) (su : Name) (sa : Bool) (u d t u' d' t' : Name) (ops keys : List Name)
    (hk : (u', d', t') ≠ (u, d, t)) :
    authorized (step st (.grant u' d' t' keys)) su sa u d t ops = authorized st su sa u d t ops ∧
    authorized (step st (.create u' d' t')) su sa u d t ops = authorized st su sa u d t ops :=
  ⟨authorizedCore_congr (lookup_grant_other _ _ hk) _ su sa ops,
   authorizedCore_congr (lookup_create_other _ hk) _ su sa ops⟩

/-- a non-administrator's row request that is let through on a restricted DSN had the identity-wide or the DSN-level
    authorization for the action AND the table grant for exactly (user, dsn, table) and the handler's operation -/
theorem C43_row_pass_needs_grants (st : St) (u : Name) (idp : Act) (op : RowOp) (d t : Name)
    (hr : readDSN st d = some true) (hp : rowRequest st u false idp op d t = .pass) :
    (identityAuthorizes idp op.action = true ∨ authDSN st u d op.action = true) ∧
    Recorded st.perms u d t [op.perm] := by
  rw [rowRequest_eq_core, hr] at hp
  have h := rowCore_pass hp
  exact ⟨h.1, (C43_iff st u false u d t [op.perm] hr (fun h => Bool.noConfusion h.2)).1 h.2⟩

/-! ### the "dsn.table" split of the code before fixes/C43.patch -/

theorem splitFirst_append (c : Char) (a b : Name) (h : c ∉ a) : splitFirst c (a ++ c :: b) = some (a, b) := by
  induction a with
  | nil => simp [splitFirst]
  | cons x xs ih =>
    have hx : x ≠ c := fun e => h (by simp [e])
    have hxs : c ∉ xs := fun m => h (List.mem_cons_of_mem _ m)
    simp [splitFirst, hx, ih hxs]

/-- the state of the counterexample: restricted DSNs "a" and "a.b"; user "x" may read table "b.c" of DSN "a" -/
def cexSt : St :=
  ⟨[(['a'], true), (['a', '.', 'b'], true)], [],
   [⟨['x'], ['a'], ['b', '.', 'c'], false, true, false, false, false⟩]⟩

/-- the old code authorizes user x to read table "c" of DSN "a.b" on the strength of the grant for table "b.c"
    of DSN "a" (the store records NO grant for (x, a.b, c)); the fixed code refuses -/
theorem C43_split_counterexample :
    authorizedOld cexSt ['x'] false ['x'] (['a', '.', 'b'] ++ '.' :: ['c']) [nRead] = true ∧
    lookup cexSt.perms ['x'] ['a', '.', 'b'] ['c'] = [] ∧
    authorized cexSt ['x'] false ['x'] ['a', '.', 'b'] ['c'] [nRead] = false := by decide +kernel

/-- … and an UNRESTRICTED DSN "a" opens every table of the restricted DSN "a.b" to everybody -/
theorem C43_split_counterexample_unrestricted :
    authorizedOld ⟨[(['a'], false), (['a', '.', 'b'], true)], [], []⟩ ['x'] false ['x']
      (['a', '.', 'b'] ++ '.' :: ['c']) [nRead] = true := by decide

/-- the old code is right for every DSN name without a dot (whatever the table name) -/
theorem C43_split_partial (st : St) (su : Name) (sa : Bool) (u d t : Name) (ops : List Name) (h : '.' ∉ d) :
    authorizedOld st su sa u (d ++ '.' :: t) ops = authorized st su sa u d t ops := by
  simp only [authorizedOld, splitFirst_append _ _ _ h]

/-! ### DSN-level grants (file DSN service) -/

theorem C43_authdsn_iff (st : St) (u n : Name) (act : Act) (hr : readDSN st n = some true) :
    authDSN st u n act = true ↔ ∃ v, st.auth.lookup (authKey u n) = some v ∧ v.meets act = true := by
  rw [authDSN_eq_core, hr]; exact authDSNCore_iff _ act

/-- KNOWN FINDING dsn-key-pipe: the joined key "user|dsn" is ambiguous.  After granting user "a|b" on DSN "c",
    user "a" is authorized on the restricted DSN "b|c" although nothing was granted to ("a", "b|c"). -/
theorem C43_dsnkey_counterexample :
    authDSN (run St.init [.writeDSN ['c'] true, .writeDSN ['b', '|', 'c'] true,
        .grantDSN ['a', '|', 'b'] ['c'] ⟨true, true, false⟩ true]) ['a'] ['b', '|', 'c'] ⟨true, false, false⟩ = true ∧
    ((['a'], ['b', '|', 'c']) : Name × Name) ≠ (['a', '|', 'b'], ['c']) := by decide

/-- the joined key is unambiguous among user names without '|' -/
theorem C43_dsnkey_partial (u d u' d' : Name) (h : '|' ∉ u) (h' : '|' ∉ u')
    (e : authKey u d = authKey u' d') : u = u' ∧ d = d' := by
  have a := splitFirst_append '|' u d h
  have b := splitFirst_append '|' u' d' h'
  unfold authKey at e
  rw [e, b] at a
  simpa using a.symm

theorem lookup_setKey_ne {α : Type} (m : List (Name × α)) (k k' : Name) (v : α) (h : k ≠ k') :
    (setKey m k' v).lookup k = m.lookup k := by
  have hb : (k == k') = false := beq_false_of_ne h
  unfold setKey
  cases (m.lookup k').isSome
  · rw [if_neg Bool.false_ne_true, List.lookup_append, List.lookup_cons, hb]; exact Option.or_none
  · rw [if_pos rfl]
    induction m with
    | nil => rfl
    | cons e m ih =>
      obtain ⟨a, b⟩ := e
      by_cases ha : a = k'
      · rw [List.map_cons, if_pos ha, List.lookup_cons, hb, ih, List.lookup_cons, ha, hb]
      · rw [List.map_cons, if_neg ha, List.lookup_cons, ih, List.lookup_cons]

theorem lookup_setKey_self {α : Type} (m : List (Name × α)) (k : Name) (v : α) :
    (setKey m k v).lookup k = some v := by
  unfold setKey
  split
  · rename_i h
    induction m with
    | nil => cases h
    | cons e m ih =>
      obtain ⟨a, b⟩ := e
      rw [List.map_cons]
      by_cases ha : a = k
      · rw [if_pos ha, List.lookup_cons_self]
      · have hb : (k == a) = false := beq_false_of_ne fun e => ha e.symm
        rw [List.lookup_cons, hb] at h
        rw [if_neg ha, List.lookup_cons, hb]
        exact ih h
  · rename_i h
    rw [Bool.not_eq_true, Option.isSome_eq_false_iff, Option.isNone_iff_eq_none] at h
    rw [List.lookup_append, h, List.lookup_cons_self]; rfl

theorem lookup_delKey_self {α : Type} (m : List (Name × α)) (k : Name) : (delKey m k).lookup k = none :=
  List.lookup_eq_none_iff.2 fun p hp => bne_iff_ne.2 fun e => by simpa [e] using (List.mem_filter.1 hp).2

theorem lookup_delKey_ne {α : Type} (m : List (Name × α)) (k k' : Name) (h : k ≠ k') :
    (delKey m k').lookup k = m.lookup k := by
  induction m with
  | nil => rfl
  | cons e m ih =>
    obtain ⟨a, b⟩ := e
    rw [delKey, List.filter_cons]
    by_cases ha : a = k'
    · rw [if_neg (by simp [ha]), ← delKey, ih, List.lookup_cons, ha, beq_false_of_ne h]
    · rw [if_pos (by simp [ha]), List.lookup_cons, List.lookup_cons, ← delKey, ih]

theorem step_auth_other (st : St) (op : Op) (k : Name) (h : ∀ u n a g, op = .grantDSN u n a g → authKey u n ≠ k)
    (h0 : st.auth.lookup k = none) : (step st op).auth.lookup k = none := by
  cases op with
  | grantDSN u' n a g =>
    show ((grantDSN st u' n a g).getD st).auth.lookup k = none
    unfold grantDSN
    split
    · exact h0
    · exact (lookup_setKey_ne _ _ _ _ (h u' n a g rfl).symm).trans h0
  | deleteDSN n =>
    show (deleteDSN st n).auth.lookup k = none
    unfold deleteDSN; split
    · exact List.filter_sublist.lookup_eq_none h0
    · exact h0
  | revokeAllDSN n => exact List.filter_sublist.lookup_eq_none h0
  | _ => exact h0

/-- DSN level, no cross-authorization (partial: user names without '|'): if no GrantDSN of the history is for
    exactly (u, n), user u is never authorized on the restricted DSN n -/
theorem C43_dsn_no_cross_partial (h : List Op) (u n : Name) (act : Act) (hu : '|' ∉ u)
    (hh : ∀ op ∈ h, ∀ u' n' a g, op = .grantDSN u' n' a g → '|' ∉ u' ∧ (u', n') ≠ (u, n))
    (hr : readDSN (run St.init h) n = some true) :
    authDSN (run St.init h) u n act = false := by
  -- among user names without '|' a different pair has a different joined key
  have hno : ∀ op ∈ h, ∀ u' n' a g, op = .grantDSN u' n' a g → authKey u' n' ≠ authKey u n := by
    intro op hop u' n' a g e hk
    obtain ⟨hp, hne⟩ := hh op hop u' n' a g e
    have := C43_dsnkey_partial u' n' u n hp hu hk
    exact hne (by rw [this.1, this.2])
  have hl : (run St.init h).auth.lookup (authKey u n) = none :=
    List.foldlRecOn (motive := fun s => s.auth.lookup (authKey u n) = none) h step rfl
      fun s hs op hop => step_auth_other s op _ (hno op hop) hs
  rw [authDSN_eq_core, hr, hl]; rfl

/-- effect of a successful GrantPermissions on its own key, when the key has at most one record: afterwards
    exactly one record, the old one (or the empty one) with the sorted keys applied -/
theorem C43_grant_effect (ps : List Rec) (u d t : Name) (keys : List Name) (item' : Rec)
    (hlen : (lookup ps u d t).length ≤ 1)
    (hv : (sortNames keys).all validPerm = true)
    (ha : applyKeys ((lookup ps u d t).headD (emptyRec u d t)) (sortNames keys) = some item') :
    (grant ps u d t keys).2 = .ok ∧ lookup (grant ps u d t keys).1 u d t = [item'] := by
  -- the records of the key once GrantPermissions has inserted the empty record where there was none
  have h1 : lookup (if (lookup ps u d t).isEmpty then ps ++ [emptyRec u d t] else ps) u d t
      = [(lookup ps u d t).headD (emptyRec u d t)] := by
    cases hl : lookup ps u d t with
    | nil =>
      rw [List.isEmpty_nil, if_pos rfl, lookup_append, hl]
      simp only [lookup, List.filter_cons, emptyRec_isFor, if_true, List.filter_nil, List.nil_append, List.headD_nil]
    | cons r rs =>
      cases rs with
      | nil => exact hl
      | cons r2 rs => rw [hl] at hlen; exact absurd hlen (by simp)
  unfold grant
  split
  · rename_i hl; rw [hl] at hlen; exact absurd hlen (by simp)
  · simp only [hv, ha, Bool.not_true, Bool.false_eq_true, if_false, true_and]
    rw [lookup_map_replace _ (grant_item_isFor ha), h1]
    exact congrArg (· :: []) (if_pos ((applyKeys_isFor ha u d t).symm.trans (grant_item_isFor ha)))

/-- DeletePermissionsByDSN removes every record of the DSN -/
theorem C43_deleteByDSN_effect (ps : List Rec) (u d t : Name) : lookup (deleteByDSN ps d) u d t = [] := by
  rw [deleteByDSN, lookup_filter, List.filter_eq_nil_iff]
  intro r hr
  rw [((mem_lookup ..).1 hr).2.2.1, decide_eq_true rfl]; exact Bool.false_ne_true

theorem revoke_effect (ps ps' : List Rec) (u d t : Name)
    (hu : escOpt u = some (some u)) (hd : escOpt (if d = ['@', 'a', 'l', 'l'] then [] else d) = some (some d))
    (ht : t ≠ []) (h : revoke ps d t u = some ps') :
    lookup ps' u d t = [] ∧ ∀ u' d' t', (u', d', t') ≠ (u, d, t) → lookup ps' u' d' t' = lookup ps u' d' t' := by
  -- with all three filters present the deleted records are those with `isFor u d t`
  have hps : ps' = ps.filter fun r => !r.isFor u d t := by
    unfold revoke at h
    rw [hu, hd, show rawOpt t = some t from if_neg ht] at h
    exact (Option.some.inj h).symm
  subst hps
  refine ⟨?_, fun u' d' t' hk => ?_⟩
  · rw [lookup_filter, List.filter_eq_nil_iff]
    intro r hr
    rw [(List.mem_filter.1 hr).2]; exact Bool.false_ne_true
  · rw [lookup_filter, List.filter_eq_self]
    intro r hr
    rw [isFor_other hk (List.mem_filter.1 hr).2]; rfl

/-- a revoke naming user, DSN and table (names that SQLEscape leaves alone) removes the records of exactly that key -/
theorem C43_revoke_effect (ps ps' : List Rec) (u d t : Name)
    (hu : escOpt u = some (some u)) (hd : escOpt (if d = ['@', 'a', 'l', 'l'] then [] else d) = some (some d))
    (hne : u ≠ [] ∧ d ≠ [] ∧ t ≠ []) (h : revoke ps d t u = some ps') :
    lookup ps' u d t = [] ∧ ∀ u' d' t', (u', d', t') ≠ (u, d, t) → lookup ps' u' d' t' = lookup ps u' d' t' :=
  revoke_effect ps ps' u d t hu hd hne.2.2 h

/-! ### non-vacuity: the hypotheses of the theorems are met by non-trivial instances -/

/-- a history with grants for other keys, a revoke and DSN traffic; bob reads (d, t), alice does not, bob cannot write -/
def exHist : List Op :=
  [.writeDSN ['d'] true, .grant ['b', 'o', 'b'] ['d'] ['t'] [nRead], .grant ['a', 'l'] ['d'] ['x'] [nAdmin],
   .create ['a', 'l'] ['e'] ['t'], .revoke ['d'] ['x'] [], .grantDSN ['b', 'o', 'b'] ['d'] ⟨true, false, false⟩ true]

example : readDSN (run St.init exHist) ['d'] = some true ∧
    authorized (run St.init exHist) ['b', 'o', 'b'] false ['b', 'o', 'b'] ['d'] ['t'] [nRead] = true ∧
    authorized (run St.init exHist) ['b', 'o', 'b'] false ['b', 'o', 'b'] ['d'] ['t'] [nWrite] = false ∧
    authorized (run St.init exHist) ['a', 'l'] false ['a', 'l'] ['d'] ['t'] [nRead] = false ∧
    rowRequest (run St.init exHist) ['b', 'o', 'b'] false Act.none .read ['d'] ['t'] = .pass ∧
    rowRequest (run St.init exHist) ['b', 'o', 'b'] false Act.none .delete ['d'] ['t'] = .forbidden ∧
    rowRequest (run St.init exHist) ['a', 'l'] false ⟨true, true, true⟩ .read ['d'] ['t'] = .forbidden := by decide +kernel

/-- C43_no_cross applies to exHist for alice on (d, t): no operation grants to exactly that key -/
example : ∀ op ∈ exHist, ¬ op.grantsTo ['a', 'l'] ['d'] ['t'] := by
  intro op h; simp only [exHist, List.mem_cons, List.not_mem_nil, or_false] at h
  rcases h with h | h | h | h | h | h <;> subst h <;> simp [Op.grantsTo]

/-- C43_grant_effect / C43_revoke_effect hypotheses are satisfiable -/
example : (sortNames [nWrite, '-' :: nRead]).all validPerm = true ∧
    applyKeys (emptyRec ['u'] ['d'] ['t']) (sortNames [nWrite, '-' :: nRead]) =
      some ⟨['u'], ['d'], ['t'], false, false, true, false, false⟩ ∧
    escOpt ['u'] = some (some ['u']) ∧
    escOpt (if ['d'] = ['@', 'a', 'l', 'l'] then [] else ['d']) = some (some ['d']) := by decide +kernel

/-! ### the HTTP form of a row request: neither the row format nor `?user=` changes whose grants are consulted -/

/-- rows.go hands `session.User` to every handler: the request is decided as `rowRequest` decides it, for every
    row format and every `?user=` value -/
theorem C43_row_http_eq (st : St) (u : Name) (adm : Bool) (idp : Act) (op : RowOp) (abstract : Bool)
    (quser : Option Name) (d t : Name) :
    rowRequestHTTP st u adm idp op abstract quser d t = rowRequest st u adm idp op d t := rfl

/-- `?user=` never widens what a caller may do (nor narrows it), in either row format -/
theorem C43_row_quser_irrelevant (st : St) (u : Name) (adm : Bool) (idp : Act) (op : RowOp) (a a' : Bool)
    (q q' : Option Name) (d t : Name) :
    rowRequestHTTP st u adm idp op a q d t = rowRequestHTTP st u adm idp op a' q' d t := rfl

/-- a non-administrator's row request that is let through on a restricted DSN had the CALLER's identity-wide or
    DSN-level authorization and the CALLER's table grant, whatever `?user=` names and whatever the row format -/
theorem C43_row_http_pass_needs_grants (st : St) (u : Name) (idp : Act) (op : RowOp) (abstract : Bool)
    (quser : Option Name) (d t : Name)
    (hr : readDSN st d = some true) (hp : rowRequestHTTP st u false idp op abstract quser d t = .pass) :
    (identityAuthorizes idp op.action = true ∨ authDSN st u d op.action = true) ∧
    Recorded st.perms u d t [op.perm] :=
  C43_row_pass_needs_grants st u idp op d t hr hp

/-- why `rowAuthUser` must be the session's user: a handler that looked the table grant up for the user named by
    `?user=` would let alice (DSN-level access, no table grant) read under bob's grant -/
theorem C43_row_quser_override_counterexample :
    let st := step (run St.init exHist) (.grantDSN ['a', 'l'] ['d'] ⟨true, false, false⟩ true)
    readDSN st ['d'] = some true ∧ lookup st.perms ['a', 'l'] ['d'] ['t'] = [] ∧
    rowRequestHTTP st ['a', 'l'] false Act.none .read true (some ['b', 'o', 'b']) ['d'] ['t'] = .forbidden ∧
    rowRequestAs st ['a', 'l'] false Act.none .read ['b', 'o', 'b'] ['d'] ['t'] = .pass := by decide +kernel

/-! ### row requests inside a client transaction (`?transaction=<id>`) -/

/-- the code that exists: a transaction begun on the restricted DSN `a` serves a request that names the unrestricted
    DSN `b` in its URL; `v` holds no grant of any kind, the plain request for `a` is refused, the request through the
    transaction passes (and its SQL runs on `a`'s database) -/
theorem C43_tx_foreign_dsn_counterexample :
    let st := writeDSN (writeDSN St.init ['a'] true) ['b'] false
    readDSN st ['a'] = some true ∧ lookup st.perms ['v'] ['a'] ['t'] = [] ∧
    rowRequest st ['v'] false Act.none .read ['a'] ['t'] = .forbidden ∧
    rowRequestTx st ['v'] false .read true ['b'] ['t'] = .pass := by decide

/-- outside that class — the URL names the DSN the transaction was begun on — a request that passes on a restricted
    DSN had the table grant for exactly (user, dsn, table) and the handler's operation -/
theorem C43_tx_partial (st : St) (u : Name) (op : RowOp) (d t : Name)
    (hr : readDSN st d = some true) (hp : rowRequestTx st u false op true d t = .pass) :
    Recorded st.perms u d t [op.perm] := by
  rw [rowRequestTx_eq_core] at hp
  exact (C43_iff st u false u d t [op.perm] hr (fun h => Bool.noConfusion h.2)).1 (rowCore_pass hp).2

example : rowRequestTx (step (run St.init exHist) (.grantDSN ['a', 'l'] ['d'] ⟨true, false, false⟩ true))
    ['b', 'o', 'b'] false .read true ['d'] ['t'] = .pass := by decide +kernel

/-! ### two overlapping grants for one record (GrantPermissions reads, decodes the body, writes the whole record) -/

/-- w holds read+write; "-write" is applied completely while a "+update" request has read the record and not yet
    written it back; the stale write-back restores write: neither order of the two grants leaves write set -/
theorem C43_grant_lost_update_counterexample :
    let u := ['w']; let d := ['a']; let t := ['t']
    let ps0 := [(⟨u, d, t, false, true, true, false, false⟩ : Rec)]
    let ps1 := (grant ps0 u d t [('-' :: nWrite)]).1
    let ps2 := grantStale ps0 ps1 u d t [nUpdate]
    let seq1 := (grant (grant ps0 u d t [('-' :: nWrite)]).1 u d t [nUpdate]).1
    let seq2 := (grant (grant ps0 u d t [nUpdate]).1 u d t [('-' :: nWrite)]).1
    (lookup ps2 u d t).map (·.write) = [true] ∧
    (lookup seq1 u d t).map (·.write) = [false] ∧ (lookup seq2 u d t).map (·.write) = [false] := by decide +kernel

/-! ### the database DSN service: the DSN cache is a transparent memo -/

/-- the memo invariant of caches.DSNCache: an entry of the cache equals the stored row of that name -/
def DSt.CacheOK (s : DSt) : Prop := ∀ n r, s.cache.lookup n = some r → s.rows.lookup n = some r

/-- `s'` differs from `s` in the cache only, and its cache is still a memo of the rows -/
def DSt.Same (s s' : DSt) : Prop := s'.CacheOK ∧ s'.rows = s.rows ∧ s'.dauth = s.dauth ∧ s'.perms = s.perms

theorem DSt.init_cacheOK : DSt.init.CacheOK := fun _ _ h => by cases h

theorem DSt.Same.refl {s : DSt} (h : s.CacheOK) : s.Same s := ⟨h, rfl, rfl, rfl⟩

theorem DSt.Same.cacheOK {s s' : DSt} (h : s.Same s') : s'.CacheOK := h.1
theorem DSt.Same.rows {s s' : DSt} (h : s.Same s') : s'.rows = s.rows := h.2.1
theorem DSt.Same.dauth {s s' : DSt} (h : s.Same s') : s'.dauth = s.dauth := h.2.2.1
theorem DSt.Same.perms {s s' : DSt} (h : s.Same s') : s'.perms = s.perms := h.2.2.2

/-! Every reader goes through `dbReadDSN`, which may fill the cache.  Its answer and those of the readers built on it
are stated for a state `s'` that differs from a base state `s` in the cache only, in terms of `s`: a handler's chain
of readers then needs no bookkeeping of which intermediate state each of them ran in. -/

theorem dbReadDSN_spec {s s' : DSt} (h : s.Same s') (n : Name) :
    (dbReadDSN s' n).2 = s.rows.lookup n ∧ s.Same (dbReadDSN s' n).1 := by
  rw [← h.rows]
  unfold dbReadDSN
  cases h1 : s'.cache.lookup n with
  | some r => exact ⟨(h.cacheOK n r h1).symm, h⟩
  | none =>
    cases h2 : s'.rows.lookup n with
    | none => exact ⟨rfl, h⟩
    | some r =>
      refine ⟨rfl, ?_, h.rows, h.dauth, h.perms⟩
      intro m q hm
      by_cases e : m = n
      · subst e; rw [lookup_setKey_self] at hm; exact hm ▸ h2
      · rw [lookup_setKey_ne _ _ _ _ e] at hm; exact h.cacheOK m q hm

theorem dbAuthDSN_spec {s s' : DSt} (h : s.Same s') (u n : Name) (a : Act) :
    (dbAuthDSN s' u n a).2 = authDSNCore (s.rows.lookup n) (dauthFind s.dauth u n) a ∧
    s.Same (dbAuthDSN s' u n a).1 := by
  obtain ⟨h1, h2⟩ := dbReadDSN_spec h n
  exact ⟨by simp only [dbAuthDSN, h1, h2.dauth], h2⟩

theorem dbAuthorized_spec {s s' : DSt} (h : s.Same s') (su : Name) (sa : Bool) (u d t : Name) (ops : List Name) :
    (dbAuthorized s' su sa u d t ops).2 = authorizedCore (s.rows.lookup d) s.perms su sa u d t ops ∧
    s.Same (dbAuthorized s' su sa u d t ops).1 := by
  obtain ⟨h1, h2⟩ := dbReadDSN_spec h d
  unfold dbAuthorized
  split
  · rename_i hadm; exact ⟨(if_pos hadm).symm, h⟩
  · exact ⟨by simp only [h1, h2.perms], h2⟩

/-- C43, database DSN service: with the memo invariant, a row request is decided exactly as if every reader had
    read the STORED DSN row — the cache is invisible.  The proof follows the handler: AuthDSN is called only when
    neither the administrator flag nor the identity covers the action, Authorized only for a restricted DSN and a
    non-administrator. -/
theorem C43_db_cache_transparent (s : DSt) (hc : s.CacheOK) (u : Name) (adm : Bool) (idp : Act) (op : RowOp) (d t : Name) :
    (dbRowRequest s u adm idp op d t).2 =
      rowCore (s.rows.lookup d) adm (identityAuthorizes idp op.action)
        (authDSNCore (s.rows.lookup d) (dauthFind s.dauth u d) op.action)
        (authorizedCore (s.rows.lookup d) s.perms u adm u d t [op.perm]) ∧
    s.Same (dbRowRequest s u adm idp op d t).1 := by
  obtain ⟨h1, h2⟩ := dbReadDSN_spec (DSt.Same.refl hc) d
  obtain ⟨a1, a2⟩ := dbAuthDSN_spec h2 u d op.action
  obtain ⟨b1, b2⟩ := dbAuthorized_spec h2 u adm u d t [op.perm]
  obtain ⟨c1, c2⟩ := dbAuthorized_spec a2 u adm u d t [op.perm]
  unfold dbRowRequest
  simp only [h1]
  generalize s.rows.lookup d = rd at a1 b1 c1 ⊢
  cases rd with
  | none => exact ⟨rfl, h2⟩
  | some restricted =>
    cases adm with
    | true => cases restricted <;> exact ⟨rfl, h2⟩
    | false =>
      cases identityAuthorizes idp op.action with
      | true =>
        -- the identity covers the action: AuthDSN is skipped, Authorized runs in the state ReadDSN left
        cases restricted with
        | false => exact ⟨rfl, h2⟩
        | true =>
          simp only [Bool.not_false, Bool.not_true, Bool.and_false, Bool.and_true, Bool.false_eq_true, if_false, if_true, b1]
          cases authorizedCore (some true) s.perms u false u d t [op.perm] <;> exact ⟨rfl, b2⟩
      | false =>
        -- AuthDSN runs first; Authorized, if reached, runs in the state AuthDSN left
        simp only [Bool.not_false, Bool.and_true, if_true, a1]
        cases authDSNCore (some restricted) (dauthFind s.dauth u d) op.action with
        | false => exact ⟨rfl, a2⟩
        | true =>
          cases restricted with
          | false => exact ⟨rfl, a2⟩
          | true =>
            simp only [Bool.not_true, Bool.false_eq_true, if_false, if_true, c1]
            cases authorizedCore (some true) s.perms u false u d t [op.perm] <;> exact ⟨rfl, c2⟩

theorem dbWriteDSN_ok (s : DSt) (hc : s.CacheOK) (n : Name) (r : Bool) :
    (dbWriteDSN s n r).CacheOK ∧ (dbWriteDSN s n r).rows.lookup n = some r := by
  refine ⟨?_, lookup_setKey_self _ _ _⟩
  intro m q hm
  simp only [dbWriteDSN] at hm ⊢
  by_cases e : m = n
  · subst e; rw [lookup_setKey_self] at hm ⊢; exact hm
  · rw [lookup_setKey_ne _ _ _ _ e, lookup_delKey_ne _ _ _ e] at hm
    rw [lookup_setKey_ne _ _ _ _ e]; exact hc m q hm

theorem delKey_cacheOK {s : DSt} (hc : s.CacheOK) (n : Name) {rows : List (Name × Bool)}
    (hrows : ∀ m, m ≠ n → rows.lookup m = s.rows.lookup m) {m : Name} {q : Bool}
    (hm : (delKey s.cache n).lookup m = some q) : rows.lookup m = some q := by
  by_cases e : m = n
  · subst e; rw [lookup_delKey_self] at hm; cases hm
  · rw [lookup_delKey_ne _ _ _ e] at hm; rw [hrows m e]; exact hc m q hm

theorem dbEvict_ok (s : DSt) (hc : s.CacheOK) (n : Name) : (dbEvict s n).CacheOK :=
  fun _ _ hm => delKey_cacheOK hc n (fun _ _ => rfl) hm

theorem dbDeleteDSN_ok (s : DSt) (hc : s.CacheOK) (n : Name) : (dbDeleteDSN s n).CacheOK := by
  intro m q hm
  unfold dbDeleteDSN at hm ⊢
  split at hm
  · exact delKey_cacheOK hc n (fun m e => lookup_delKey_ne _ _ _ e) hm
  · exact delKey_cacheOK hc n (fun _ _ => rfl) hm

theorem dbGrantDSN_spec {s s' : DSt} (hc : s.CacheOK) {u n : Name} {a : Act} {g : Bool}
    (h : dbGrantDSN s u n a g = some s') :
    s'.CacheOK ∧ s'.rows.lookup n = some true ∧ ∃ v, s'.dauth = dauthSet s.dauth u n v := by
  obtain ⟨h1, h2⟩ := dbReadDSN_spec (DSt.Same.refl hc) n
  unfold dbGrantDSN at h
  simp only [h1] at h
  cases hr : s.rows.lookup n with
  | none => rw [hr] at h; cases h
  | some restricted =>
    rw [hr] at h
    injection h with h; subst h
    cases restricted with
    | false => exact ⟨(dbWriteDSN_ok _ h2.cacheOK n true).1, (dbWriteDSN_ok _ h2.cacheOK n true).2, _, by rw [← h2.dauth]; rfl⟩
    | true => exact ⟨h2.cacheOK, h2.rows ▸ hr, _, by rw [← h2.dauth]; rfl⟩

/-- GrantDSN keeps the memo invariant, and afterwards the STORE records the DSN as restricted -/
theorem C43_db_grant_restricts (s s' : DSt) (hc : s.CacheOK) (u n : Name) (a : Act) (g : Bool)
    (h : dbGrantDSN s u n a g = some s') : s'.CacheOK ∧ s'.rows.lookup n = some true :=
  ⟨(dbGrantDSN_spec hc h).1, (dbGrantDSN_spec hc h).2.1⟩

theorem dstep_ok (s : DSt) (hc : s.CacheOK) (op : DOp) : (dstep s op).CacheOK := by
  cases op with
  | writeDSN n r => exact (dbWriteDSN_ok s hc n r).1
  | deleteDSN n => exact dbDeleteDSN_ok s hc n
  | grantDSN u n a g =>
    show ((dbGrantDSN s u n a g).getD s).CacheOK
    cases h : dbGrantDSN s u n a g with
    | none => exact hc
    | some s' => exact (dbGrantDSN_spec hc h).1
  | evict n => exact dbEvict_ok s hc n
  | readDSN n => exact (dbReadDSN_spec (.refl hc) n).2.cacheOK
  | authDSN u n a => exact (dbAuthDSN_spec (.refl hc) u n a).2.cacheOK
  | authorized su sa u d t ops => exact (dbAuthorized_spec (.refl hc) su sa u d t ops).2.cacheOK
  | row u adm idp op d t => exact (C43_db_cache_transparent s hc u adm idp op d t).2.cacheOK
  | _ => exact hc

/-- C43, database DSN service: after EVERY history of DSN operations, grants, evictions and (cache-filling)
    queries, each entry of the DSN cache equals the stored row -/
theorem C43_db_cacheOK_history (h : List DOp) : (drun DSt.init h).CacheOK :=
  List.foldlRecOn h dstep DSt.init_cacheOK fun s hs op _ => dstep_ok s hs op

/-- C43, database DSN service: a row request by a non-administrator that is let through on a DSN which the STORE
    records as restricted had the DSN-level authorization (identity, or a dsns_auth row of exactly this user and
    DSN) AND the table grant for exactly (user, dsn, table) and the handler's operation -/
theorem C43_db_row_pass_needs_grants (s : DSt) (hc : s.CacheOK) (u : Name) (idp : Act) (op : RowOp) (d t : Name)
    (hr : s.rows.lookup d = some true) (hp : (dbRowRequest s u false idp op d t).2 = .pass) :
    (identityAuthorizes idp op.action = true ∨ ∃ v, dauthFind s.dauth u d = some v ∧ v.meets op.action = true) ∧
    Recorded s.perms u d t [op.perm] := by
  rw [(C43_db_cache_transparent s hc u false idp op d t).1, hr] at hp
  have h := rowCore_pass hp
  exact ⟨h.1.imp_right (authDSNCore_iff _ _).1,
    (authorizedCore_iff _ u false u d t [op.perm] (fun h => Bool.noConfusion h.2)).1 h.2⟩

/-- … hence after every history -/
theorem C43_db_row_history (h : List DOp) (u : Name) (idp : Act) (op : RowOp) (d t : Name)
    (hr : (drun DSt.init h).rows.lookup d = some true)
    (hp : (dbRowRequest (drun DSt.init h) u false idp op d t).2 = .pass) :
    (identityAuthorizes idp op.action = true ∨
      ∃ v, dauthFind (drun DSt.init h).dauth u d = some v ∧ v.meets op.action = true) ∧
    Recorded (drun DSt.init h).perms u d t [op.perm] :=
  C43_db_row_pass_needs_grants _ (C43_db_cacheOK_history h) u idp op d t hr hp

/-- the memo invariant is what carries the property: in a state where the cache still holds the unrestricted
    copy of a DSN that the store records as restricted (the state a restricting write that bypasses the cache
    leaves behind), a user with no grant of any kind reads the rows -/
theorem C43_db_stale_cache_counterexample :
    let s : DSt := ⟨[(['d'], true)], [(['d'], false)], [], []⟩
    s.rows.lookup ['d'] = some true ∧ ¬ s.CacheOK ∧
    (dbRowRequest s ['u'] false Act.none .read ['d'] ['t']).2 = .pass := by
  refine ⟨by decide, fun h => ?_, by decide⟩
  exact absurd (h ['d'] false rfl) (by decide)

/-! ### DSN-level grants in the database service: keyed by the PAIR (user, dsn), no joined key -/

theorem C43_db_authdsn_iff (s : DSt) (hc : s.CacheOK) (u n : Name) (act : Act) (hr : s.rows.lookup n = some true) :
    (dbAuthDSN s u n act).2 = true ↔ ∃ v, dauthFind s.dauth u n = some v ∧ v.meets act = true := by
  rw [(dbAuthDSN_spec (.refl hc) u n act).1, hr]; exact authDSNCore_iff _ act

theorem dauthFind_set_other (m : List (Name × Name × Act)) (u d u' d' : Name) (v : Act)
    (h : (u', d') ≠ (u, d)) : dauthFind (dauthSet m u' d' v) u d = dauthFind m u d := by
  have hne : ¬(u' = u ∧ d' = d) := fun e => h (by rw [e.1, e.2])
  unfold dauthSet
  split
  · rename_i hs; clear hs
    induction m with
    | nil => rfl
    | cons e m ih =>
      rw [List.map_cons, dauthFind, dauthFind, ih]
      by_cases he : e.1 = u' ∧ e.2.1 = d'
      · rw [if_pos he, if_neg hne, if_neg (he.1 ▸ he.2 ▸ hne)]
      · rw [if_neg he]
  · rename_i hs; clear hs
    induction m with
    | nil => exact if_neg hne
    | cons e m ih => rw [List.cons_append, dauthFind, dauthFind, ih]

theorem dauthFind_filter_none (m : List (Name × Name × Act)) (f : Name × Name × Act → Bool) (u d : Name)
    (h : dauthFind m u d = none) : dauthFind (m.filter f) u d = none := by
  induction m with
  | nil => rfl
  | cons e m ih =>
    simp only [dauthFind] at h
    split at h
    · cases h
    · rename_i hne
      simp only [List.filter_cons]
      split
      · simp only [dauthFind, hne, if_false]; exact ih h
      · exact ih h

/-- does the operation write a dsns_auth row for exactly (u, n)? -/
def DOp.dsnGrantsTo (u n : Name) : DOp → Prop
  | .grantDSN u' n' _ _ => (u', n') = (u, n)
  | _ => False

theorem dstep_dauth_other (s : DSt) (hc : s.CacheOK) (op : DOp) (u n : Name) (h : ¬ op.dsnGrantsTo u n)
    (h0 : dauthFind s.dauth u n = none) : dauthFind (dstep s op).dauth u n = none := by
  -- the queries change the cache only
  have same : ∀ {s' : DSt}, s.Same s' → dauthFind s'.dauth u n = none := fun hs => hs.dauth ▸ h0
  cases op with
  | deleteDSN n' =>
    show dauthFind (dbDeleteDSN s n').dauth u n = none
    unfold dbDeleteDSN; split
    · exact dauthFind_filter_none _ _ _ _ h0
    · exact h0
  | revokeAllDSN n' => exact dauthFind_filter_none _ _ _ _ h0
  | grantDSN u' n' a g =>
    show dauthFind ((dbGrantDSN s u' n' a g).getD s).dauth u n = none
    cases hg : dbGrantDSN s u' n' a g with
    | none => exact h0
    | some s' =>
      obtain ⟨-, -, v, hv⟩ := dbGrantDSN_spec hc hg
      exact (hv ▸ dauthFind_set_other _ _ _ _ _ _ h).trans h0
  | readDSN n' => exact same (dbReadDSN_spec (.refl hc) n').2
  | authDSN u' n' a => exact same (dbAuthDSN_spec (.refl hc) u' n' a).2
  | authorized su sa u' d t ops => exact same (dbAuthorized_spec (.refl hc) su sa u' d t ops).2
  | row u' adm idp op d t => exact same (C43_db_cache_transparent s hc u' adm idp op d t).2
  | _ => exact h0

/-- DSN level, no cross-authorization, database service (FULL: any user and DSN names, '|' included): if no
    GrantDSN of the history is for exactly (u, n), user u is never authorized on a DSN n that the store records as
    restricted -/
theorem C43_db_dsn_no_cross (h : List DOp) (u n : Name) (act : Act)
    (hh : ∀ op ∈ h, ¬ op.dsnGrantsTo u n) (hr : (drun DSt.init h).rows.lookup n = some true) :
    (dbAuthDSN (drun DSt.init h) u n act).2 = false := by
  have inv : (drun DSt.init h).CacheOK ∧ dauthFind (drun DSt.init h).dauth u n = none :=
    List.foldlRecOn (motive := fun s => s.CacheOK ∧ dauthFind s.dauth u n = none) h dstep ⟨DSt.init_cacheOK, rfl⟩
      fun s hs op hop => ⟨dstep_ok s hs.1 op, dstep_dauth_other s hs.1 op u n (hh op hop) hs.2⟩
  rw [(dbAuthDSN_spec (.refl inv.1) u n act).1, hr, inv.2]; rfl

/-- the pipe twins of C43_dsnkey_counterexample are kept apart by the database service -/
example :
    (dbAuthDSN (drun DSt.init [.writeDSN ['c'] true, .writeDSN ['b', '|', 'c'] true,
        .grantDSN ['a', '|', 'b'] ['c'] ⟨true, true, false⟩ true]) ['a'] ['b', '|', 'c'] ⟨true, false, false⟩).2 = false ∧
    (dbAuthDSN (drun DSt.init [.writeDSN ['c'] true, .writeDSN ['b', '|', 'c'] true,
        .grantDSN ['a', '|', 'b'] ['c'] ⟨true, true, false⟩ true]) ['a', '|', 'b'] ['c'] ⟨true, false, false⟩).2 = true := by decide +kernel

/-- non-vacuity, database service: the history "create unrestricted, read (cache warm), first DSN-level grant,
    table grant for bob" — the store records the DSN as restricted, bob (DSN-level + table grant) reads, carol
    (DSN-level grant only) and dave (nothing) do not -/
def exDbHist : List DOp :=
  [.writeDSN ['d'] false, .row ['b'] false Act.none .read ['d'] ['t'],
   .grantDSN ['b'] ['d'] ⟨true, true, false⟩ true, .grantDSN ['c'] ['d'] ⟨true, true, false⟩ true,
   .perms (.grant ['b'] ['d'] ['t'] [nRead]), .evict ['d'], .authDSN ['c'] ['d'] ⟨true, false, false⟩]

example : (drun DSt.init exDbHist).rows.lookup ['d'] = some true ∧
    (drun DSt.init exDbHist).cache.lookup ['d'] = some true ∧
    (dbRowRequest (drun DSt.init [.writeDSN ['d'] false]) ['b'] false Act.none .read ['d'] ['t']).2 = .pass ∧
    (dbRowRequest (drun DSt.init exDbHist) ['b'] false Act.none .read ['d'] ['t']).2 = .pass ∧
    (dbRowRequest (drun DSt.init exDbHist) ['b'] false Act.none .insert ['d'] ['t']).2 = .forbidden ∧
    (dbRowRequest (drun DSt.init exDbHist) ['c'] false Act.none .read ['d'] ['t']).2 = .forbidden ∧
    (dbRowRequest (drun DSt.init exDbHist) ['e'] false ⟨true, true, true⟩ .read ['d'] ['t']).2 = .forbidden ∧
    (dbRowRequest (drun DSt.init exDbHist) ['e'] false Act.none .read ['d'] ['t']).2 = .forbidden := by decide +kernel

example : ∀ op ∈ exDbHist, ¬ op.dsnGrantsTo ['e'] ['d'] := by
  intro op h; simp only [exDbHist, List.mem_cons, List.not_mem_nil, or_false] at h
  rcases h with h | h | h | h | h | h | h <;> subst h <;> simp [DOp.dsnGrantsTo]

theorem C43_db_row_http_eq (s : DSt) (u : Name) (adm : Bool) (idp : Act) (op : RowOp) (abstract : Bool)
    (quser : Option Name) (d t : Name) :
    dbRowRequestHTTP s u adm idp op abstract quser d t = dbRowRequest s u adm idp op d t := rfl

/-- after every history, a non-administrator's row request (any row format, any `?user=`) that is let through on a
    DSN the store records as restricted had the CALLER's identity-wide or DSN-level authorization and the CALLER's
    table grant -/
theorem C43_db_row_http_history (h : List DOp) (u : Name) (idp : Act) (op : RowOp) (abstract : Bool)
    (quser : Option Name) (d t : Name)
    (hr : (drun DSt.init h).rows.lookup d = some true)
    (hp : (dbRowRequestHTTP (drun DSt.init h) u false idp op abstract quser d t).2 = .pass) :
    (identityAuthorizes idp op.action = true ∨
      ∃ v, dauthFind (drun DSt.init h).dauth u d = some v ∧ v.meets op.action = true) ∧
    Recorded (drun DSt.init h).perms u d t [op.perm] :=
  C43_db_row_history h u idp op d t hr hp

end EgoVerif.C43
