import EgoVerif.C21.Model
/-
C21 — native bearer tokens are honoured exactly while valid.  The specification is a function of the HISTORY
only, no server state: `clock`, `revokedIn`, `issuedCur`.  The crypto parameter `dec` is constrained by
`AEAD dec h`: a presented string decrypts to `t` iff its bytes are unaltered and it was issued in `h` under the
current key with content `t` (authenticated encryption; C27 is about the framing).  The proof rests on the
invariant `Inv`: every cache is a sound memo of the revocation list.  Each operation keeps it, against the clock
and list the specification computes (`step_inv`), and under it a validation answers by those two alone
(`validate_spec`).
-/
namespace EgoVerif.C21

/-! ### the cache as a container: whatever holds of all items survives every operation -/

section cache
variable {κ ν : Type} {c : Cache κ ν} {P : κ → ν → Prop}

def Cache.Sat (c : Cache κ ν) (P : κ → ν → Prop) : Prop := ∀ e ∈ c.items, P e.key e.val

theorem Cache.sat_empty (P : κ → ν → Prop) : (Cache.empty : Cache κ ν).Sat P := by
  intro e he; simp [Cache.empty] at he

theorem Cache.sat_purge (c : Cache κ ν) (P : κ → ν → Prop) : c.purge.Sat P := by
  intro e he; simp [Cache.purge] at he

theorem Cache.sat_mono {Q : κ → ν → Prop} (h : c.Sat P)
    (hpq : ∀ k v, P k v → Q k v) : c.Sat Q := fun e he => hpq _ _ (h e he)

theorem Cache.sat_tick (h : c.Sat P) (t : Nat) : (c.tick t).Sat P := by
  unfold Cache.tick
  split
  · exact fun e he => h e (List.mem_filter.mp he).1
  · exact h

theorem Cache.sat_advance (f : Nat) :
    ∀ (c : Cache κ ν) (t : Nat), c.Sat P → (Cache.advance f c t).Sat P := by
  induction f with
  | zero => intro c t h; exact h
  | succ f ih =>
    intro c t h
    unfold Cache.advance
    split
    · exact ih _ _ (Cache.sat_tick h _)
    · exact h

variable [DecidableEq κ]

theorem Cache.sat_delete_ne (h : c.Sat P) (k : κ) :
    (c.delete k).Sat (fun k' v => k' ≠ k ∧ P k' v) := fun e he =>
  have he := List.mem_filter.mp he
  ⟨of_decide_eq_true he.2, h e he.1⟩

theorem Cache.sat_delete (h : c.Sat P) (k : κ) : (c.delete k).Sat P :=
  Cache.sat_mono (Cache.sat_delete_ne h k) fun _ _ h => h.2

theorem Cache.find_some (h : c.Sat P) {now : Nat} {k : κ} {v : ν} {c' : Cache κ ν}
    (hf : c.find now k = (some v, c')) : P k v ∧ c'.Sat P := by
  unfold Cache.find at hf
  split at hf
  · next e he =>
    cases hf
    have hk := List.find?_some he
    refine ⟨of_decide_eq_true hk ▸ h e (List.mem_of_find?_eq_some he), fun e' he' => ?_⟩
    obtain ⟨e0, he0, rfl⟩ := List.mem_map.mp he'
    split <;> exact h e0 he0
  · cases hf

theorem Cache.sat_add (h : c.Sat P) (m now : Nat) (k : κ) (v : ν)
    (hk : P k v) : (c.add m now k v).Sat P := by
  -- the item goes into the old cache without the key, or into a new empty one; `add` may also refuse it
  have happ : ∀ c1 : Cache κ ν, c1.Sat P →
      (if c1.items.length ≥ m then c1 else { c1 with items := c1.items ++ [⟨k, v, now + ttl⟩] }).Sat P := by
    intro c1 h1
    split
    · exact h1
    · intro e he
      rcases List.mem_append.mp he with he | he
      · exact h1 e he
      · cases List.mem_singleton.mp he; exact hk
  refine happ _ ?_
  split
  · exact fun e he => h e (List.mem_filter.mp he).1
  · exact nofun

end cache

/-- The state against the specification's clock reading `n` and revocation list `r`: it shows that time and
holds that list, and every cache is a sound memo of the list. -/
structure Inv (dec : Pres → Option Tok) (n : Nat) (r : Nat → Prop) (st : St) : Prop where
  now : st.now = n
  store : ∀ x, x ∈ st.store ↔ r x
  /-- BlacklistCache: a cached answer is the table's answer -/
  bc : st.bc.Sat (fun id v => v = true ↔ r id)
  /-- TokenCache: a cached token decrypts to the cached value, is named, and is not revoked -/
  tc : st.tc.Sat (fun p t => dec p = some t ∧ ¬ r t.id ∧ t.user ≠ 0)

theorem inv_init (dec : Pres → Option Tok) (m : Nat) : Inv dec 0 (fun _ => False) (St.init m) :=
  ⟨rfl, fun _ => ⟨nofun, False.elim⟩, Cache.sat_empty _, Cache.sat_empty _⟩

/-- what a validation may not touch: the table, the clock, the configuration -/
structure Frame (st st' : St) : Prop where
  store : st'.store = st.store
  now : st'.now = st.now
  maxSize : st'.maxSize = st.maxSize

section
variable {dec : Pres → Option Tok} {n : Nat} {r : Nat → Prop} {st : St}

theorem Inv.congr {r' : Nat → Prop} (hi : Inv dec n r st) (h : ∀ x, r x ↔ r' x) : Inv dec n r' st :=
  (funext fun x => propext (h x) : r = r') ▸ hi

theorem isBlacklisted_spec (hi : Inv dec n r st) (id : Nat) :
    ((isBlacklisted st id).1 = true ↔ r id) ∧ Inv dec n r (isBlacklisted st id).2 := by
  unfold isBlacklisted
  split
  · next v bc' hf =>
    obtain ⟨hv, hs⟩ := Cache.find_some hi.bc hf
    exact ⟨hv, hi.now, hi.store, hs, hi.tc⟩
  · have ha := decide_eq_true_iff.trans (hi.store id)
    exact ⟨ha, hi.now, hi.store, Cache.sat_add hi.bc _ _ _ _ ha, hi.tc⟩

/-- the specification of one validation -/
def Valid (dec : Pres → Option Tok) (n : Nat) (r : Nat → Prop) (p : Pres) (t : Tok) : Prop :=
  dec p = some t ∧ n ≤ t.expires ∧ ¬ r t.id

theorem unwrap_accepted_iff (dec : Pres → Option Tok) (st : St) (p : Pres) :
    (unwrap dec st p).1 = .accepted ↔ ∃ t, (unwrap dec st p).2.1 = some t := by
  unfold unwrap
  split
  · simp
  · split
    · simp
    · split <;> simp

theorem unwrap_spec (hi : Inv dec n r st) (p : Pres) :
    (∀ t, (unwrap dec st p).2.1 = some t ↔ Valid dec n r p t) ∧ Inv dec n r (unwrap dec st p).2.2 := by
  have hn := hi.now
  unfold unwrap Valid
  split
  · next hd => exact ⟨fun t => by simp [hd], hi⟩
  next t hd =>
  split
  · next hexp =>
    refine ⟨fun t' => ⟨nofun, fun ⟨ht', hle, _⟩ => ?_⟩, hi⟩
    cases hd.symm.trans ht'
    omega
  next hexp =>
  obtain ⟨hb, hinv⟩ := isBlacklisted_spec hi t.id
  split
  · next st' hib =>
    rw [hib] at hb hinv
    refine ⟨fun t' => ⟨nofun, fun ⟨ht', _, hnot⟩ => ?_⟩, hinv⟩
    cases hd.symm.trans ht'
    exact absurd (hb.mp rfl) hnot
  · next st' hib =>
    rw [hib] at hb hinv
    refine ⟨fun t' => ⟨fun h => ?_, fun ⟨ht', _⟩ => hd.symm.trans ht'⟩, hinv⟩
    cases h
    exact ⟨hd, by omega, fun h => Bool.false_ne_true (hb.mpr h)⟩

theorem getPermissions_spec (hi : Inv dec n r st) (u : Nat) : Inv dec n r (getPermissions st u) := by
  unfold getPermissions
  split
  · exact ⟨hi.now, hi.store, hi.bc, hi.tc⟩
  · split
    · exact ⟨hi.now, hi.store, hi.bc, hi.tc⟩
    · exact hi

/-- the write-back with its second look at the revocation list: the TokenCache already holds the (valid)
token then, and the second lookup repeats the list's answer -/
theorem writeBack_spec {p : Pres} {tok : Tok} (hi : Inv dec n r st) (hv : Valid dec n r p tok)
    (hu : tok.user ≠ 0) : (writeBack st p tok).1 = .accepted ∧ Inv dec n r (writeBack st p tok).2 := by
  unfold writeBack
  obtain ⟨hb, hinv⟩ := isBlacklisted_spec (st := { st with tc := st.tc.add st.maxSize st.now p tok })
    ⟨hi.now, hi.store, hi.bc, Cache.sat_add hi.tc _ _ _ _ ⟨hv.1, hv.2.2, hu⟩⟩ tok.id
  split
  · next st4 hib =>
    rw [hib] at hb
    exact absurd (hb.mp rfl) hv.2.2
  · next st4 hib =>
    rw [hib] at hinv
    exact ⟨rfl, getPermissions_spec hinv tok.user⟩

/-- the cache-miss path of `routerAuth` -/
def routerMiss (dec : Pres → Option Tok) (st1 : St) (p : Pres) : Verdict × St :=
  match unwrap dec st1 p with
  | (.accepted, some tok, st2) =>
    if tok.user ≠ 0 then writeBack st2 p tok
    else (.denied, st2)
  | (_, _, st2) => (.denied, st2)

theorem routerAuth_eq (dec : Pres → Option Tok) (st : St) (p : Pres) :
    routerAuth dec st p =
      match st.tc.find st.now p with
      | (some tok, tc') =>
        if st.now > tok.expires then routerMiss dec { st with tc := tc'.delete p } p
        else (.accepted, getPermissions { st with tc := tc' } tok.user)
      | (none, _) => routerMiss dec st p := by
  unfold routerAuth routerMiss
  rcases st.tc.find st.now p with ⟨_ | tok, tc'⟩
  · rfl
  · by_cases h : st.now > tok.expires
    · simp only [if_pos h]; rfl
    · simp only [if_neg h]

theorem routerMiss_spec (hi : Inv dec n r st) (p : Pres) :
    ((routerMiss dec st p).1 = .accepted ↔ ∃ t, Valid dec n r p t ∧ t.user ≠ 0) ∧
    Inv dec n r (routerMiss dec st p).2 := by
  obtain ⟨htok, hinv2⟩ := unwrap_spec hi p
  have hacc := unwrap_accepted_iff dec st p
  unfold routerMiss
  split
  · next tok st2 hu =>
    rw [hu] at htok hinv2
    have hv : Valid dec n r p tok := (htok tok).mp rfl
    split
    · next hu0 =>
      obtain ⟨hacc4, hinv4⟩ := writeBack_spec hinv2 hv hu0
      exact ⟨⟨fun _ => ⟨tok, hv, hu0⟩, fun _ => hacc4⟩, hinv4⟩
    · next hu0 =>
      refine ⟨⟨nofun, fun ⟨t, ht, hne⟩ => ?_⟩, hinv2⟩
      cases hv.1.symm.trans ht.1
      exact absurd hne hu0
  · next v ot st2 hno hu =>
    -- no token came back: there is no valid one, since `unwrap` would have accepted it
    rw [hu] at htok hinv2 hacc
    refine ⟨⟨nofun, fun ⟨t, ht, _⟩ => ?_⟩, hinv2⟩
    have h2 := (htok t).mpr ht
    exact (hno t (hacc.mpr ⟨t, h2⟩) h2).elim

theorem routerAuth_spec (hi : Inv dec n r st) (p : Pres) :
    ((routerAuth dec st p).1 = .accepted ↔ ∃ t, Valid dec n r p t ∧ t.user ≠ 0) ∧
    Inv dec n r (routerAuth dec st p).2 := by
  rw [routerAuth_eq]
  split
  · next tok tc' hf =>
    obtain ⟨⟨hdec, hnot, hnamed⟩, hsat'⟩ := Cache.find_some hi.tc hf
    split
    · -- cached but expired: evicted, then the full validation
      exact routerMiss_spec (st := { st with tc := tc'.delete p }) ⟨hi.now, hi.store, hi.bc, Cache.sat_delete hsat' p⟩ p
    · -- cache hit: authenticated without looking at the table — sound because of `Inv.tc`
      next hexp =>
      have hn := hi.now
      exact ⟨⟨fun _ => ⟨tok, ⟨hdec, by omega, hnot⟩, hnamed⟩, fun _ => rfl⟩,
        getPermissions_spec (st := { st with tc := tc' }) ⟨hi.now, hi.store, hi.bc, hsat'⟩ tok.user⟩
  · exact routerMiss_spec hi p

theorem validate_of_ne {path : Path} (h : path ≠ .router) (p : Pres) :
    validate dec st path p = ((unwrap dec st p).1, (unwrap dec st p).2.2) := by
  cases path with
  | router => exact absurd rfl h
  | _ => rfl

theorem validate_spec (hi : Inv dec n r st) (path : Path) (p : Pres) :
    ((validate dec st path p).1 = .accepted ↔
        ∃ t, Valid dec n r p t ∧ (path = .router → t.user ≠ 0)) ∧
    Inv dec n r (validate dec st path p).2 := by
  by_cases hp : path = .router
  · subst hp
    obtain ⟨racc, rinv⟩ := routerAuth_spec hi p
    exact ⟨racc.trans ⟨fun ⟨t, hv, hn⟩ => ⟨t, hv, fun _ => hn⟩, fun ⟨t, hv, hn⟩ => ⟨t, hv, hn rfl⟩⟩, rinv⟩
  · rw [validate_of_ne hp]
    obtain ⟨htok, hinv⟩ := unwrap_spec hi p
    refine ⟨(unwrap_accepted_iff dec st p).trans ?_, hinv⟩
    exact ⟨fun ⟨t, ht⟩ => ⟨t, (htok t).mp ht, fun h => absurd h hp⟩, fun ⟨t, hv, _⟩ => ⟨t, (htok t).mpr hv⟩⟩

end

/-! ### the specification, as functions of the history -/

def clockFrom : Nat → List Op → Nat
  | n, [] => n
  | n, .advance d :: ops => clockFrom (n + d) ops
  | n, _ :: ops => clockFrom n ops

def clock (h : List Op) : Nat := clockFrom 0 h

def revokedFrom : (Nat → Prop) → List Op → Nat → Prop
  | r, [] => r
  | r, .blacklist i :: ops => revokedFrom (fun x => x = i ∨ r x) ops
  | r, .unblacklist i :: ops => revokedFrom (fun x => x ≠ i ∧ r x) ops
  | _, .flush :: ops => revokedFrom (fun _ => False) ops
  | r, _ :: ops => revokedFrom r ops

def revokedIn (h : List Op) (id : Nat) : Prop := revokedFrom (fun _ => False) h id

/-- `AEAD dec h`: under the current key, exactly the unaltered strings issued (in `h`) with
that key decrypt, and to the content they were issued with. -/
def AEAD (dec : Pres → Option Tok) (h : List Op) : Prop :=
  ∀ p t, dec p = some t ↔ (p.alt = 0 ∧ issuedCur h p.base t)

def clkStep (n : Nat) : Op → Nat
  | .advance d => n + d
  | _ => n

def rvkStep (r : Nat → Prop) : Op → Nat → Prop
  | .blacklist i => fun x => x = i ∨ r x
  | .unblacklist i => fun x => x ≠ i ∧ r x
  | .flush => fun _ => False
  | _ => r

theorem clockFrom_cons (n : Nat) (op : Op) (ops : List Op) :
    clockFrom n (op :: ops) = clockFrom (clkStep n op) ops := by
  cases op <;> rfl

theorem revokedFrom_cons (r : Nat → Prop) (op : Op) (ops : List Op) :
    revokedFrom r (op :: ops) = revokedFrom (rvkStep r op) ops := by
  cases op <;> rfl

theorem clockFrom_append (h h' : List Op) : ∀ n : Nat,
    clockFrom n (h ++ h') = clockFrom (clockFrom n h) h' := by
  induction h with
  | nil => intro n; rfl
  | cons o ops ih => intro n; rw [List.cons_append, clockFrom_cons, clockFrom_cons]; exact ih _

theorem revokedFrom_append (h h' : List Op) : ∀ r : Nat → Prop,
    revokedFrom r (h ++ h') = revokedFrom (revokedFrom r h) h' := by
  induction h with
  | nil => intro r; rfl
  | cons o ops ih => intro r; rw [List.cons_append, revokedFrom_cons, revokedFrom_cons]; exact ih _

theorem revokedFrom_congr (h : List Op) : ∀ (r r' : Nat → Prop), (∀ x, r x ↔ r' x) →
    ∀ x, revokedFrom r h x ↔ revokedFrom r' h x :=
  fun _ _ hrr => (funext fun x => propext (hrr x) : _ = _) ▸ fun _ => Iff.rfl

section
variable {dec : Pres → Option Tok} {n : Nat} {r : Nat → Prop} {st : St}

/-- A blacklist insert of a present id and a delete of an absent one fail and leave the state as it is,
which is also what the specification's set operations do to the list then. -/
theorem step_inv (hi : Inv dec n r st) (op : Op) :
    Inv dec (clkStep n op) (rvkStep r op) (step dec st op).1 := by
  cases op with
  | issue b c t => exact hi
  | blacklist id =>
    simp only [step]
    split
    · next hm => exact hi.congr fun x => ⟨Or.inr, fun h => h.elim (· ▸ (hi.store id).mp hm) fun h => h⟩
    · exact ⟨hi.now, fun x => List.mem_cons.trans (or_congr_right (hi.store x)), Cache.sat_purge _ _,
        Cache.sat_purge _ _⟩
  | unblacklist id =>
    simp only [step]
    split
    · refine ⟨hi.now, fun x => List.mem_filter.trans (and_comm.trans (and_congr decide_eq_true_iff (hi.store x))),
        ?_, ?_⟩
      · -- the one entry that could have become wrong is deleted
        exact Cache.sat_mono (Cache.sat_delete_ne hi.bc id) fun k v ⟨hne, hv⟩ => hv.trans (and_iff_right hne).symm
      · -- the list only shrinks
        exact Cache.sat_mono hi.tc fun p t ⟨hd, hnot, hn⟩ => ⟨hd, fun h => hnot h.2, hn⟩
    · next hm => exact hi.congr fun x => ⟨fun h => ⟨fun e => hm ((hi.store id).mpr (e ▸ h)), h⟩, And.right⟩
  | flush =>
    exact ⟨hi.now, fun x => ⟨nofun, False.elim⟩, Cache.sat_purge _ _,
      Cache.sat_mono hi.tc fun p t ⟨hd, _, hn⟩ => ⟨hd, id, hn⟩⟩
  | purge w =>
    cases w with
    | tokens => exact ⟨hi.now, hi.store, hi.bc, Cache.sat_purge _ _⟩
    | blacklist => exact ⟨hi.now, hi.store, Cache.sat_purge _ _, hi.tc⟩
    | auth => exact ⟨hi.now, hi.store, hi.bc, hi.tc⟩
    | all => exact ⟨hi.now, hi.store, Cache.sat_purge _ _, Cache.sat_purge _ _⟩
  | advance d =>
    exact ⟨congrArg (· + d) hi.now, hi.store, Cache.sat_advance _ _ _ hi.bc, Cache.sat_advance _ _ _ hi.tc⟩
  | validate path p => exact (validate_spec hi path p).2

theorem run_inv (h : List Op) (hi : Inv dec n r st) :
    Inv dec (clockFrom n h) (revokedFrom r h) (run dec st h) := by
  induction h generalizing n r st with
  | nil => exact hi
  | cons op ops ih =>
    rw [clockFrom_cons, revokedFrom_cons]
    exact ih (step_inv hi op)

end

/-- the verdict of presenting `p` on `path` to a server of cache capacity `m` that has been
through history `h` -/
def verdictAfter (dec : Pres → Option Tok) (m : Nat) (h : List Op) (path : Path) (p : Pres) : Verdict :=
  (validate dec (run dec (St.init m) h) path p).1

/-- Refinement over ALL sequential histories, no assumption on the crypto parameter:
accepted iff the string decrypts (under the current key) to a token that is unexpired and
whose id is not on the revocation list after `h`.  Caches never change the answer. -/
theorem C21_accept_iff_decrypts (dec : Pres → Option Tok) (m : Nat) (h : List Op) (path : Path) (p : Pres) :
    verdictAfter dec m h path p = .accepted ↔
      ∃ t, dec p = some t ∧ clock h ≤ t.expires ∧ ¬ revokedIn h t.id ∧ (path = .router → t.user ≠ 0) := by
  rw [verdictAfter, (validate_spec (run_inv h (inv_init dec m)) path p).1]
  exact exists_congr fun t => and_assoc.trans (and_congr_right fun _ => and_assoc)

/-- THE PROPERTY.  With authenticated encryption (`AEAD`), for every history `h`, every path
and every presented string `p`: accepted ⇔ issued by this server under its current key ∧
unaltered ∧ not expired ∧ id not on the revocation list at the time of the request
(∧ it names a user, on the router path). -/
theorem C21_accept_iff (dec : Pres → Option Tok) (m : Nat) (h : List Op) (path : Path) (p : Pres)
    (haead : AEAD dec h) :
    verdictAfter dec m h path p = .accepted ↔
      ∃ t, issuedCur h p.base t ∧ p.alt = 0 ∧ clock h ≤ t.expires ∧ ¬ revokedIn h t.id ∧
        (path = .router → t.user ≠ 0) := by
  rw [C21_accept_iff_decrypts]
  exact exists_congr fun t => by rw [haead, and_assoc, and_left_comm]

/-- an altered string is never accepted -/
theorem C21_altered_rejected (dec : Pres → Option Tok) (m : Nat) (h : List Op) (path : Path) (p : Pres)
    (haead : AEAD dec h) (halt : p.alt ≠ 0) : verdictAfter dec m h path p ≠ .accepted := by
  intro hacc
  obtain ⟨_, _, ha, _⟩ := (C21_accept_iff dec m h path p haead).mp hacc
  exact halt ha

theorem accept_snoc (dec : Pres → Option Tok) (m : Nat) (h : List Op) (op : Op) (path : Path) (p : Pres) :
    verdictAfter dec m (h ++ [op]) path p = .accepted ↔
      ∃ t, dec p = some t ∧ clkStep (clock h) op ≤ t.expires ∧ ¬ rvkStep (revokedIn h) op t.id ∧
        (path = .router → t.user ≠ 0) := by
  rw [C21_accept_iff_decrypts]
  unfold clock revokedIn
  rw [clockFrom_append, revokedFrom_append, clockFrom_cons, revokedFrom_cons]
  exact Iff.rfl

/-- Revocation takes effect on the very next request, on every path, whatever was cached. -/
theorem C21_revocation_immediate (dec : Pres → Option Tok) (m : Nat) (h : List Op) (path : Path)
    (p : Pres) (t : Tok) (hd : dec p = some t) :
    verdictAfter dec m (h ++ [.blacklist t.id]) path p ≠ .accepted := by
  intro hacc
  obtain ⟨t', hd', _, hnot, _⟩ := (accept_snoc dec m h _ path p).mp hacc
  cases hd.symm.trans hd'
  exact hnot (Or.inl rfl)

/-- Un-revocation (delete from the blacklist, or a flush) restores an unexpired token at once. -/
theorem C21_unrevoke_restores (dec : Pres → Option Tok) (m : Nat) (h : List Op) (path : Path)
    (p : Pres) (t : Tok) (hd : dec p = some t) (hle : clock h ≤ t.expires)
    (hn : path = .router → t.user ≠ 0) :
    verdictAfter dec m (h ++ [.unblacklist t.id]) path p = .accepted ∧
    verdictAfter dec m (h ++ [.flush]) path p = .accepted :=
  ⟨(accept_snoc dec m h _ path p).mpr ⟨t, hd, hle, fun hr => hr.1 rfl, hn⟩,
    (accept_snoc dec m h _ path p).mpr ⟨t, hd, hle, id, hn⟩⟩

/-- Purging any cache (and any other validation in between) never changes whether a string is accepted. -/
theorem C21_caches_transparent (dec : Pres → Option Tok) (m : Nat) (h : List Op) (path : Path)
    (p : Pres) (w : Which) (path' : Path) (p' : Pres) :
    (verdictAfter dec m (h ++ [.purge w]) path p = .accepted ↔ verdictAfter dec m h path p = .accepted) ∧
    (verdictAfter dec m (h ++ [.validate path' p']) path p = .accepted ↔
      verdictAfter dec m h path p = .accepted) :=
  -- neither operation moves the clock or the revocation list
  ⟨(accept_snoc dec m h _ path p).trans (C21_accept_iff_decrypts dec m h path p).symm,
    (accept_snoc dec m h _ path p).trans (C21_accept_iff_decrypts dec m h path p).symm⟩

/-- For a token that names a user all five paths give the same yes/no. -/
theorem C21_paths_agree (dec : Pres → Option Tok) (m : Nat) (h : List Op) (p : Pres) (t : Tok)
    (hd : dec p = some t) (hn : t.user ≠ 0) (path path' : Path) :
    verdictAfter dec m h path p = .accepted ↔ verdictAfter dec m h path' p = .accepted := by
  rw [C21_accept_iff_decrypts, C21_accept_iff_decrypts]
  constructor <;>
  · rintro ⟨t', hd', hle, hnot, _⟩
    cases hd.symm.trans hd'
    exact ⟨t, hd, hle, hnot, fun _ => hn⟩

/-! ### the AEAD assumption is satisfiable: the driver's decryption table meets it -/

/-- issued strings are fresh: no base is issued twice -/
def Fresh : List Op → Prop
  | [] => True
  | .issue b _ _ :: ops => (∀ c t, Op.issue b c t ∉ ops) ∧ Fresh ops
  | _ :: ops => Fresh ops

theorem decOf_aead (h : List Op) (hf : Fresh h) : AEAD (decOf h) h := by
  induction h with
  | nil => intro p t; simp [decOf, issuedCur]
  | cons op ops ih =>
    intro p t
    cases op with
    | issue b c t0 =>
      obtain ⟨hnew, hfr⟩ := hf
      simp only [decOf, issuedCur, List.mem_cons, Op.issue.injEq]
      split
      · next h =>
        -- the string is this very issue: freshness rules out a later one of the same base
        obtain ⟨ha, rfl⟩ := h
        cases c <;> simp [ha, hnew, eq_comm]
      · next h =>
        rw [ih hfr p t]
        exact ⟨fun ⟨ha, hm⟩ => ⟨ha, Or.inr hm⟩, fun ⟨ha, hm⟩ => ⟨ha, hm.resolve_left fun e => h ⟨ha, e.1⟩⟩⟩
    | _ =>
      have ih' := ih hf p t
      unfold issuedCur at ih' ⊢
      simp only [decOf, List.mem_cons, reduceCtorEq, false_or]
      exact ih'

/-- The property for the executable model the harness is compared with (decryption table
`decOf h`): no hypothesis left but freshness of issued strings. -/
theorem C21_accept_iff_model (m : Nat) (h : List Op) (hf : Fresh h) (path : Path) (p : Pres) :
    verdictAfter (decOf h) m h path p = .accepted ↔
      ∃ t, issuedCur h p.base t ∧ p.alt = 0 ∧ clock h ≤ t.expires ∧ ¬ revokedIn h t.id ∧
        (path = .router → t.user ≠ 0) :=
  C21_accept_iff (decOf h) m h path p (decOf_aead h hf)

/-! ### non-vacuity: concrete histories meeting the hypotheses, with both outcomes -/

/-- token 1 (user alice, expires at 90) is cached by the router, revoked, un-revoked, and
finally expires -/
def exHist : List Op :=
  [.issue 1 true ⟨1, 90, 1⟩, .issue 2 false ⟨2, 600, 1⟩,
   .validate .router ⟨1, 0, 0⟩, .advance 30, .validate .router ⟨1, 0, 0⟩]

example : Fresh exHist := by simp [exHist, Fresh]
example : AEAD (decOf exHist) exHist := decOf_aead _ (by simp [exHist, Fresh])
-- accepted from the cache
example : verdictAfter (decOf exHist) 1000 exHist .router ⟨1, 0, 0⟩ = .accepted := by decide
-- a case variant of the same bytes is accepted too; an altered string is not
example : verdictAfter (decOf exHist) 1000 exHist .router ⟨1, 0, 7⟩ = .accepted := by decide
example : verdictAfter (decOf exHist) 1000 exHist .router ⟨1, 5, 0⟩ = .denied := by decide
-- the foreign-key token is not
example : verdictAfter (decOf exHist) 1000 exHist .validate ⟨2, 0, 0⟩ = .invalid := by decide
-- revoked: rejected at once although the router had it cached (hypothesis of C21_revocation_immediate)
example : decOf exHist ⟨1, 0, 0⟩ = some ⟨1, 90, 1⟩ := by decide
example : verdictAfter (decOf exHist) 1000 (exHist ++ [.blacklist 1]) .router ⟨1, 0, 0⟩ = .denied := by decide
example : verdictAfter (decOf exHist) 1000 (exHist ++ [.blacklist 1]) .unwrap ⟨1, 0, 0⟩ = .blacklisted := by decide
-- un-revoked: accepted again (hypotheses of C21_unrevoke_restores: clock 30 ≤ 90)
example : clock (exHist ++ [.blacklist 1]) ≤ 90 := by decide
example : verdictAfter (decOf exHist) 1000 (exHist ++ [.blacklist 1, .unblacklist 1]) .router ⟨1, 0, 0⟩ = .accepted := by
  decide
-- exactly at expiry still accepted, one second later not (cached or not)
example : verdictAfter (decOf exHist) 1000 (exHist ++ [.advance 60]) .router ⟨1, 0, 0⟩ = .accepted := by decide
example : verdictAfter (decOf exHist) 1000 (exHist ++ [.advance 61]) .router ⟨1, 0, 0⟩ = .denied := by decide
example : verdictAfter (decOf exHist) 1000 (exHist ++ [.advance 61]) .cipherExtract ⟨1, 0, 0⟩ = .expired := by decide
-- a cache of capacity 1 changes nothing
example : verdictAfter (decOf exHist) 1 (exHist ++ [.blacklist 1]) .router ⟨1, 0, 0⟩ = .denied := by decide

end EgoVerif.C21
