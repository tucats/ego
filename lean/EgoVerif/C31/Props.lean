import EgoVerif.C31.Model
/-
Both user stores refine the `UserMap` specification, and what follows from that.
One forward-simulation lemma for the client code over the service interface (`step_sim`,
`run_sim`), instantiated with the two simulation relations `RFile`, `RDb`; an invariant (`Inv`) is
a simulation of the service by itself along the diagonal (`Inv.toSim`), so the same lemma serves.
-/
namespace EgoVerif.C31
section
variable {κ : Type} [DecidableEq κ] {α : Type}

@[simp] theorem aget_nil (k : κ) : aget ([] : AList κ α) k = none := rfl

theorem aget_cons (k' : κ) (v : α) (m : AList κ α) (k : κ) :
    aget ((k', v) :: m) k = if k' = k then some v else aget m k := rfl

theorem aget_adel (m : AList κ α) (k k' : κ) :
    aget (adel m k) k' = if k = k' then none else aget m k' := by
  induction m with
  | nil => simp [adel]
  | cons p m ih =>
    obtain ⟨a, v⟩ := p
    unfold adel at ih ⊢
    by_cases h : a = k <;> by_cases h2 : k = k' <;> simp_all [aget_cons]

theorem aget_aput (m : AList κ α) (k : κ) (v : α) (k' : κ) :
    aget (aput m k v) k' = if k = k' then some v else aget m k' := by
  unfold aput
  rw [aget_cons, aget_adel]
  by_cases h : k = k' <;> simp [h]

theorem isEmpty_iff_aget (m : AList κ α) : m.isEmpty = true ↔ ∀ k, aget m k = none := by
  cases m with
  | nil => simp
  | cons p m =>
    obtain ⟨a, v⟩ := p
    simp only [List.isEmpty_cons, Bool.false_eq_true, false_iff]
    intro h
    simpa [aget_cons] using h a

theorem isEmpty_congr {m m' : AList κ α} (h : ∀ k, aget m k = aget m' k) : m.isEmpty = m'.isEmpty := by
  rw [Bool.eq_iff_iff, isEmpty_iff_aget, isEmpty_iff_aget]
  simp only [h]

theorem aget_aput_some {P : κ → α → Prop} {m : AList κ α} {n : κ} {u : α} (hn : P n u)
    (h : ∀ k v, k ≠ n → aget m k = some v → P k v) : ∀ k v, aget (aput m n u) k = some v → P k v := by
  intro k v hv
  rw [aget_aput] at hv
  by_cases hk : n = k
  · rw [if_pos hk] at hv
    cases hv
    exact hk ▸ hn
  · rw [if_neg hk] at hv
    exact h k v (Ne.symm hk) hv

theorem aget_adel_some {P : κ → α → Prop} {m : AList κ α} {n : κ}
    (h : ∀ k v, k ≠ n → aget m k = some v → P k v) : ∀ k v, aget (adel m n) k = some v → P k v := by
  intro k v hv
  rw [aget_adel] at hv
  by_cases hk : n = k
  · rw [if_pos hk] at hv
    cases hv
  · rw [if_neg hk] at hv
    exact h k v (Ne.symm hk) hv

theorem aget_map_val (f : α → α) (m : AList κ α) (k : κ) :
    aget (m.map (fun p => (p.1, f p.2))) k = (aget m k).map f := by
  induction m with
  | nil => rfl
  | cons p m ih =>
    obtain ⟨a, v⟩ := p
    simp only [List.map_cons, aget_cons, ih]
    by_cases h : a = k <;> simp [h]

theorem tget_eq (rows : List (User κ)) (k : κ) : tget rows k = rows.reverse.find? (fun r => r.name = k) := by
  induction rows with
  | nil => rfl
  | cons r rs ih =>
    rw [tget, ih, List.reverse_cons, List.find?_append]
    cases rs.reverse.find? (fun r => decide (r.name = k)) <;> by_cases h : r.name = k <;> simp [h]

theorem tget_name {rows : List (User κ)} {k : κ} {u : User κ} (h : tget rows k = some u) : u.name = k := by
  rw [tget_eq] at h
  simpa using List.find?_some h

theorem tget_append_single (rows : List (User κ)) (u : User κ) (k : κ) :
    tget (rows ++ [u]) k = if u.name = k then some u else tget rows k := by
  by_cases h : u.name = k <;> simp [tget_eq, h]

theorem tget_update (rows : List (User κ)) (n : κ) (u : User κ) (hu : u.name = n) (k : κ) :
    tget (tblUpdate rows n u) k = if n = k then (tget rows n).map (fun _ => u) else tget rows k := by
  -- the update does not change any row's name, so the same row is found
  have hp : ((fun r : User κ => decide (r.name = k)) ∘ fun r => if r.name = n then u else r) =
      fun r => decide (r.name = k) := by
    funext r
    by_cases h : r.name = n <;> simp [h, hu]
  rw [tget_eq, tblUpdate, ← List.map_reverse, List.find?_map, hp, ← tget_eq]
  by_cases h : n = k
  · subst h
    cases ht : tget rows n with
    | none => simp
    | some r => simp [tget_name ht]
  · rw [if_neg h]
    cases ht : tget rows k with
    | none => rfl
    | some r => simp [tget_name ht, Ne.symm h]

theorem tget_delete (rows : List (User κ)) (n k : κ) :
    tget (tblDelete rows n) k = if n = k then none else tget rows k := by
  rw [tget_eq, tget_eq, tblDelete, ← List.filter_reverse, List.find?_filter]
  by_cases h : n = k
  · simp [h]
  · rw [if_neg h]
    congr 1
    funext r
    by_cases h2 : r.name = k <;> simp [h2]
    exact Ne.symm h

theorem aget_dbListing_aux (E : Ext κ) (mask : Bool) (rows : List (User κ)) (acc : AList κ (User κ)) (k : κ) :
    aget (rows.foldl (fun acc r => aput acc r.name (maskU E mask r)) acc) k
      = match tget rows k with
        | some u => some (maskU E mask u)
        | none => aget acc k := by
  induction rows generalizing acc with
  | nil => simp [tget]
  | cons r rs ih =>
    simp only [List.foldl_cons, ih, tget]
    cases h2 : tget rs k with
    | some v => rfl
    | none =>
      simp only [aget_aput]
      by_cases h3 : r.name = k <;> simp [h3]

theorem aget_dbListing (E : Ext κ) (mask : Bool) (rows : List (User κ)) (k : κ) :
    aget (dbListing E rows mask) k = (tget rows k).map (maskU E mask) := by
  unfold dbListing
  rw [aget_dbListing_aux]
  cases tget rows k <;> rfl

structure Sim {σ₁ σ₂ : Type} (S₁ : Svc κ σ₁) (S₂ : Svc κ σ₂) (R : σ₁ → σ₂ → Prop) : Prop where
  blank : R S₁.blank S₂.blank
  read : ∀ a b n, R a b → R (S₁.read a n).1 (S₂.read b n).1 ∧ (S₁.read a n).2 = (S₂.read b n).2
  write : ∀ a b u, R a b → R (S₁.write a u).1 (S₂.write b u).1 ∧ (S₁.write a u).2 = (S₂.write b u).2
  delete : ∀ a b n, R a b → R (S₁.delete a n).1 (S₂.delete b n).1 ∧ (S₁.delete a n).2 = (S₂.delete b n).2
  list : ∀ a b m k, R a b → aget (S₁.listing a m) k = aget (S₂.listing b m) k
  flush : ∀ a b, R a b → R (S₁.flush a).1 (S₂.flush b).1 ∧ (S₁.flush a).2 = (S₂.flush b).2
  reopen : ∀ a b d, R a b → R (S₁.reopen a d) (S₂.reopen b d)
  evict : ∀ a b n, R a b → R (S₁.evict a n) (S₂.evict b n)

variable {σ₁ σ₂ : Type} {S₁ : Svc κ σ₁} {S₂ : Svc κ σ₂} {R : σ₁ → σ₂ → Prop}

def Rel2 (R : σ₁ → σ₂ → Prop) (x : σ₁ × Ans κ) (y : σ₂ × Ans κ) : Prop := R x.1 y.1 ∧ x.2 = y.2

theorem writeFlush_sim (h : Sim S₁ S₂ R) {a : σ₁} {b : σ₂} (hab : R a b) (u : User κ) :
    Rel2 R (writeFlush S₁ a u) (writeFlush S₂ b u) := by
  obtain ⟨hw, hwe⟩ := h.write a b u hab
  unfold writeFlush
  simp only [hwe]
  cases hb : (S₂.write b u).2
  · exact ⟨hw, rfl⟩
  · obtain ⟨hf, hfe⟩ := h.flush _ _ hw
    simp only [if_true]
    exact ⟨hf, by rw [hfe]⟩

theorem setPermission_sim (E : Ext κ) (h : Sim S₁ S₂ R) {a : σ₁} {b : σ₂} (hab : R a b) (n p : κ) (e : Bool) :
    Rel2 R (setPermission E S₁ a n p e) (setPermission E S₂ b n p e) := by
  obtain ⟨hr, hre⟩ := h.read a b n hab
  unfold setPermission
  simp only [hre]
  cases (S₂.read b n).2 with
  | none => exact ⟨hr, rfl⟩
  | some u => exact writeFlush_sim h hr _

theorem delUser_sim (E : Ext κ) (h : Sim S₁ S₂ R) {a : σ₁} {b : σ₂} (hab : R a b) (n : κ) :
    Rel2 R (delUser E S₁ a n) (delUser E S₂ b n) := by
  obtain ⟨hr, hre⟩ := h.read a b (E.lower n) hab
  unfold delUser
  simp only [hre]
  cases (S₂.read b (E.lower n)).2 with
  | none => exact ⟨hr, rfl⟩
  | some u =>
    obtain ⟨hd, hde⟩ := h.delete _ _ (E.lower n) hr
    simp only [hde]
    cases (S₂.delete (S₂.read b (E.lower n)).1 (E.lower n)).2
    · exact ⟨hd, rfl⟩
    · obtain ⟨hf, hfe⟩ := h.flush _ _ hd
      simp only [if_true]
      exact ⟨hf, by rw [hfe]⟩

theorem step_sim (E : Ext κ) (h : Sim S₁ S₂ R) {a : σ₁} {b : σ₂} (hab : R a b) (op : Op κ) :
    Rel2 R (step E S₁ a op) (step E S₂ b op) := by
  cases op with
  | write u => exact (h.write a b u hab).imp id (congrArg okErr)
  | delete n => exact (h.delete a b n hab).imp id (congrArg okErr)
  | read n => exact (h.read a b n hab).imp id fun e => by simp only [step, e]
  | list m =>
    refine ⟨hab, ?_⟩
    simp only [step]
    congr 1
    funext k
    exact h.list a b m k hab
  | grant n p => exact setPermission_sim E h hab n p true
  | revoke n p => exact setPermission_sim E h hab n p false
  | has n p =>
    obtain ⟨hr, hre⟩ := h.read a b n hab
    simp only [step, getPermission, hre]
    cases (S₂.read b n).2 <;> exact ⟨hr, rfl⟩
  | perms n =>
    obtain ⟨hr, hre⟩ := h.read a b n hab
    simp only [step, getPermissions, hre]
    cases (S₂.read b n).2 <;> exact ⟨hr, rfl⟩
  | flush => exact (h.flush a b hab).imp id (congrArg okErr)
  | reopen d => exact ⟨h.reopen a b d hab, rfl⟩
  | evict n => exact ⟨h.evict a b n hab, rfl⟩
  | setUser n hs pm i =>
    obtain ⟨hr, hre⟩ := h.read a b (E.lower n) hab
    simp only [step, setUser, hre]
    exact writeFlush_sim h hr _
  | delUser n => exact delUser_sim E h hab n

theorem run_sim (E : Ext κ) (h : Sim S₁ S₂ R) (ops : List (Op κ)) {a : σ₁} {b : σ₂} (hab : R a b) :
    R (run E S₁ a ops).1 (run E S₂ b ops).1 ∧ (run E S₁ a ops).2 = (run E S₂ b ops).2 := by
  induction ops generalizing a b with
  | nil => exact ⟨hab, rfl⟩
  | cons op rest ih =>
    obtain ⟨h1, h2⟩ := step_sim E h hab op
    obtain ⟨h3, h4⟩ := ih h1
    exact ⟨h3, by simp only [run, h2, h4]⟩

theorem answers_sim (E : Ext κ) (h : Sim S₁ S₂ R) (ops : List (Op κ)) :
    answers E S₁ ops = answers E S₂ ops := (run_sim E h ops h.blank).2

structure Inv {σ : Type} (S : Svc κ σ) (P : σ → Prop) : Prop where
  blank : P S.blank
  read : ∀ a n, P a → P (S.read a n).1
  write : ∀ a u, P a → P (S.write a u).1
  delete : ∀ a n, P a → P (S.delete a n).1
  flush : ∀ a, P a → P (S.flush a).1
  reopen : ∀ a d, P a → P (S.reopen a d)
  evict : ∀ a n, P a → P (S.evict a n)

theorem Inv.toSim {σ : Type} {S : Svc κ σ} {P : σ → Prop} (h : Inv S P) : Sim S S (fun a b => a = b ∧ P a) where
  blank := ⟨rfl, h.blank⟩
  read a b n hab := by cases hab.1; exact ⟨⟨rfl, h.read a n hab.2⟩, rfl⟩
  write a b u hab := by cases hab.1; exact ⟨⟨rfl, h.write a u hab.2⟩, rfl⟩
  delete a b n hab := by cases hab.1; exact ⟨⟨rfl, h.delete a n hab.2⟩, rfl⟩
  list a b m k hab := by cases hab.1; rfl
  flush a b hab := by cases hab.1; exact ⟨⟨rfl, h.flush a hab.2⟩, rfl⟩
  reopen a b d hab := by cases hab.1; exact ⟨rfl, h.reopen a d hab.2⟩
  evict a b n hab := by cases hab.1; exact ⟨rfl, h.evict a n hab.2⟩

theorem run_inv {σ : Type} {S : Svc κ σ} {P : σ → Prop} (E : Ext κ) (h : Inv S P) (ops : List (Op κ)) {a : σ} (ha : P a) :
    P (run E S a ops).1 :=
  (run_sim E h.toSim ops ⟨rfl, ha⟩).1.2

/-! ### users_file.go refines UserMap (policy: default user when the map is empty) -/

variable {β : Type}

def loaded (C : FileCodec κ β) (disk : Option β) : UserMap κ := match disk with | some b => C.dec b | none => []

def RFile (C : FileCodec κ β) (s : FileSt κ β) (m : UserMap κ) : Prop :=
  (∀ k, aget s.data k = aget m k) ∧ (∀ k u, aget m k = some u → u.name = k) ∧
  (s.dirty = false → ∀ k, aget (loaded C s.disk) k = aget m k)

theorem fileFlush_R (C : FileCodec κ β) {s : FileSt κ β} {m : UserMap κ} (h : RFile C s m) :
    RFile C (fileFlush C s).1 m ∧ (fileFlush C s).1.dirty = false ∧ (fileFlush C s).2 = true := by
  obtain ⟨h1, h2, h3⟩ := h
  unfold fileFlush
  cases hd : s.dirty <;> simp only [Bool.false_eq_true, if_false, if_true]
  · exact ⟨⟨h1, h2, h3⟩, hd, trivial⟩
  · exact ⟨⟨h1, h2, fun _ k => by simp only [loaded, C.rt, h1]⟩, trivial, trivial⟩

theorem file_sim (E : Ext κ) (C : FileCodec κ β) : Sim (fileSvc E C) (specSvc E polFile) (RFile C) where
  blank := ⟨fun _ => rfl, fun _ _ h => by simp [specSvc] at h, fun _ _ => rfl⟩
  read a b n h := ⟨h, h.1 n⟩
  write a b u h :=
    ⟨⟨fun k => by simp only [fileSvc, specSvc, aget_aput, h.1], aget_aput_some rfl fun k v _ => h.2.1 k v,
      fun hd => by simp [fileSvc] at hd⟩, rfl⟩
  delete a b n h := by
    obtain ⟨h1, h2, h3⟩ := h
    have hk2 := aget_adel_some (m := b) (n := n) fun k v _ => h2 k v
    simp only [fileSvc, specSvc]
    cases hr : aget a.data n with
    | some u =>
      have hu : u.name = n := h2 n u (by rw [← h1, hr])
      exact ⟨⟨fun k => by simp only [hu, aget_adel, h1], hk2, fun hd => by simp at hd⟩, rfl⟩
    | none =>
      -- nothing is filed under `n`, so deleting it from the map changes nothing
      have same : ∀ k, aget (adel b n) k = aget b k := fun k => by
        rw [aget_adel]
        split
        · rw [← ‹n = k›, ← h1, hr]
        · rfl
      exact ⟨⟨fun k => by rw [same, h1], hk2, fun hd k => by rw [same]; exact h3 hd k⟩, rfl⟩
  list a b m k h := by
    simp only [fileSvc, specSvc, aget_map_val, h.1]
  flush a b h := by
    obtain ⟨hR, _, hok⟩ := fileFlush_R C h
    exact ⟨hR, by simp only [fileSvc, specSvc, hok]⟩
  reopen a b d h := by
    obtain ⟨⟨_, h2, h3⟩, hd, _⟩ := fileFlush_R C h
    have hl := h3 hd
    have he : (loaded C (fileFlush C a).1.disk).isEmpty = b.isEmpty := isEmpty_congr hl
    simp only [fileSvc, specSvc, polFile, fileOpen]
    change RFile C (if (loaded C (fileFlush C a).1.disk).isEmpty = true then _ else _) _
    rw [he]
    by_cases hb : b.isEmpty = true
    · simp only [hb, if_true]
      cases List.isEmpty_iff.mp hb
      exact ⟨fun k => rfl, aget_aput_some rfl fun _ _ _ hv => by simp at hv, fun hh => by simp at hh⟩
    · simp only [hb]
      exact ⟨hl, h2, fun _ => hl⟩
  evict a b n h := h

/-- **C31 (file store).** For every history, the file-backed store gives exactly the answers of the
    UserMap specification (default user re-created at open iff the map is empty). -/
theorem C31_file_refines (E : Ext κ) (C : FileCodec κ β) (h : List (Op κ)) :
    answers E (fileSvc E C) h = answers E (specSvc E polFile) h :=
  answers_sim E (file_sim E C) h

/-! ### users_sqldb.go refines UserMap (policy: default user when it is missing) -/

/-- the table is the map; every cache entry is the current row -/
def RDb (s : DbSt κ) (m : UserMap κ) : Prop :=
  (∀ k, tget s.rows k = aget m k) ∧ (∀ k u, aget s.cache k = some u → tget s.rows k = some u)

theorem dbRead_R {s : DbSt κ} {m : UserMap κ} (h : RDb s m) (n : κ) :
    ∃ s1, dbRead s n = (s1, aget m n) ∧ RDb s1 m := by
  obtain ⟨h1, h2⟩ := h
  unfold dbRead
  cases hc : aget s.cache n with
  | some u => exact ⟨s, by rw [← h1, h2 n u hc], h1, h2⟩
  | none =>
    cases ht : tget s.rows n with
    | none => exact ⟨s, by rw [← h1, ht], h1, h2⟩
    | some u => exact ⟨{ s with cache := aput s.cache n u }, by rw [← h1, ht], h1, aget_aput_some ht fun k v _ => h2 k v⟩

theorem tblInsert_fresh {rows : List (User κ)} {u : User κ} (h : tget rows u.name = none) :
    tblInsert rows u = (rows ++ [u], true) := by
  rw [tget_eq, List.find?_eq_none] at h
  simpa [tblInsert] using h

theorem db_sim (E : Ext κ) : Sim (dbSvc E) (specSvc E (polDb E)) RDb where
  blank := ⟨fun _ => rfl, fun _ _ h => by simp [dbSvc] at h⟩
  read a b n h := by
    obtain ⟨s1, hrd, hR⟩ := dbRead_R h n
    simp only [dbSvc, hrd]
    exact ⟨hR, rfl⟩
  write a b u h := by
    -- after the cache entry is dropped the state is still coherent
    have h0 : RDb { a with cache := adel a.cache u.name } b := ⟨h.1, aget_adel_some fun k v _ => h.2 k v⟩
    obtain ⟨s1, hrd, g1, g2⟩ := dbRead_R h0 u.name
    simp only [dbSvc, specSvc, dbWrite, hrd]
    -- whichever statement ran, the table now maps `u.name` to `u` and is otherwise unchanged
    have cacheOK : ∀ (rows' : List (User κ)), (∀ k, tget rows' k = if u.name = k then some u else tget s1.rows k) →
        RDb { rows := rows', cache := aput s1.cache u.name u } (aput b u.name u) := fun rows' hr =>
      ⟨fun k => by rw [hr, aget_aput, g1],
        aget_aput_some (by rw [hr, if_pos rfl]) fun k v hk hv => by rw [hr, if_neg (Ne.symm hk)]; exact g2 k v hv⟩
    cases he : aget b u.name with
    | some w =>
      refine ⟨cacheOK _ (fun k => ?_), rfl⟩
      rw [tget_update _ _ _ rfl, g1, he]
      by_cases hk : u.name = k <;> simp [hk]
    | none =>
      simp only [tblInsert_fresh (g1 _ ▸ he)]
      exact ⟨cacheOK _ (fun k => tget_append_single _ _ _), trivial⟩
  delete a b n h :=
    ⟨⟨fun k => by simp only [dbSvc, dbDelete, specSvc, tget_delete, aget_adel, h.1],
      aget_adel_some fun k v hk hv => by
        simp only [dbSvc, dbDelete, tget_delete, if_neg (Ne.symm hk)]
        exact h.2 k v hv⟩, rfl⟩
  list a b m k h := by
    simp only [dbSvc, specSvc, aget_dbListing, aget_map_val, h.1]
  flush a b h := ⟨h, rfl⟩
  reopen a b d h := by
    simp only [dbSvc, specSvc, dbOpen, polDb]
    by_cases hn : d.name = E.empty
    · simpa [hn] using h
    · obtain ⟨s1, hrd, g1, g2⟩ := dbRead_R h d.name
      simp only [hn, if_false, ne_eq, not_false_eq_true, decide_true, Bool.true_and, hrd]
      cases he : aget b d.name with
      | some w => exact ⟨g1, g2⟩
      | none =>
        have hnone : tget s1.rows d.name = none := g1 _ ▸ he
        simp only [Option.isNone_none, if_true, tblInsert_fresh hnone]
        refine ⟨fun k => by rw [tget_append_single, aget_aput, g1], fun k v hv => ?_⟩
        -- a cached name is in the table, so it is not the name just inserted
        have := g2 k v hv
        have hk : ¬ d.name = k := fun hk => by rw [← hk, hnone] at this; cases this
        rw [tget_append_single, if_neg hk, this]
  evict a b n h := ⟨h.1, aget_adel_some fun k v _ => h.2 k v⟩

/-- **C31 (database store).** For every history -- including arbitrary cache evictions -- the
    database-backed store gives exactly the answers of the UserMap specification (default user
    re-created at open iff it is missing). -/
theorem C31_db_refines (E : Ext κ) (h : List (Op κ)) :
    answers E (dbSvc E) h = answers E (specSvc E (polDb E)) h :=
  answers_sim E (db_sim E) h

theorem spec_step_pol (E : Ext κ) (p q : UserMap κ → User κ → Bool) (m : UserMap κ) (op : Op κ)
    (h : ∀ d, op = .reopen d → p m d = q m d) :
    step E (specSvc E p) m op = step E (specSvc E q) m op := by
  cases op with
  | reopen d => simp only [step, specSvc, h d rfl]
  | _ => rfl

theorem spec_run_pol (E : Ext κ) (ops : List (Op κ)) (m : UserMap κ) (h : polAgree E m ops = true) :
    run E (specSvc E polFile) m ops = run E (specSvc E (polDb E)) m ops := by
  induction ops generalizing m with
  | nil => rfl
  | cons op rest ih =>
    simp only [polAgree, Bool.and_eq_true] at h
    simp only [run, spec_step_pol E polFile (polDb E) m op (fun d hd => by subst hd; simpa using h.1), ih _ h.2]

/-- **C31 (agreement), partial.** On every history along which the two default-user policies take the
    same decision at each (re)open -- in particular every history that never reopens while the default
    user is missing -- the file-backed and the database-backed store give identical answers, before and
    after any number of flush / close / reopen steps and cache evictions. -/
theorem C31_agree_partial (E : Ext κ) (C : FileCodec κ β) (h : List (Op κ)) (hp : polAgree E [] h = true) :
    answers E (fileSvc E C) h = answers E (dbSvc E) h := by
  rw [C31_file_refines, C31_db_refines]
  exact congrArg Prod.snd (spec_run_pol E h [] hp)

/-- At every reopen the default user named by that reopen has a name other than "" and is present
    (or the map is empty): a sufficient condition for `polAgree`. -/
def dfltKept (E : Ext κ) : UserMap κ → List (Op κ) → Bool
  | _, [] => true
  | m, op :: rest =>
    (match op with
     | .reopen d => decide (d.name ≠ E.empty) && (m.isEmpty || (aget m d.name).isSome)
     | _ => true) && dfltKept E (step E (specSvc E (polDb E)) m op).1 rest

theorem polAgree_of_dfltKept (E : Ext κ) (ops : List (Op κ)) (m : UserMap κ) (h : dfltKept E m ops = true) :
    polAgree E m ops = true := by
  induction ops generalizing m with
  | nil => rfl
  | cons op rest ih =>
    simp only [dfltKept, Bool.and_eq_true] at h
    obtain ⟨h1, h2⟩ := h
    simp only [polAgree, Bool.and_eq_true]
    refine ⟨?_, ih _ h2⟩
    cases op with
    | reopen d =>
      simp only [Bool.and_eq_true, Bool.or_eq_true, decide_eq_true_eq] at h1
      obtain ⟨hn, hm⟩ := h1
      simp only [polFile, polDb, hn, ne_eq, not_false_eq_true, decide_true, Bool.true_and, beq_iff_eq]
      -- the file policy asks whether the map is empty, the database policy whether `d` is missing
      cases m with
      | nil => rfl
      | cons p m' =>
        rw [List.isEmpty_cons, Bool.false_eq_true, false_or] at hm
        obtain ⟨v, hv⟩ := Option.isSome_iff_exists.mp hm
        rw [List.isEmpty_cons, hv]
        rfl
    | _ => rfl

/-- WriteUser, DeleteUser and Flush of the service always return a nil error. -/
structure NoFail {σ : Type} (S : Svc κ σ) : Prop where
  write : ∀ a u, (S.write a u).2 = true
  delete : ∀ a n, (S.delete a n).2 = true
  flush : ∀ a, (S.flush a).2 = true

theorem step_noerr {σ : Type} {S : Svc κ σ} (E : Ext κ) (h : NoFail S) (a : σ) (op : Op κ) :
    (step E S a op).2 ≠ Ans.err := by
  -- every client function answers `err` only when a write, delete or flush reported failure
  have hwf : ∀ s u, (writeFlush S s u).2 ≠ Ans.err := fun s u => by simp [writeFlush, okErr, h.write, h.flush]
  cases op with
  | write u | delete n | flush => simp [step, okErr, h.write, h.delete, h.flush]
  | grant n p | revoke n p =>
    simp only [step, setPermission]
    split
    · nofun
    · exact hwf _ _
  | setUser n hs pm i => exact hwf _ _
  | delUser n =>
    simp only [step, delUser, h.delete, h.flush, if_true]
    split <;> nofun
  | read n | has n p | perms n =>
    simp only [step, getPermission, getPermissions]
    split <;> nofun
  | list m | reopen d | evict n => nofun

theorem run_noerr {σ : Type} {S : Svc κ σ} (E : Ext κ) (h : NoFail S) (ops : List (Op κ)) (s : σ) :
    ∀ a ∈ (run E S s ops).2, a ≠ Ans.err := by
  induction ops generalizing s with
  | nil => simp [run]
  | cons op rest ih =>
    simp only [run, List.forall_mem_cons]
    exact ⟨step_noerr E h s op, ih _⟩

/-- **C31 (no primary-key conflict).** In every history the database store never reports an error:
    WriteUser's read-then-insert never hits an existing key, whatever the cache holds. -/
theorem C31_db_write_never_fails (E : Ext κ) (h : List (Op κ)) : ∀ a ∈ answers E (dbSvc E) h, a ≠ Ans.err := by
  rw [C31_db_refines]
  exact run_noerr E ⟨fun _ _ => rfl, fun _ _ => rfl, fun _ => rfl⟩ h []

def KeysUnique (s : DbSt κ) : Prop := (s.rows.map (·.name)).Nodup

theorem dbRead_rows (s : DbSt κ) (n : κ) : (dbRead s n).1.rows = s.rows := by
  unfold dbRead
  cases aget s.cache n with
  | some u => rfl
  | none => cases tget s.rows n <;> rfl

theorem names_update (rows : List (User κ)) (n : κ) (u : User κ) (hu : u.name = n) :
    (tblUpdate rows n u).map (·.name) = rows.map (·.name) := by
  rw [tblUpdate, List.map_map]
  congr 1
  funext r
  by_cases h : r.name = n <;> simp [h, hu]

theorem nodup_insert (rows : List (User κ)) (u : User κ) (h : (rows.map (·.name)).Nodup) :
    ((tblInsert rows u).1.map (·.name)).Nodup := by
  unfold tblInsert
  split
  · exact h
  · rename_i hany
    simp only [List.any_eq_true, decide_eq_true_eq, not_exists, not_and] at hany
    simpa [List.nodup_append, h] using hany

theorem nodup_delete (rows : List (User κ)) (n : κ) (h : (rows.map (·.name)).Nodup) :
    ((tblDelete rows n).map (·.name)).Nodup :=
  List.Nodup.sublist (List.Sublist.map _ List.filter_sublist) h

theorem db_inv (E : Ext κ) : Inv (dbSvc E) KeysUnique where
  blank := by simp [KeysUnique, dbSvc]
  read a n h := by simp only [KeysUnique, dbSvc, dbRead_rows]; exact h
  write a u h := by
    have hr := dbRead_rows { a with cache := adel a.cache u.name } u.name
    simp only [KeysUnique, dbSvc, dbWrite] at h ⊢
    split <;> simp_all [names_update, nodup_insert]
  delete a n h := nodup_delete _ _ h
  flush a h := h
  reopen a d h := by
    have hr := dbRead_rows a d.name
    simp only [KeysUnique, dbSvc, dbOpen] at h ⊢
    split
    · exact h
    · split <;> simp_all [nodup_insert]
  evict a n h := h

/-- **C31 (primary key).** In every history the `credentials` table never holds two rows with the same
    name, so ListUsers' `r[user.Name] = *user` never overwrites. -/
theorem C31_db_keys_unique (E : Ext κ) (h : List (Op κ)) : KeysUnique (run E (dbSvc E) (dbSvc E).blank h).1 :=
  run_inv E (db_inv E) h (db_inv E).blank

/-! ### counterexample and non-vacuity (κ := Nat) -/

def EN : Ext Nat := { lower := id, fold := fun a b => a == b, logon := 100, stars := 101, empty := 0, dot := 102 }
def CN : FileCodec Nat (UserMap Nat) := { enc := id, dec := id, rt := fun _ _ => rfl }
def uN (n : Nat) (perms : List Nat) : User Nat := { name := n, id := n + 50, pw := n + 60, perms := perms, tok := 0, keys := 0 }
def admin1 : User Nat := { name := 1, id := 11, pw := 12, perms := [7, 8], tok := 0, keys := 0 }
def admin2 : User Nat := { name := 1, id := 21, pw := 22, perms := [7, 8], tok := 0, keys := 0 }

/-- start, create bob, delete the default user, restart, look the default user up -/
def ceHist : List (Op Nat) := [.reopen admin1, .write (uN 2 []), .delete 1, .reopen admin2, .read 1]

/-- **C31 (agreement) fails on the current tree**: after the default user was deleted, a restart makes the
    file store answer "no such user" and the database store answer with a freshly created default user. -/
theorem C31_agree_counterexample :
    answers EN (fileSvc EN CN) ceHist = [.ok, .ok, .ok, .ok, .notFound] ∧
    answers EN (dbSvc EN) ceHist = [.ok, .ok, .ok, .ok, .user admin2] ∧
    polAgree EN [] ceHist = false := ⟨rfl, rfl, rfl⟩

/-- a history meeting the hypothesis of `C31_agree_partial`: create, grant, flush, restart, revoke, update,
    delete, evict, restart, observe -/
def okHist : List (Op Nat) :=
  [.reopen admin1, .write (uN 2 []), .write (uN 3 [5]), .grant 2 9, .flush, .reopen admin2, .revoke 3 5, .write (uN 2 [4]),
   .delete 3, .evict 2, .setUser 4 (some 77) (some [5, 102, 6]) 88, .reopen admin2, .read 2, .perms 2, .has 1 7, .delUser 4, .read 4]

example : polAgree EN [] okHist = true := by decide
example : dfltKept EN [] okHist = true := by decide
example : answers EN (dbSvc EN) okHist =
    [.ok, .ok, .ok, .ok, .ok, .ok, .ok, .ok, .ok, .ok, .ok, .ok, .user (uN 2 [4]), .strs [4], .bool true, .bool true, .notFound] := rfl
example : answers EN (fileSvc EN CN) okHist = answers EN (dbSvc EN) okHist := C31_agree_partial EN CN okHist (by decide)

end
end EgoVerif.C31
