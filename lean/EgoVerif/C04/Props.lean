import EgoVerif.C04.Model
import EgoVerif.C03.Props
/-
C04 — every coercion boundary of the model except the `interface{}` parameter is MONOTONE in the type
mode: whenever the strict-mode operation succeeds, the relaxed-mode operation succeeds with the same value
and the same type, for ALL operands; lifted by induction over statement lists to straight-line programs.
The dispatch sets `D` are arbitrary (no completeness hypothesis is needed: both modes consult the same
type switch).
-/
namespace EgoVerif.C04
open EgoVerif.C03

def resErr : Res → Bool
  | .err _ => true
  | _ => false

theorem lossless_eq (k : Kind) (n : Int) :
    coerceIntLossless k n = if inRange k n then .ok n else .error .lossOfPrecision := rfl

theorem coerce_fits {k : Kind} {n : Int} (h : inRange k n = true) : coerceInt k n = n := by
  simpa [inRange, coerceInt] using h

/-- a test that only strict mode makes, in front of a result that does not depend on the mode -/
theorem strictTest_mono {p : Bool} {e : Err} {N : Norm} (hne : ∀ e', (if true && p then .err e else N) ≠ .err e') :
    (if false && p then .err e else N) = if true && p then .err e else N := by
  cases p
  · rfl
  · exact absurd rfl (hne e)

theorem normalize_mono (a b : Operand) (hne : ∀ e, normalize a b true ≠ .err e) :
    normalize a b false = normalize a b true := by
  -- only a constant next to a variable is treated differently by the two modes
  cases a with
  | var kv nv =>
    cases b with
    | var k2 n2 => rfl
    | const kc nc =>
      simp only [normalize_var_const] at hne ⊢
      exact strictTest_mono hne
    | constFlt w fr => exact strictTest_mono hne
  | const kc nc =>
    cases b with
    | var kv nv =>
      simp only [normalize_const_var] at hne ⊢
      exact strictTest_mono hne
    | const k2 n2 => rfl
    | constFlt w fr => rfl
  | constFlt w fr =>
    cases b with
    | var kv nv => exact strictTest_mono hne
    | const k2 n2 => rfl
    | constFlt w2 fr2 => rfl

/-- **expression boundary.** add/sub/mul/div/mod: whatever strict mode computes without error,
relaxed mode computes identically (value AND type) — all operands, all operators, any dispatch sets. -/
theorem C04_mono_binop (D : Dispatch) (op : Op) (a b : Operand) (r : Res)
    (h : binop D true op a b = r) (hok : resErr r = false) : binop D false op a b = r := by
  subst h
  simp only [binop] at hok ⊢
  by_cases hg : (!(a.isConst || b.isConst) && true && a.kindOrd != b.kindOrd) = true
  · rw [if_pos hg] at hok; simp [resErr] at hok
  · have hg' : ¬ ((!(a.isConst || b.isConst) && false && a.kindOrd != b.kindOrd) = true) := by simp
    rw [if_neg hg] at hok
    rw [if_neg hg', if_neg hg, normalize_mono a b fun e he => by simp [he, resErr] at hok]

/-- the same statement in the `.ok` form used in the property text -/
theorem C04_mono_binop_ok (D : Dispatch) (op : Op) (a b : Operand) (k : Kind) (n : Int)
    (h : binop D true op a b = .ok k n) : binop D false op a b = .ok k n :=
  C04_mono_binop D op a b _ h rfl

/-- unary minus does not consult the type mode at all (negateByteCode) -/
theorem C04_mono_negate (D : Dispatch) (a : Operand) : ∀ _m₁ _m₂ : Mode, negate D a = negate D a :=
  fun _ _ => rfl

/-- **assignment boundary, computed value** (Context.checkTypeCore, non-constant) -/
theorem C04_mono_store (kx : Kind) (v r : Res) (h : store .strict kx v = r) (hok : resErr r = false) :
    store .relaxed kx v = r := by
  subst h
  cases v with
  | ok k n =>
    simp only [store] at hok ⊢
    by_cases hk : (k == kx) = true
    · simp [hk]
    · simp [hk, resErr] at hok
  | float => rfl
  | err e => rfl

/-- `x op= e`: Store passes an error of the arithmetic instruction on, so a strict success of the pair is a
strict success of the instruction -/
theorem store_binop_mono (D : Dispatch) (op : Op) (kx : Kind) (a b : Operand)
    (hok : resErr (store .strict kx (binop D true op a b)) = false) :
    store .relaxed kx (binop D false op a b) = store .strict kx (binop D true op a b) := by
  have hb : resErr (binop D true op a b) = false := by
    cases hbb : binop D true op a b with
    | err e => rw [hbb] at hok; exact hok
    | ok k n => rfl
    | float => rfl
  rw [C04_mono_binop D op a b _ rfl hb]
  exact C04_mono_store kx _ _ rfl hok

/-- **fused Increment**: it is `x += c` over the kinds of Increment's own type switch -/
theorem C04_mono_increment (D : Dispatch) (kx : Kind) (nx : Int) (c : Operand) (r : Res)
    (h : increment D .strict kx nx c = r) (hok : resErr r = false) : increment D .relaxed kx nx c = r := by
  subst h
  have he := fun m => increment_eq_stmtUnfused (D := D) (D' := { D with add := D.incr }) (fun _ => rfl) m kx nx c
  simp only [he] at hok ⊢
  exact store_binop_mono _ .add kx _ c hok

/-- **assignment boundary, constants included** -/
theorem C04_mono_storeOp (kx : Kind) (o : Operand) (r : Res) (h : storeOp .strict kx o = r)
    (hok : resErr r = false) : storeOp .relaxed kx o = r := by
  subst h
  -- a table over the tests the code makes; in each cell strict mode fails or both modes agree
  cases o with
  | var k n => exact C04_mono_store kx (.ok k n) _ rfl hok
  | const k n =>
    by_cases hk : (k == kx) = true <;> cases hr : inRange kx n <;>
      simp [storeOp, hk, hr, lossless_eq, coerce_fits, resErr] at hok ⊢
  | constFlt w fr =>
    cases fr <;> cases hr : inRange kx w <;> simp [storeOp, hr, coerce_fits, resErr] at hok ⊢

/-- **argument boundary** (integer-kind parameter; callee validated or not) -/
theorem C04_mono_arg (validated : Bool) (kp : Kind) (o : Operand) (r : BRes)
    (h : argK .strict validated kp o = r) (hok : r.isErr = false) : argK .relaxed validated kp o = r := by
  subst h
  have hv : validateArg .relaxed validated kp o = true := by simp [validateArg, Mode.isStrict]
  by_cases hs : validateArg .strict validated kp o = true
  · simp only [argK, hv, hs, if_true] at hok ⊢
    cases o with
    | var k n => by_cases hk : (k == kp) = true <;> simp [fetchArg, hk, BRes.isErr] at hok ⊢
    | const k n =>
      cases hnum : numericType kp <;> by_cases hk : (k == kp) = true <;> cases hr : inRange kp n <;>
        simp [fetchArg, hnum, hk, hr, lossless_eq, coerce_fits, BRes.isErr] at hok ⊢
    | constFlt w fr =>
      cases hnum : numericType kp <;> cases fr <;> cases hr : inRange kp w <;>
        simp [fetchArg, hnum, hr, coerce_fits, BRes.isErr] at hok ⊢
  · simp [argK, hs, BRes.isErr] at hok

/-- **return boundary** (integer-kind result type) -/
theorem C04_mono_ret (kr : Kind) (o : Operand) (r : BRes)
    (h : retK .strict kr o = r) (hok : r.isErr = false) : retK .relaxed kr o = r := by
  subst h
  cases o with
  | var k n => by_cases hk : (k == kr) = true <;> simp [retK, hk, BRes.isErr] at hok ⊢
  | const k n =>
    cases hnum : numericType kr <;> by_cases hk : (k == kr) = true <;> cases hr : inRange kr n <;>
      simp [retK, hnum, hk, hr, lossless_eq, coerce_fits, BRes.isErr] at hok ⊢
  | constFlt w fr =>
    cases hnum : numericType kr <;> cases fr <;> cases hr : inRange kr w <;>
      simp [retK, hnum, hr, coerce_fits, BRes.isErr] at hok ⊢

/-- **known finding (not fixed).** An `interface{}` parameter is NOT monotone: strict mode binds the
    bare value, relaxed mode binds a data.Interface wrapper (observable: `fmt.Println(x)` prints
    `5` in strict mode and `interface{ int 5 }` in relaxed mode). -/
theorem C04_argIface_counterexample :
    argIface .strict (.var .int 5) = .ok .int 5 ∧ argIface .relaxed (.var .int 5) = .wrapped .int 5 := by
  decide

def BRes.payload : BRes → Option (Kind × Int)
  | .ok k n => some (k, n)
  | .wrapped k n => some (k, n)
  | _ => none

/-- … and that is the only way the interface parameter differs: the carried value and kind agree, and neither
mode fails -/
theorem C04_argIface_partial (o : Operand) :
    (argIface .strict o).payload = (argIface .relaxed o).payload ∧
    ((argIface .strict o).isErr = false ∧ (argIface .relaxed o).isErr = false) := by
  cases o <;> simp [argIface, BRes.payload, BRes.isErr]

theorem C04_mono_retIface (o : Operand) (r : BRes) (h : retIface .strict o = r) : retIface .relaxed o = r := h

theorem C04_mono_retNil (b : Bool) (r : BRes) (h : retNil .strict b = r) : retNil .relaxed b = r := h

/-- the defect before fixes/C04.patch: `func f() map[string]int { return nil }` ran in strict mode
    and failed in relaxed mode -/
theorem C04_prefix_retNil_counterexample :
    retNilPre .strict true = .nil ∧ retNilPre .relaxed true = .err .invalidType := by decide

/-- reference values at the return boundary: when `IsType` answers the same in both directions for the
    operand (it does for every container the harness builds; the hypothesis is what the harness measures
    with the real `IsType`), a container that strict mode hands back AS ITSELF is handed back as itself in
    relaxed and dynamic mode too — so aliasing between the callee's name and the caller's name is the same
    in every type mode. -/
theorem C04_mono_retRef (m : Mode) (k : RefKind) (vIsT tIsV : Bool) (hsym : vIsT = true → tIsV = true)
    (r : RefRes) (h : retRef .strict k vIsT tIsV = r) (hok : ∀ e, r ≠ .err e) : retRef m k vIsT tIsV = r := by
  subst h
  cases vIsT with
  | false => exact absurd rfl (hok .typeMismatch)
  | true =>
    have ht : tIsV = true := hsym rfl
    subst ht
    cases m <;> cases k <;> rfl

/-- non-vacuity: a matching array is accepted by strict mode and stays the same object in relaxed mode -/
example : retRef .strict .arr true true = .same ∧ retRef .relaxed .arr true true = .same := by decide

/-- without the symmetry hypothesis the statement is false in the model: a value whose type matches the
    declared type in one direction only would be accepted by strict mode and rejected by relaxed mode
    (no such pair of types is known; the harness looks for one on every run) -/
theorem C04_retRef_asymmetric_counterexample :
    retRef .strict .map true false = .same ∧ retRef .relaxed .map true false = .err .invalidType := by decide

/-- `y` succeeds whenever `x` does, with the same value: the relation between the strict and the relaxed run of
every piece of a program -/
def Mono {α : Type} (x y : Except Stop α) : Prop := ∀ a, x = .ok a → y = .ok a

theorem Mono.refl {α : Type} (x : Except Stop α) : Mono x x := fun _ h => h

theorem Mono.bind {α β : Type} {x y : Except Stop α} {f g : α → Except Stop β} (h : Mono x y)
    (hf : ∀ a, Mono (f a) (g a)) : Mono (x >>= f) (y >>= g) := by
  intro b hb
  cases x with
  | error e => cases hb
  | ok a => rw [h a rfl]; exact hf a b hb

theorem Mono.ofRes {α : Type} {f : Res → Except Stop α} (hf : ∀ e, ∃ w, f (.err e) = .error w) {x y : Res}
    (h : resErr x = false → y = x) : Mono (f x) (f y) := by
  intro a ha
  rw [h]
  · exact ha
  · cases x with
    | err e => obtain ⟨w, hw⟩ := hf e; rw [hw] at ha; cases ha
    | ok k n => rfl
    | float => rfl

theorem Mono.ofBRes {x y : BRes} (h : x.isErr = false → y = x) : Mono (ofBRes x) (ofBRes y) := by
  intro a ha
  rw [h]
  · exact ha
  · cases x with
    | err e => cases ha
    | _ => rfl

/-- the operand stack discipline of `evalE` is sequencing in `Except Stop` -/
theorem evalE_bin (D : Dispatch) (m : Mode) (σ : Env) (op : Op) (l r : Expr) :
    evalE D m σ (.bin op l r) =
      evalE D m σ l >>= fun a => evalE D m σ r >>= fun b => ofRes (binop D m.isStrict op a b) := by
  rw [evalE]
  cases evalE D m σ l <;> cases evalE D m σ r <;> rfl

theorem evalE_neg (D : Dispatch) (m : Mode) (σ : Env) (e : Expr) :
    evalE D m σ (.neg e) = evalE D m σ e >>= fun a => ofRes (negate D a) := by
  rw [evalE]
  cases evalE D m σ e <;> rfl

theorem evalE_mono (D : Dispatch) (σ : Env) (e : Expr) : Mono (evalE D .strict σ e) (evalE D .relaxed σ e) := by
  induction e with
  | atom a => exact Mono.refl _
  | bin op l r ihl ihr =>
    rw [evalE_bin, evalE_bin]
    exact ihl.bind fun a => ihr.bind fun b => Mono.ofRes (fun e => ⟨_, rfl⟩) (C04_mono_binop D op a b _ rfl)
  | neg e ih =>
    rw [evalE_neg, evalE_neg]
    exact ih.bind fun _ => Mono.refl _

theorem step_mono (D : Dispatch) (s : State) (st : Stmt) : Mono (step D .strict s st) (step D .relaxed s st) := by
  have hst : ∀ e, ∃ w, storeRes (.err e) = .error w := fun e => ⟨_, rfl⟩
  cases st with
  | declare x e => exact (evalE_mono D s.env e).bind fun o => Mono.refl _
  | assign x e =>
    refine (evalE_mono D s.env e).bind fun o => ?_
    cases s.env x with
    | none => exact Mono.refl _
    | some c => exact (Mono.ofRes hst (C04_mono_storeOp c.1 o _ rfl)).bind fun _ => Mono.refl _
  | opAssign x op e =>
    simp only [step]
    cases s.env x with
    | none => exact Mono.refl _
    | some c =>
      refine (evalE_mono D s.env e).bind fun o => ?_
      exact (Mono.ofRes hst (store_binop_mono D op c.1 _ o)).bind fun _ => Mono.refl _
  | incr x c =>
    simp only [step]
    cases s.env x with
    | none => exact Mono.refl _
    | some cc =>
      refine (Mono.refl _).bind fun o => ?_
      exact (Mono.ofRes hst (C04_mono_increment D cc.1 cc.2 o _ rfl)).bind fun _ => Mono.refl _
  | call x f arg =>
    refine (evalE_mono D s.env arg).bind fun o => ?_
    refine (Mono.ofBRes (C04_mono_arg f.validated f.kp o _ rfl)).bind fun p => ?_
    refine (evalE_mono D _ f.body).bind fun rv => ?_
    exact (Mono.ofBRes (C04_mono_ret f.kr rv _ rfl)).bind fun _ => Mono.refl _
  | print e => exact (evalE_mono D s.env e).bind fun o => Mono.refl _
  | ret => exact Mono.refl _

/-- **C04 (programs).** A statement list that runs to completion in strict mode runs to completion
in relaxed mode, leaving the same variables (values and types) and the same printed output —
for every program of the statement language, every start state, any dispatch sets. -/
theorem C04_strict_implies_relaxed (D : Dispatch) (p : List Stmt) (s s' : State)
    (h : exec D .strict p s = .finished s') : exec D .relaxed p s = .finished s' := by
  induction p generalizing s with
  | nil => simpa [exec] using h
  | cons st rest ih =>
    simp only [exec] at h ⊢
    cases hs : step D .strict s st with
    | error w => simp [hs] at h
    | ok r =>
      rw [step_mono D s st r hs]
      cases r with
      | none => simpa [hs] using h
      | some s2 => simp only [hs] at h; exact ih s2 h

def Outcome.out? : Outcome → Option (List (Kind × Int))
  | .finished s => some s.out
  | .stopped _ => none

theorem C04_same_output (D : Dispatch) (p : List Stmt) (s : State) (out : List (Kind × Int))
    (h : (exec D .strict p s).out? = some out) : (exec D .relaxed p s).out? = some out := by
  cases hx : exec D .strict p s with
  | stopped w => simp [hx, Outcome.out?] at h
  | finished s' =>
    rw [C04_strict_implies_relaxed D p s s' hx]
    simpa [hx, Outcome.out?] using h

/-! ## non-vacuity: concrete programs meeting the hypotheses -/

/-- `func f(p int8) int16 { return 300 }`, called through a declaration -/
def fConst : Callee := { validated := true, kp := .int8, kr := .int16, body := .atom (.lit 300) }
/-- `func g(p int32) int32 { return p * 2 }` -/
def gDouble : Callee := { validated := true, kp := .int32, kr := .int32, body := .bin .mul (.atom (.v 0)) (.atom (.lit 2)) }

/-- x := int8(100); x = x + 100; y := int32(7); y += 2; y++ (fused); z := f(x); w := g(y);
    x = 5; print x, y, z, w, -x; return; print 1 -/
def demo : List Stmt :=
  [ .declare 0 (.atom (.typed .int8 100)),
    .assign 0 (.bin .add (.atom (.v 0)) (.atom (.lit 100))),
    .declare 1 (.atom (.typed .int32 7)),
    .opAssign 1 .add (.atom (.lit 2)),
    .incr 1 (.lit 1),
    .call 2 fConst (.atom (.v 0)),
    .call 3 gDouble (.atom (.v 1)),
    .assign 0 (.atom (.lit 5)),
    .print (.atom (.v 0)), .print (.atom (.v 1)), .print (.atom (.v 2)), .print (.atom (.v 3)),
    .print (.neg (.atom (.v 0))),
    .ret,
    .print (.atom (.lit 1)) ]

example : (exec fullD .strict demo State.init).out? =
    some [(.int8, 5), (.int32, 10), (.int16, 300), (.int32, 20), (.int8, -5)] := by decide
example : (exec fullD .relaxed demo State.init).out? =
    some [(.int8, 5), (.int32, 10), (.int16, 300), (.int32, 20), (.int8, -5)] := by decide

/-- strict mode really removes programs: `x := int8(1); x = x + int16(2)` finishes only in relaxed mode -/
def mixed : List Stmt :=
  [ .declare 0 (.atom (.typed .int8 1)),
    .assign 0 (.bin .add (.atom (.v 0)) (.atom (.typed .int16 2))),
    .print (.atom (.v 0)) ]
example : (exec fullD .strict mixed State.init).out? = none := by decide
example : (exec fullD .relaxed mixed State.init).out? = some [(.int8, 3)] := by decide

/-- and so does the argument boundary: `f(5)` with an `int8` parameter (validated callee) -/
example : argK .strict true .int8 (.const .int 5) = .err .argumentType := by decide
example : argK .relaxed true .int8 (.const .int 5) = .ok .int8 5 := by decide
example : argK .strict false .int32 (.const .int 5) = .ok .int32 5 := by decide
example : argK .strict false .int8 (.const .int 5) = .err .argumentType := by decide   -- IsNumeric(int8 type) is false
example : retK .strict .int16 (.const .int 300) = .ok .int16 300 := by decide
example : retK .strict .byte (.const .int 300) = .err .lossOfPrecision := by decide
example : retK .strict .int8 (.const .int 300) = .ok .int8 44 := by decide            -- falls through: wraps even in strict mode
example : retK .relaxed .int8 (.const .int 300) = .ok .int8 44 := by decide
example : storeOp .strict .int8 (.constFlt 3 false) = .ok .int8 3 := by decide
example : storeOp .strict .int8 (.constFlt 3 true) = .err .lossOfPrecision := by decide
example : storeOp .relaxed .int8 (.constFlt 3 true) = .ok .int8 3 := by decide

/-- the per-operation hypotheses are met by ordinary operands -/
example : binop fullD true .add (.var .int8 100) (.const .int 100) = .ok .int8 (-56) := by decide
example : binop fullD true .mul (.var .uint16 300) (.constFlt 3 false) = .ok .uint16 900 := by decide
example : increment fullD .strict .int32 2147483647 (.const .int 1) = .ok .int32 (-2147483648) := by decide
example : store .strict .int8 (.ok .int8 5) = .ok .int8 5 := by decide
example : storeOp .strict .uint16 (.const .int 65535) = .ok .uint16 65535 := by decide
example : retIface .strict (.var .int8 3) = .ok .int8 3 := by decide
example : retK .strict .int64 (.var .int64 7) = .ok .int64 7 := by decide
example : argK .strict true .uint32 (.var .uint32 7) = .ok .uint32 7 := by decide

end EgoVerif.C04
