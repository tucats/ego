import EgoVerif.C06.IntLemmas
import EgoVerif.C06.StrLemmas
import EgoVerif.C06.FloatLemmas
import EgoVerif.C06.Float
/-
C06 — literal values agree with Go: theorems.  `goInt`, `Elem`, `StrBody`, `rawValue` (Spec.lean) are
the Go specification's grammar and values; `egoLit` (Model.lean) is what Ego does, with the proposed
fix (fixes/C06.patch) applied.  strconv.ParseFloat is the parameter `P.pf`.
-/
namespace EgoVerif.C06

theorem egoLit_whole {P : Prims} {s : List Char} (h : scanFirst s = some (s, [])) :
    egoLit P s = some (compileAtom P (classify P s)) := by
  simp [egoLit, h, mergeI]

theorem classify_plain (P : Prims) {c : Char} (r : List Char) (h1 : c ≠ '"') (h2 : c ≠ '`') :
    classify P (c :: r) =
      if (parseInt (c :: r) 10 64).isSome then .int (c :: r)
      else if (P.pf (c :: r)).isSome then .float (c :: r) else .value (c :: r) := by
  simp [classify, h1, h2]

theorem convertRadix_none {t : Tok} {text : List Char} (ht : t.text? = some text) (h0 : parseInt text 0 64 = none) :
    convertRadix t = t := by
  simp only [convertRadix, ht, h0]
  split
  · split <;> rfl
  · rfl

theorem quoted_facts (q : Char) (b : List Char) :
    (q :: (b ++ [q])).getLast? = some q ∧ ((q :: (b ++ [q])).drop 1).dropLast = b ∧
    (q :: (b ++ [q])).head? = some q ∧ (q :: (b ++ [q])).length > 1 := by
  refine ⟨?_, ?_, rfl, by simp⟩
  · rw [← List.cons_append, List.getLast?_concat]
  · simp

theorem compileAtom_int (P : Prims) {t : Tok} {c : Char} {r : List Char} {n : Nat}
    (ht : t.text? = some (c :: r)) (hc : isDec c = true) (hp : parseUint (c :: r) 0 = some n) (hr : n < 2 ^ 63) :
    compileAtom P t = .int n := by
  have h64 : n < 2 ^ (64 - 1) := hr
  have hcr : convertRadix t = .int (itoa n) := by
    simp [convertRadix, ht, hc, parseInt, hp, h64]
  simp [compileAtom, hcr, pushInt_itoa n hr]

/-- **C06_int.** Every Go integer literal (decimal, binary, octal with or without `o`, hexadecimal,
with `_` separators also directly after the prefix) whose value fits the Go type `int` denotes the
same integer in Ego. -/
theorem C06_int (P : Prims) (s : List Char) (n : Nat) (h : goInt s = some n) (hr : n < 2 ^ 63) :
    egoLit P s = some (.int n) := by
  obtain ⟨⟨c, t, rfl, hc⟩, hsn, hpu⟩ := goInt_scan_parse h
  have hs : scanFirst (c :: t) = some (c :: t, []) := by
    simp [scanFirst, hc, hsn]
  have ht : (classify P (c :: t)).text? = some (c :: t) := by
    rw [classify_plain P t (isDec_ne hc (by decide)) (isDec_ne hc (by decide))]
    split
    · rfl
    · split <;> rfl
  rw [egoLit_whole hs, compileAtom_int P ht hc hpu hr]

theorem classify_rune (P : Prims) (r : List Char) : classify P ('\'' :: r) = .value ('\'' :: r) := by
  have h3 : parseInt ('\'' :: r) 10 64 = none := by
    simp [parseInt, parseUint, puLoop, show digitVal? '\'' = none by decide]
  rw [classify_plain P r (by decide) (by decide), h3, P.pf_quote]
  rfl

/-- **C06_rune.** Every Go rune literal — a single character, or any escape form
`\a \b \f \n \r \t \v \\ \' \ooo \xhh \uhhhh \Uhhhhhhhh` — denotes its code point (byte value) in Ego. -/
theorem C06_rune (P : Prims) (src : List Char) (v : Nat) (isb : Bool) (h : Elem '\'' src v isb) :
    egoLit P ('\'' :: (src ++ ['\''])) = some (.rune v) := by
  have hq : ('\'' : Char) = '\'' ∨ ('\'' : Char) = '"' := Or.inl rfl
  have hscan : scanFirst ('\'' :: (src ++ ['\''])) = some ('\'' :: (src ++ ['\'']), []) := by
    simp [scanFirst, isDec, scQuoted_elem hq h ['\''], scQuoted]
  obtain ⟨mb, hu, -⟩ := unquoteChar_elem hq h []
  simp only [List.append_nil] at hu
  obtain ⟨hl, -, -, -⟩ := quoted_facts '\'' src
  have hrune : compileRune ('\'' :: (src ++ ['\''])) = some (.rune v) := by
    simp [compileRune, hu, hl]
  have hconv : convertRadix (.value ('\'' :: (src ++ ['\'']))) = .value ('\'' :: (src ++ ['\''])) := by
    simp [convertRadix, Tok.text?, isDec]
  rw [egoLit_whole hscan, classify_rune, compileAtom, hconv]
  simp [hrune]

theorem scQuoted_body {body : List Char} {bs : List UInt8} (h : StrBody body bs) :
    scQuoted '"' false (body ++ ['"']) = some (body ++ ['"'], []) := by
  induction h with
  | nil => simp [scQuoted]
  | cons he _ ih =>
    rw [List.append_assoc, scQuoted_elem (Or.inr rfl) he, ih]
    simp

theorem unquoteBody_body {body : List Char} {bs : List UInt8} (h : StrBody body bs) :
    ∀ fuel, body.length < fuel → unquoteBody fuel (body ++ ['"']) = some bs := by
  induction h with
  | nil =>
    intro fuel hf
    cases fuel with
    | zero => omega
    | succ f => simp [unquoteBody]
  | @cons src rest v isb bs' he _ ih =>
    intro fuel hf
    obtain ⟨c, t, rfl, hc1, hc2⟩ := elem_head (Or.inr rfl) he
    obtain ⟨mb, hu, hb⟩ := unquoteChar_elem (Or.inr rfl) he (rest ++ ['"'])
    cases fuel with
    | zero => omega
    | succ f =>
      have hlen : rest.length < f := by simp at hf; omega
      have hc1' : (c == '"') = false := by simpa using hc1
      have hc2' : (c == '\n') = false := by simpa using hc2
      rw [List.append_assoc]
      rw [List.cons_append] at hu ⊢
      rw [unquoteBody]
      simp only [hc1', hc2', Bool.false_eq_true, if_false]
      rw [hu]
      simp [ih f hlen, hb]

theorem compileAtom_str (P : Prims) (b : List UInt8) : compileAtom P (.str b) = .str b := rfl

/-- **C06_string.** Every Go interpreted string literal denotes in Ego the bytes the Go specification
assigns to it: UTF-8 of plain characters and of `\u`/`\U` escapes, single bytes for `\ooo`/`\xhh`,
the control characters for `\a \b \f \n \r \t \v`, and `\\`, `\"`. -/
theorem C06_string (P : Prims) (body : List Char) (bs : List UInt8) (h : StrBody body bs) :
    egoLit P ('"' :: (body ++ ['"'])) = some (.str bs) := by
  have hscan : scanFirst ('"' :: (body ++ ['"'])) = some ('"' :: (body ++ ['"']), []) := by
    simp [scanFirst, isDec, scQuoted_body h]
  have hcls : classify P ('"' :: (body ++ ['"'])) = .str bs := by
    unfold classify
    obtain ⟨hl, -, hh, -⟩ := quoted_facts '"' body
    rw [hl, hh]
    have hu := unquoteBody_body h (body.length + 1 + 1) (by omega)
    simp [unQuote, hu]
  rw [egoLit_whole hscan, hcls, compileAtom_str]

theorem scRaw_body : ∀ (body : List Char), '`' ∉ body → scRaw (body ++ ['`']) = some (body ++ ['`'], []) := by
  intro body
  induction body with
  | nil => intro _; simp [scRaw]
  | cons c r ih =>
    intro h
    simp at h
    have hc : (c == '`') = false := by simpa using (Ne.symm h.1)
    simp [scRaw, hc, ih h.2]

/-- **C06_raw.** A raw string literal denotes its characters, uninterpreted, with carriage returns discarded. -/
theorem C06_raw (P : Prims) (body : List Char) (h : '`' ∉ body) :
    egoLit P ('`' :: (body ++ ['`'])) = some (.str (rawValue body)) := by
  have hscan : scanFirst ('`' :: (body ++ ['`'])) = some ('`' :: (body ++ ['`']), []) := by
    simp [scanFirst, isDec, scRaw_body body h]
  have hcls : classify P ('`' :: (body ++ ['`'])) = .str (rawValue body) := by
    unfold classify
    obtain ⟨hl, hb, hh, -⟩ := quoted_facts '`' body
    rw [hb, hl, hh]
    simp [rawValue]
  rw [egoLit_whole hscan, hcls, compileAtom_str]

/-! ## floats and imaginary literals: ParseFloat is a parameter, both sides hand it the same text -/

/-- **C06_float_pipeline.** Whenever text/scanner returns the spelling `s` as one token and strconv.ParseInt
rejects it (base 10 and base 0), Ego's value is `ParseFloat(s)` for exactly the spelling `s`: nothing
rewrites the digits between the source and strconv.ParseFloat.  (Go's value is the correctly rounded
value of the same spelling.) -/
theorem C06_float_pipeline (P : Prims) (c : Char) (r : List Char) (hc : isDec c = true ∨ c = '.')
    (hscan : scanFirst (c :: r) = some (c :: r, [])) (h10 : parseInt (c :: r) 10 64 = none)
    (h0 : parseInt (c :: r) 0 64 = none) (hpf : (P.pf (c :: r)).isSome = true) :
    egoLit P (c :: r) = some (.float (c :: r)) := by
  have hn : c ≠ '"' ∧ c ≠ '`' := by
    rcases hc with hc | rfl
    · exact ⟨isDec_ne hc (by decide), isDec_ne hc (by decide)⟩
    · exact ⟨by decide, by decide⟩
  have hcls : classify P (c :: r) = .float (c :: r) := by
    rw [classify_plain P r hn.1 hn.2, h10, if_neg (by simp), if_pos hpf]
  rw [egoLit_whole hscan, hcls, compileAtom, convertRadix_none rfl h0]
  simp [hpf]

/-- **C06_imag_pipeline** (the partial form of the imaginary claim: the excluded class — a numeric part that is
not classified Integer/Float, i.e. a prefixed integer such as `0x1F` — is the explicit hypothesis `hcls`).
A number token (Integer or Float class) immediately followed by `i` becomes
`complex(0, ParseFloat(s))` for exactly the spelling `s` of the number. -/
theorem C06_imag_pipeline (P : Prims) (s : List Char)
    (hscan : scanFirst (s ++ ['i']) = some (s, ['i']))
    (hcls : classify P s = .int s ∨ classify P s = .float s)
    (h0 : parseInt (s ++ ['i']) 0 64 = none) (hpf : (P.pf s).isSome = true) :
    egoLit P (s ++ ['i']) = some (.imag s) := by
  have hm : mergeI (classify P s) ['i'] = some (.complex (s ++ ['i'])) := by
    rcases hcls with h | h <;> simp [h, mergeI]
  simp only [egoLit, hscan, hm, Option.map_some, compileAtom]
  rw [convertRadix_none rfl h0]
  simp [trimI, hpf]

/-- **C06_float.** Every Go floating-point literal (decimal with optional fraction/exponent, hexadecimal with
mandatory `p` exponent, `_` separators) on which strconv.ParseFloat succeeds denotes in Ego
`ParseFloat(s)` for exactly its own spelling `s` — the text/scanner takes it as one token, ParseInt
rejects it in base 10 and base 0, and nothing rewrites the digits. -/
theorem C06_float (P : Prims) (s : List Char) (h : goFloat s = true) (hpf : (P.pf s).isSome = true) :
    egoLit P s = some (.float s) := by
  obtain ⟨hscan, c, r, rfl, hc⟩ := scanFirst_goFloat h
  obtain ⟨h10, h0⟩ := parseInt_goFloat h
  exact C06_float_pipeline P c r hc hscan h10 h0 hpf

/-- not proved (stated for the record): imaginary literals whose numeric part is a decimal integer or a
float; `C06_imag_pipeline` is what is proved, the correspondence harness covers the scanner hypotheses -/
def C06_imag_grammar_statement : Prop :=
  ∀ (P : Prims) (s : List Char), (goFloat s = true ∨ sepDigits isDec s = true) → (P.pf s).isSome = true →
    egoLit P (s ++ ['i']) = some (.imag s)

/-! ## non-vacuity: each theorem's hypotheses are met by non-trivial literals -/

/-- a stand-in for ParseFloat that accepts everything except a quoted text (the theorems hold for any `Prims`) -/
def toyPrims : Prims where
  F := Unit
  pf := fun s => match s with | '\'' :: _ => none | _ => some ()
  pf_quote := by intro r; rfl

example : goInt ['0','x','_','F','F'] = some 255 := by decide
example : goInt ['1','_','0','0','0'] = some 1000 := by decide
example : goInt ['0','1','_','7'] = some 15 := by decide
example : goInt ['0','b','1','_','0'] = some 2 := by decide
example : goInt ['0','O','_','7','7'] = some 63 := by decide
example : goInt ['0','x','8','0','0','0','0','0','0','0'] = some 2147483648 := by decide
example : goInt ['0','8'] = none := by decide
example : goInt ['0','x'] = none := by decide
example : goInt ['1','_','_','0'] = none := by decide
example : goInt ['1','_'] = none := by decide
example : egoLit toyPrims ['0','x','_','F','F'] = some (.int 255) := C06_int toyPrims _ _ (by decide) (by decide)

example : egoLit toyPrims ['\'','\\','n','\''] = some (.rune 10) :=
  C06_rune toyPrims _ _ _ (.simple 'n' 10 (by decide))
example : egoLit toyPrims ['\'','\\','\'','\''] = some (.rune 39) :=
  C06_rune toyPrims _ _ _ (.quote (Or.inl rfl))
example : egoLit toyPrims ['\'','\\','3','7','7','\''] = some (.rune 255) :=
  C06_rune toyPrims _ _ _ (.oct '3' '7' '7' 3 7 7 (by decide) (by decide) (by decide) (by decide))
example : egoLit toyPrims ['\'','\\','x','f','F','\''] = some (.rune 255) :=
  C06_rune toyPrims _ _ _ (.hex 'f' 'F' 15 15 (by decide) (by decide))
example : egoLit toyPrims ['\'','\\','u','0','0','e','9','\''] = some (.rune 233) :=
  C06_rune toyPrims _ _ _ (.u4 '0' '0' 'e' '9' 0 0 14 9 (by decide) (by decide) (by decide) (by decide) (by decide))
example : egoLit toyPrims ['\'','"','\''] = some (.rune 34) :=
  C06_rune toyPrims _ _ _ (.plain '"' (by decide) (by decide) (by decide))
/-- a surrogate half is not a rune literal: the `validRune` side condition is not vacuous -/
example : validRune 0xD800 = false := by decide

/-- "a\n\xff\u00e9" denotes the bytes 61 0a ff c3 a9 -/
example : egoLit toyPrims ('"' :: ((['a'] ++ (['\\','n'] ++ (['\\','x','f','f'] ++ (['\\','u','0','0','e','9'] ++ [])))) ++ ['"']))
    = some (.str [0x61, 0x0a, 0xff, 0xc3, 0xa9]) :=
  C06_string toyPrims _ _
    (.cons (.plain 'a' (by decide) (by decide) (by decide))
      (.cons (.simple 'n' 10 (by decide))
        (.cons (.hex 'f' 'f' 15 15 (by decide) (by decide))
          (.cons (.u4 '0' '0' 'e' '9' 0 0 14 9 (by decide) (by decide) (by decide) (by decide) (by decide)) .nil))))

example : egoLit toyPrims ('`' :: (['a','\\','n','\r','\n','b'] ++ ['`'])) = some (.str [0x61, 0x5c, 0x6e, 0x0a, 0x62]) :=
  C06_raw toyPrims _ (by decide)

example : egoLit toyPrims ['1','.','5','e','3'] = some (.float ['1','.','5','e','3']) :=
  C06_float_pipeline toyPrims '1' ['.','5','e','3'] (by decide) (by decide) (by decide) (by decide) (by decide)
example : egoLit toyPrims (['0','1','2','3'] ++ ['i']) = some (.imag ['0','1','2','3']) :=
  C06_imag_pipeline toyPrims _ (by decide) (by decide) (by decide) (by decide)
example : egoLit toyPrims ['0','x','_','1','.','8','p','-','2'] = some (.float ['0','x','_','1','.','8','p','-','2']) :=
  C06_float toyPrims _ (by decide) (by decide)
example : goFloat ['1','.','5'] = true ∧ goFloat ['.','5','e','+','3'] = true ∧ goFloat ['0','x','_','1','.','8','p','-','2'] = true ∧
    goFloat ['0','8','.','5'] = true ∧ goFloat ['1','e','5'] = true := by decide
example : goFloat ['1'] = false ∧ goFloat ['0','x','1'] = false ∧ goFloat ['1','.','e'] = false ∧ goFloat ['1','_','.','5'] = false := by decide

/-! ## known findings on the fixed tree (classes `imag-radix-int`, `min-int64`) -/

/-- `0x1Fi` is a valid Go imaginary literal (31i); Ego's lexer only merges the `i` suffix onto an Integer or
Float token, and `0x1F` is a Value token, so the text is two tokens (a compile error follows). -/
theorem C06_imag_radix_counterexample : egoLit concretePrims ['0','x','1','F','i'] = none := by decide

/-- `-9223372036854775808` is a valid Go int; its operand `9223372036854775808` does not fit int64, so Ego
classifies it as a Float token and the negation is a float64. -/
theorem C06_minint_counterexample :
    egoLit concretePrims ['9','2','2','3','3','7','2','0','3','6','8','5','4','7','7','5','8','0','8'] =
      some (.float ['9','2','2','3','3','7','2','0','3','6','8','5','4','7','7','5','8','0','8']) := by decide +kernel

end EgoVerif.C06
