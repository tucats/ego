import EgoVerif.C06.Spec
/- C06 — facts about the character classes and the small tables of the model (digit values, escape letters),
shared by the lemma files. -/
namespace EgoVerif.C06

/-- the punctuation that text/scanner, strconv.Unquote or strconv.ParseUint treat specially, and the letters that
introduce a hex or Unicode escape; no digit of any base is one of them -/
def special : List Char := ['"', '`', '\'', '.', '_', '\n', '\\', 'x', 'u', 'U']

theorem isHexDig_special : ∀ x ∈ special, isHexDig x = false := by decide

theorem isHexDig_ne {c x : Char} (h : isHexDig c = true) (hx : x ∈ special) : c ≠ x := by
  rintro rfl
  rw [isHexDig_special c hx] at h
  cases h

theorem isHexDig_ne_us {c : Char} (h : isHexDig c = true) : c ≠ '_' := isHexDig_ne h (by decide)

theorem isDec_isHexDig {c : Char} (h : isDec c = true) : isHexDig c = true := by simp [isHexDig, h]

theorem isDec_ne {c x : Char} (h : isDec c = true) (hx : x ∈ special) : c ≠ x := isHexDig_ne (isDec_isHexDig h) hx

theorem isOct_isDec {c : Char} (h : isOct c = true) : isDec c = true := by
  simp only [isOct, isDec, Bool.and_eq_true, decide_eq_true_eq] at *; omega

theorem isBin_isDec {c : Char} (h : isBin c = true) : isDec c = true := by
  simp only [isBin, isDec, Bool.or_eq_true, Bool.and_eq_true, beq_iff_eq, decide_eq_true_eq] at *; omega

def escTable : List (Char × Nat) := [('a', 7), ('b', 8), ('f', 12), ('n', 10), ('r', 13), ('t', 9), ('v', 11)]

/-- one link of an `if`-chain read as a row of a table -/
theorem ite_mem {e a : Char} {b v : Nat} {o : Option Nat} {l : List (Char × Nat)}
    (ho : o = some v → (e, v) ∈ l) (h : (if e == a then some b else o) = some v) : (e, v) ∈ (a, b) :: l := by
  by_cases h1 : (e == a) = true
  · rw [if_pos h1] at h; cases h; rw [beq_iff_eq.mp h1]; exact .head _
  · rw [if_neg h1] at h; exact .tail _ (ho h)

theorem simpleEsc_some {e : Char} {v : Nat} (h : simpleEsc e = some v) : (e, v) ∈ escTable :=
  ite_mem (ite_mem (ite_mem (ite_mem (ite_mem (ite_mem (ite_mem (fun h => by cases h))))))) h

theorem escTable_facts : ∀ p ∈ escTable, p.2 < 128 ∧ isDec p.1 = false ∧ p.1 ≠ '\'' ∧ p.1 ≠ '"' ∧ p.1 ≠ '\\' := by
  decide

theorem simpleEsc_lt {e : Char} {v : Nat} (h : simpleEsc e = some v) : v < 128 :=
  (escTable_facts _ (simpleEsc_some h)).1

theorem simpleEsc_ne {e : Char} {v : Nat} (h : simpleEsc e = some v) : e ≠ '\'' ∧ e ≠ '"' ∧ e ≠ '\\' :=
  (escTable_facts _ (simpleEsc_some h)).2.2

theorem simpleEsc_dec {c : Char} (h : isDec c = true) : simpleEsc c = none := by
  cases hs : simpleEsc c with
  | none => rfl
  | some v => rw [(escTable_facts _ (simpleEsc_some hs)).2.1] at h; cases h

theorem hexVal_some {x : Char} {v : Nat} (h : hexVal? x = some v) : isHexDig x = true ∧ v < 16 := by
  unfold hexVal? at h
  by_cases h1 : isDec x = true
  · rw [if_pos h1] at h; cases h
    refine ⟨isDec_isHexDig h1, ?_⟩
    simp only [isDec, Bool.and_eq_true, decide_eq_true_eq] at h1; omega
  · rw [if_neg h1] at h
    by_cases h2 : 97 ≤ x.toNat ∧ x.toNat ≤ 102
    · rw [if_pos h2] at h; cases h
      exact ⟨by simp [isHexDig, isHexLetter, h2], by omega⟩
    · rw [if_neg h2] at h
      by_cases h3 : 65 ≤ x.toNat ∧ x.toNat ≤ 70
      · rw [if_pos h3] at h; cases h
        exact ⟨by simp [isHexDig, isHexLetter, h3], by omega⟩
      · rw [if_neg h3] at h; cases h

theorem hexVal_lt {x : Char} {v : Nat} (h : hexVal? x = some v) : v < 16 := (hexVal_some h).2

theorem octVal_some {x : Char} {v : Nat} (h : octVal? x = some v) : isOct x = true ∧ v = x.toNat - 48 ∧ v < 8 := by
  unfold octVal? at h
  by_cases h1 : isOct x = true
  · rw [if_pos h1] at h; cases h
    refine ⟨h1, rfl, ?_⟩
    simp only [isOct, Bool.and_eq_true, decide_eq_true_eq] at h1; omega
  · rw [if_neg h1] at h; cases h

end EgoVerif.C06
