import EgoVerif.C06.IntLemmas
/- C06 — lemmas for the float theorem: the scanner takes a float literal as one token, and
strconv.ParseInt rejects it in base 10 and base 0. -/
namespace EgoVerif.C06

theorem sepDigits_mem {p : Char → Bool} {l : List Char} (h : sepDigits p l = true) :
    ∀ c ∈ l, p c = true ∨ c = '_' := by
  cases l with
  | nil => simp [sepDigits] at h
  | cons x r =>
    simp [sepDigits] at h
    intro c hc
    simp at hc
    rcases hc with rfl | hc
    · exact Or.inl h.1
    · exact sepTail_mem h.2 c hc

theorem sepDigits_head {p : Char → Bool} {l : List Char} (h : sepDigits p l = true) :
    ∃ d t, l = d :: t ∧ p d = true := by
  cases l with
  | nil => cases h
  | cons d t => exact ⟨d, t, rfl, (Bool.and_eq_true _ _ ▸ h).1⟩

theorem scDigits_sepDigits {l : List Char} (h : sepDigits isDec l = true) : scDigits false l = (l, []) :=
  scDigits_span false l ▸ spanDig_all (sepDigits_mem h)

theorem scExp_goExp {L : Char → Bool} (hL : ∀ c, L c = true → (isE c || isP c) = true) {rest : List Char}
    (h : goExp L rest = true) : scExp rest = (rest, []) := by
  match rest, h with
  | c :: d :: r, h =>
    simp only [goExp, Bool.and_eq_true] at h
    have hc := hL c h.1
    by_cases hs : (d == '+' || d == '-') = true
    · simp [scExp, hc, hs, scDigits_sepDigits (by simpa [hs] using h.2 : sepDigits isDec r = true)]
    · simp only [scExp, hc, if_true, hs, Bool.false_eq_true, if_false,
        scDigits_sepDigits (by simpa [hs] using h.2 : sepDigits isDec (d :: r) = true)]

theorem goMantExp_inv {p L : Char → Bool} {ip : List Char → Bool} {eo : Bool} {s : List Char}
    (h : goMantExp p L ip eo s = true) :
    ∃ a rest, spanDig p s = (a, rest) ∧
      ((∃ r2 b rest2, rest = '.' :: r2 ∧ spanDig p r2 = (b, rest2) ∧
          (if a.isEmpty then sepDigits p b else ip a && (b.isEmpty || sepDigits p b)) = true ∧
          ((eo && rest2.isEmpty) || goExp L rest2) = true) ∨
        ((∀ r2, rest ≠ '.' :: r2) ∧ ip a = true ∧ goExp L rest = true)) := by
  unfold goMantExp at h
  simp only [] at h
  split at h
  · rename_i r2 hr2
    exact ⟨_, _, rfl, .inl ⟨r2, _, _, hr2, rfl, by simpa using h⟩⟩
  · rename_i hno
    exact ⟨_, _, rfl, .inr ⟨hno, by simpa using h⟩⟩

theorem scMant_goMantExp {hex : Bool} {p L : Char → Bool} {ip : List Char → Bool} {eo : Bool} {s : List Char}
    (hsc : ∀ t, scDigits hex t = spanDig p t) (hL : ∀ c, L c = true → (isE c || isP c) = true)
    (h : goMantExp p L ip eo s = true) : scMant hex s = (s, []) := by
  obtain ⟨a, rest, hsp, h'⟩ := goMantExp_inv h
  have happ := spanDig_append hsp
  rcases h' with ⟨r2, b, rest2, rfl, hb, -, he⟩ | ⟨hno, -, he⟩
  · have hb' := spanDig_append hb
    have he' : scExp rest2 = (rest2, []) := by
      simp only [Bool.or_eq_true, Bool.and_eq_true] at he
      rcases he with h2 | h2
      · rw [List.isEmpty_iff.mp h2.2]; rfl
      · exact scExp_goExp hL h2
    simp only [scMant, hsc, hsp, scFrac, hb, he', hb', happ]
  · unfold scMant
    simp only [hsc, hsp]   -- `hno` in the context decides the match
    rw [scExp_goExp hL he, happ]

theorem goExp_notE {L : Char → Bool} {c : Char} (h : L c = false) (r : List Char) : goExp L (c :: r) = false := by
  cases r with
  | nil => rfl
  | cons d r' => simp [goExp, h]

theorem goMantExp_ob {c : Char} (h : (isO c || isB c) = true) (ip : List Char → Bool) (r : List Char) :
    goMantExp isDec isE ip true ('0' :: c :: r) = false := by
  obtain ⟨h1, h2, h3, h4⟩ : isDec c = false ∧ (c == '_') = false ∧ c ≠ '.' ∧ isE c = false := by
    simp [isO, isB] at h
    rcases h with (rfl | rfl) | (rfl | rfl) <;> decide
  have hz : isDec '0' = true := by decide
  have hs : spanDig isDec ('0' :: c :: r) = (['0'], c :: r) := by
    simp [spanDig, hz, h1, h2]
  unfold goMantExp
  rw [hs]
  simp only []
  split
  · rename_i heq; simp at heq; exact absurd heq.1 h3
  · simp [goExp_notE h4]

theorem goFloat_inv {s : List Char} (h : goFloat s = true) :
    (∃ c r, s = '0' :: c :: r ∧ isX c = true ∧ goMantExp isHexDig isP (optSep isHexDig) false r = true) ∨
    (goMantExp isDec isE (sepDigits isDec) true s = true ∧ NoRadix s) := by
  match s, h with
  | c0 :: c :: r, h =>
    simp only [goFloat] at h
    by_cases hx : (c0 == '0' && isX c) = true
    · rw [if_pos hx] at h
      simp only [Bool.and_eq_true, beq_iff_eq] at hx
      exact .inl ⟨c, r, by rw [hx.1], hx.2, h⟩
    · rw [if_neg hx] at h
      refine .inr ⟨h, ?_⟩
      intro c' r' e
      cases e
      have hxc : isX c = false := by simpa using hx
      cases hob : (isO c || isB c)
      · simp [hxc, hob]
      · rw [goMantExp_ob hob] at h; cases h

theorem scanNumber_goFloat {s : List Char} (h : goFloat s = true) : scanNumber s = (s, []) := by
  rcases goFloat_inv h with ⟨c, r, rfl, hx, hm⟩ | ⟨hm, hpl⟩
  · rw [scanNumber_prefixed (by simp [hx]), hx,
      scMant_goMantExp (scDigits_span true) (fun c hc => by simp [hc]) hm]
  · rw [scanNumber_plain hpl]
    exact scMant_goMantExp (scDigits_span false) (fun c hc => by simp [hc]) hm

/-- a character that stops ParseUint in the given base: not '_', and no digit below the base -/
def badFor (base : Nat) (c : Char) : Bool := c != '_' && (digitVal? c).all fun d => base ≤ d

theorem puLoop_bad_head {base : Nat} {b0 : Bool} {c : Char} (h : badFor base c = true) (acc : Nat) (r : List Char) :
    puLoop base b0 acc (c :: r) = none := by
  simp only [badFor, Bool.and_eq_true, bne_iff_ne] at h
  rw [puLoop, if_neg (by simp [h.1])]
  cases hd : digitVal? c with
  | none => rfl
  | some d => exact if_pos (by simpa [hd] using h.2)

theorem puLoop_bad {base : Nat} {b0 : Bool} (s : List Char) (acc : Nat) (h : ∃ c ∈ s, badFor base c = true) :
    puLoop base b0 acc s = none := by
  obtain ⟨c, hc, hbad⟩ := h
  obtain ⟨l, r, rfl⟩ := List.append_of_mem hc
  rw [puLoop_append]
  cases puLoop base b0 acc l with
  | none => rfl
  | some v => exact puLoop_bad_head hbad v r

theorem bad_dot (base : Nat) : badFor base '.' = true := by
  rw [badFor, show digitVal? '.' = none by decide]; rfl

theorem bad_E {c : Char} (h : isE c = true) : badFor 8 c = true ∧ badFor 10 c = true := by
  simp only [isE, Bool.or_eq_true, beq_iff_eq] at h
  rcases h with rfl | rfl <;> decide

theorem bad_P {c : Char} (h : isP c = true) : badFor 16 c = true := by
  simp only [isP, Bool.or_eq_true, beq_iff_eq] at h
  rcases h with rfl | rfl <;> decide

theorem bad_X {c : Char} (h : isX c = true) : badFor 10 c = true := by
  simp only [isX, Bool.or_eq_true, beq_iff_eq] at h
  rcases h with rfl | rfl <;> decide

theorem goMantExp_has {p L : Char → Bool} {ip : List Char → Bool} {eo : Bool} {s : List Char}
    (h : goMantExp p L ip eo s = true) : ∃ c ∈ s, c = '.' ∨ L c = true := by
  obtain ⟨a, rest, hsp, h'⟩ := goMantExp_inv h
  obtain rfl := spanDig_append hsp
  rcases h' with ⟨r2, _, _, rfl, -⟩ | ⟨-, -, he⟩
  · exact ⟨'.', by simp, .inl rfl⟩
  · cases rest with
    | nil => cases he
    | cons c t =>
      refine ⟨c, by simp, .inr ?_⟩
      cases hl : L c with
      | true => rfl
      | false => rw [goExp_notE hl] at he; cases he

theorem parseInt_none_of_puBase0 {s : List Char} (h10 : puLoop 10 false 0 s = none) (h0 : puBase0 s = none) :
    parseInt s 10 64 = none ∧ parseInt s 0 64 = none := by
  constructor
  · cases s <;> simp [parseInt, parseUint, h10]
  · simp [parseInt, parseUint, h0]

theorem parseInt_goFloat {s : List Char} (h : goFloat s = true) :
    parseInt s 10 64 = none ∧ parseInt s 0 64 = none := by
  rcases goFloat_inv h with ⟨c, r, rfl, hx, hm⟩ | ⟨hm, hpl⟩
  · obtain ⟨b, hb, hbb⟩ := goMantExp_has hm
    have hbad : badFor 16 b = true := hbb.elim (fun e => e ▸ bad_dot 16) bad_P
    apply parseInt_none_of_puBase0
    · exact puLoop_bad _ _ ⟨c, by simp, bad_X hx⟩
    · have he := isX_excl hx
      cases r with
      | nil => simp at hb
      | cons d r' =>
        simp only [puBase0, beq_self_eq_true, if_true, he.1, he.2, hx, Bool.false_eq_true, if_false]
        exact puLoop_bad _ _ ⟨b, hb, hbad⟩
  · obtain ⟨b, hb, hbb⟩ := goMantExp_has hm
    have hbad : badFor 8 b = true ∧ badFor 10 b = true := hbb.elim (fun e => e ▸ ⟨bad_dot 8, bad_dot 10⟩) bad_E
    apply parseInt_none_of_puBase0
    · exact puLoop_bad _ _ ⟨b, hb, hbad.2⟩
    · match s, hb, hpl with
      | c0 :: t, hb, hpl =>
        rw [puBase0_plain hpl]
        exact puLoop_bad _ _ ⟨b, hb, by split; exact hbad.1; exact hbad.2⟩

theorem goMantExp_first {L : Char → Bool} {s : List Char}
    (h : goMantExp isDec L (sepDigits isDec) true s = true) :
    (∃ d t, s = d :: t ∧ isDec d = true) ∨ (∃ d t, s = '.' :: d :: t ∧ isDec d = true) := by
  obtain ⟨a, rest, hsp, h'⟩ := goMantExp_inv h
  obtain rfl := spanDig_append hsp
  rcases h' with ⟨r2, b, rest2, rfl, hb, hm, -⟩ | ⟨-, hi, -⟩
  · cases a with
    | nil =>
      -- no leading digits: the text is the '.' and what follows, which starts with a digit
      obtain ⟨d, t, rfl, hd⟩ := sepDigits_head hm
      obtain rfl := spanDig_append hb
      exact .inr ⟨d, _, rfl, hd⟩
    | cons d t =>
      simp only [List.isEmpty_cons, Bool.false_eq_true, if_false, sepDigits, Bool.and_eq_true] at hm
      exact .inl ⟨d, _, rfl, hm.1.1⟩
  · obtain ⟨d, t, rfl, hd⟩ := sepDigits_head hi
    exact .inl ⟨d, _, rfl, hd⟩

theorem scanFirst_goFloat {s : List Char} (h : goFloat s = true) :
    scanFirst s = some (s, []) ∧ ∃ c r, s = c :: r ∧ (isDec c = true ∨ c = '.') := by
  have hsn := scanNumber_goFloat h
  rcases goFloat_inv h with ⟨c, r, rfl, -, -⟩ | ⟨hm, -⟩
  · exact ⟨by simp [scanFirst, isDec, hsn], _, _, rfl, Or.inl (by decide)⟩
  · rcases goMantExp_first hm with ⟨d, t, rfl, hdd⟩ | ⟨d, t, rfl, hdd⟩
    · exact ⟨by simp [scanFirst, hdd, hsn], _, _, rfl, Or.inl hdd⟩
    · have hnd : isDec '.' = false := by decide
      exact ⟨by simp [scanFirst, hnd, hdd, hsn], _, _, rfl, Or.inr rfl⟩

end EgoVerif.C06
