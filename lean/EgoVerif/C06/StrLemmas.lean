import EgoVerif.C06.Chars
/- C06 — lemmas for runes and strings: scanner extent of one element, strconv.UnquoteChar on one element. -/
namespace EgoVerif.C06

/-- a character the quoted-text scanner passes over in its normal state -/
def plainFor (q x : Char) : Prop := x ≠ q ∧ x ≠ '\n' ∧ x ≠ '\\'

theorem plainFor_hexDig {q x : Char} (hq : q = '\'' ∨ q = '"') (h : isHexDig x = true) : plainFor q x :=
  ⟨isHexDig_ne h (by rcases hq with rfl | rfl <;> decide), isHexDig_ne h (by decide), isHexDig_ne h (by decide)⟩

theorem scQuoted_plain {q x : Char} (h : plainFor q x) (rest : List Char) :
    scQuoted q false (x :: rest) = (scQuoted q false rest).map fun p => (x :: p.1, p.2) := by
  obtain ⟨h1, h2, h3⟩ := h
  have h3' : (x == '\\') = false := by simpa using h3
  rw [scQuoted]
  simp [h1, h2, h3']

theorem scQuoted_plains {q : Char} : ∀ (l : List Char), (∀ x ∈ l, plainFor q x) → ∀ rest,
    scQuoted q false (l ++ rest) = (scQuoted q false rest).map fun p => (l ++ p.1, p.2) := by
  intro l
  induction l with
  | nil => intro _ rest; simp
  | cons x l ih =>
    intro h rest
    rw [List.cons_append, scQuoted_plain (h x (by simp)), ih (fun y hy => h y (by simp [hy]))]
    cases scQuoted q false rest <;> rfl

/-- backslash + one character `e`: `scanEscape` consumes `e` (a simple escape), or it does not and `e` is
harmless in the main loop; either way the scan goes on after `e` in the normal state -/
theorem scQuoted_esc {q e : Char} (hq : q = '\'' ∨ q = '"') (he : scSimple q e = true ∨ plainFor q e)
    (rest : List Char) :
    scQuoted q false ('\\' :: e :: rest) = (scQuoted q false rest).map fun p => ('\\' :: e :: p.1, p.2) := by
  have hb : ('\\' == q) = false := by rcases hq with rfl | rfl <;> decide
  rw [scQuoted]
  simp only [Bool.false_and, Bool.false_eq_true, if_false, hb]
  rw [if_neg (by decide)]
  simp only [beq_self_eq_true]
  rw [scQuoted]
  by_cases hs : scSimple q e = true
  · simp only [Bool.true_and, hs, if_true]
    cases scQuoted q false rest <;> rfl
  · obtain ⟨h1, h2, h3⟩ := he.resolve_left hs
    have h3' : (e == '\\') = false := by simpa using h3
    simp only [Bool.true_and, hs, Bool.false_eq_true, if_false, beq_iff_eq, h1, h2, h3']
    cases scQuoted q false rest <;> rfl

/-- what the scanner sees of an element: one plain character, or a backslash, a character as in `scQuoted_esc`,
and plain characters (the digits of an octal, hex or Unicode escape) -/
theorem elem_shape {q : Char} (hq : q = '\'' ∨ q = '"') {src : List Char} {v : Nat} {isb : Bool}
    (h : Elem q src v isb) :
    (∃ c, src = [c] ∧ plainFor q c) ∨
    (∃ e l, src = '\\' :: e :: l ∧ (scSimple q e = true ∨ plainFor q e) ∧ ∀ x ∈ l, plainFor q x) := by
  have hex : ∀ {x : Char} {n : Nat}, hexVal? x = some n → plainFor q x := fun h => plainFor_hexDig hq (hexVal_some h).1
  have oct : ∀ {x : Char} {n : Nat}, octVal? x = some n → plainFor q x := fun h =>
    plainFor_hexDig hq (isDec_isHexDig (isOct_isDec (octVal_some h).1))
  have letter : plainFor q 'x' ∧ plainFor q 'u' ∧ plainFor q 'U' := by
    rcases hq with rfl | rfl <;> (unfold plainFor; decide)
  cases h with
  | plain c h1 h2 h3 => exact .inl ⟨c, rfl, h1, h3, h2⟩
  | simple e v he => exact .inr ⟨e, [], rfl, .inl (by simp [scSimple, he]), fun _ h => nomatch h⟩
  | backslash => exact .inr ⟨_, [], rfl, .inl (by simp [scSimple]), fun _ h => nomatch h⟩
  | quote _ => exact .inr ⟨_, [], rfl, .inl (by simp [scSimple]), fun _ h => nomatch h⟩
  | oct a b c x y z ha hb hc _ =>
    refine .inr ⟨a, [b, c], rfl, .inr (oct ha), ?_⟩
    simp only [List.forall_mem_cons]
    exact ⟨oct hb, oct hc, fun _ h => nomatch h⟩
  | hex a b x y ha hb =>
    refine .inr ⟨_, [a, b], rfl, .inr letter.1, ?_⟩
    simp only [List.forall_mem_cons]
    exact ⟨hex ha, hex hb, fun _ h => nomatch h⟩
  | u4 a b c d w x y z ha hb hc hd _ =>
    refine .inr ⟨_, [a, b, c, d], rfl, .inr letter.2.1, ?_⟩
    simp only [List.forall_mem_cons]
    exact ⟨hex ha, hex hb, hex hc, hex hd, fun _ h => nomatch h⟩
  | u8 a b c d e f g h s t u v w x y z ha hb hc hd he hf hg hh _ =>
    refine .inr ⟨_, [a, b, c, d, e, f, g, h], rfl, .inr letter.2.2, ?_⟩
    simp only [List.forall_mem_cons]
    exact ⟨hex ha, hex hb, hex hc, hex hd, hex he, hex hf, hex hg, hex hh, fun _ h => nomatch h⟩

theorem scQuoted_elem {q : Char} (hq : q = '\'' ∨ q = '"') {src : List Char} {v : Nat} {isb : Bool}
    (h : Elem q src v isb) (rest : List Char) :
    scQuoted q false (src ++ rest) = (scQuoted q false rest).map fun p => (src ++ p.1, p.2) := by
  rcases elem_shape hq h with ⟨c, rfl, hc⟩ | ⟨e, l, rfl, he, hl⟩
  · exact scQuoted_plain hc rest
  · rw [List.cons_append, List.cons_append, scQuoted_esc hq he, scQuoted_plains l hl]
    cases scQuoted q false rest <;> rfl

theorem elem_head {q : Char} (hq : q = '\'' ∨ q = '"') {src : List Char} {v : Nat} {isb : Bool} (h : Elem q src v isb) :
    ∃ c t, src = c :: t ∧ c ≠ q ∧ c ≠ '\n' := by
  rcases elem_shape hq h with ⟨c, rfl, hc⟩ | ⟨e, l, rfl, -, -⟩
  · exact ⟨c, [], rfl, hc.1, hc.2.1⟩
  · exact ⟨_, _, rfl, by rcases hq with rfl | rfl <;> decide, by decide⟩

theorem charBytes_cp (v : Nat) (mb : Bool) (h : mb = true ∨ v < 128) : charBytes v mb = elemBytes v false := by
  unfold charBytes elemBytes
  by_cases hv : v < 128
  · simp [hv, utf8Enc]
  · rcases h with rfl | h
    · simp [hv]
    · exact absurd h hv

theorem charBytes_byte (v : Nat) : charBytes v false = elemBytes v true := by simp [charBytes, elemBytes]

theorem unquoteChar_elem {q : Char} (hq : q = '\'' ∨ q = '"') {src : List Char} {v : Nat} {isb : Bool}
    (h : Elem q src v isb) (rest : List Char) :
    ∃ mb, unquoteChar q (src ++ rest) = some (v, mb, rest) ∧ charBytes v mb = elemBytes v isb := by
  have hbq : ('\\' == q) = false := by rcases hq with rfl | rfl <;> decide
  cases h with
  | plain c h1 h2 h3 =>
    by_cases hc : c.toNat ≥ 128
    · refine ⟨true, ?_, charBytes_cp _ _ (Or.inl rfl)⟩
      simp [unquoteChar, h1, hc]
    · refine ⟨false, ?_, charBytes_cp _ _ (Or.inr (by omega))⟩
      simp [unquoteChar, h1, hc, h2]
  | simple e v he =>
    refine ⟨false, ?_, charBytes_cp _ _ (Or.inr (simpleEsc_lt he))⟩
    simp [unquoteChar, hbq, he]
  | backslash =>
    refine ⟨false, ?_, charBytes_cp _ _ (Or.inr (by decide))⟩
    simp [unquoteChar, hbq, simpleEsc, isOct]
  | quote _ =>
    refine ⟨false, ?_, charBytes_cp _ _ (Or.inr (by rcases hq with rfl | rfl <;> decide))⟩
    rcases hq with rfl | rfl <;> rfl
  | oct a b c x y z ha hb hc hle =>
    refine ⟨false, ?_, charBytes_byte _⟩
    obtain ⟨hoa, hxa, -⟩ := octVal_some ha
    have hda := isOct_isDec hoa
    have hx : (a == 'x') = false ∧ (a == 'u') = false ∧ (a == 'U') = false :=
      ⟨beq_false_of_ne (isDec_ne hda (by decide)), beq_false_of_ne (isDec_ne hda (by decide)),
        beq_false_of_ne (isDec_ne hda (by decide))⟩
    have hv : ((a.toNat - 48) * 8 + y) * 8 + z = x * 64 + y * 8 + z := by rw [← hxa, Nat.add_mul, Nat.mul_assoc]
    simp [unquoteChar, hbq, simpleEsc_dec hda, hx, hoa, hb, hc, hv, Nat.not_lt.2 hle]
  | hex a b x y ha hb =>
    refine ⟨false, ?_, charBytes_byte _⟩
    simp [unquoteChar, hbq, simpleEsc, hexN, ha, hb]
  | u4 a b c d w x y z ha hb hc hd hv =>
    refine ⟨true, ?_, charBytes_cp _ _ (Or.inl rfl)⟩
    simp [unquoteChar, hbq, simpleEsc, hexN, ha, hb, hc, hd, hv]
  | u8 a b c d e f g h s t u v w x y z ha hb hc hd he hf hg hh hv =>
    refine ⟨true, ?_, charBytes_cp _ _ (Or.inl rfl)⟩
    simp [unquoteChar, hbq, simpleEsc, hexN, ha, hb, hc, hd, he, hf, hg, hh, hv]

end EgoVerif.C06
