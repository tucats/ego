import EgoVerif.C06.Chars
/- C06 — lemmas for the integer theorem: digit classes and `_`-separated digit strings, FormatInt/ParseInt round
trip, scanner extent and strconv.ParseInt(·, 0, 64) on the integer grammar. -/
namespace EgoVerif.C06

theorem isX_excl {c : Char} (h : isX c = true) : isB c = false ∧ isO c = false := by
  simp [isX] at h; rcases h with rfl | rfl <;> decide

theorem isO_excl {c : Char} (h : isO c = true) : isB c = false ∧ isX c = false := by
  simp [isO] at h; rcases h with rfl | rfl <;> decide

theorem isB_excl {c : Char} (h : isB c = true) : isO c = false ∧ isX c = false := by
  simp [isB] at h; rcases h with rfl | rfl <;> decide

/-- `p` is the digit class of `base`: strconv.ParseUint reads a member as a digit below `base`, and
underscoreOK and the scanner, in hex mode iff `hex`, take it for a digit -/
structure DigitClass (p : Char → Bool) (base : Nat) (hex : Bool) : Prop where
  val : ∀ {c}, p c = true → ∃ d, digitVal? c = some d ∧ d < base
  dig : ∀ {c}, p c = true → (isDec c || (hex && isHexLetter c)) = true

theorem digitVal_dec {c : Char} (h : isDec c = true) : digitVal? c = some (c.toNat - 48) := by
  simp only [isDec, Bool.and_eq_true, decide_eq_true_eq] at h
  simp [digitVal?, h]

theorem decClass : DigitClass isDec 10 false where
  val h := ⟨_, digitVal_dec h, by simp only [isDec, Bool.and_eq_true, decide_eq_true_eq] at h; omega⟩
  dig h := by simp [h]

theorem octClass : DigitClass isOct 8 false where
  val h := ⟨_, digitVal_dec (isOct_isDec h), by simp only [isOct, Bool.and_eq_true, decide_eq_true_eq] at h; omega⟩
  dig h := by simp [isOct_isDec h]

theorem binClass : DigitClass isBin 2 false where
  val h := ⟨_, digitVal_dec (isBin_isDec h), by
    simp only [isBin, Bool.or_eq_true, beq_iff_eq] at h; omega⟩
  dig h := by simp [isBin_isDec h]

theorem hexClass : DigitClass isHexDig 16 true where
  val {c} h := by
    by_cases hd : isDec c = true
    · exact ⟨_, digitVal_dec hd, by simp only [isDec, Bool.and_eq_true, decide_eq_true_eq] at hd; omega⟩
    · simp only [isDec, Bool.and_eq_true, decide_eq_true_eq] at hd
      simp only [isHexDig, isDec, isHexLetter, Bool.or_eq_true, Bool.and_eq_true, decide_eq_true_eq] at h
      rcases h with h | h | h
      · exact absurd h hd
      · exact ⟨c.toNat - 87, by simp [digitVal?, hd, show 97 ≤ c.toNat ∧ c.toNat ≤ 122 by omega], by omega⟩
      · exact ⟨c.toNat - 55, by
          simp [digitVal?, hd, show ¬ (97 ≤ c.toNat ∧ c.toNat ≤ 122) by omega, show 65 ≤ c.toNat ∧ c.toNat ≤ 90 by omega],
          by omega⟩
  dig h := by simpa [isHexDig] using h

theorem sepTail_mem {p : Char → Bool} : ∀ {r : List Char}, sepTail p r = true → ∀ c ∈ r, p c = true ∨ c = '_' := by
  intro r
  induction r using sepTail.induct with
  | case1 => intro _ c hc; cases hc
  | case2 c hc d r' ih =>
    intro h
    simp only [sepTail, hc, if_true, Bool.and_eq_true] at h
    simp only [List.forall_mem_cons]
    exact ⟨.inr (beq_iff_eq.mp hc), .inl h.1, ih h.2⟩
  | case3 c hc => intro h; simp [sepTail, hc] at h
  | case4 c r hc ih =>
    intro h
    rw [sepTail.eq_def] at h
    simp only [hc, Bool.false_eq_true, if_false, Bool.and_eq_true] at h
    simp only [List.forall_mem_cons]
    exact ⟨.inl h.1, ih h.2⟩

theorem spanDig_eq (p : Char → Bool) (s : List Char) :
    spanDig p s = (s.takeWhile fun c => p c || c == '_', s.dropWhile fun c => p c || c == '_') := by
  induction s with
  | nil => rfl
  | cons c r ih => rw [spanDig, ih, List.takeWhile_cons, List.dropWhile_cons]; cases p c || c == '_' <;> rfl

theorem spanDig_append {p : Char → Bool} {s a rest : List Char} (h : spanDig p s = (a, rest)) : a ++ rest = s := by
  rw [spanDig_eq] at h; cases h; exact List.takeWhile_append_dropWhile

theorem spanDig_mem (p : Char → Bool) : ∀ s, ∀ c ∈ (spanDig p s).1, p c = true ∨ c = '_' := by
  intro s c hc
  rw [spanDig_eq] at hc
  simpa using List.all_eq_true.mp List.all_takeWhile c hc

theorem spanDig_all {p : Char → Bool} {r : List Char} (h : ∀ c ∈ r, p c = true ∨ c = '_') : spanDig p r = (r, []) := by
  have hq : ∀ c ∈ r, (p c || c == '_') = true := fun c hc => by simpa using h c hc
  rw [spanDig_eq]
  simpa using And.intro (List.takeWhile_append_of_pos (l₂ := []) hq) (List.dropWhile_append_of_pos (l₂ := []) hq)

theorem scDigits_span (hex : Bool) : ∀ s, scDigits hex s = spanDig (if hex then isHexDig else isDec) s := by
  intro s
  induction s with
  | nil => rfl
  | cons c r ih => cases hex <;> simp [scDigits, spanDig, ih]

theorem puLoop_all {base : Nat} : ∀ {r : List Char} (acc : Nat),
    (∀ c ∈ r, (∃ d, digitVal? c = some d ∧ d < base) ∨ c = '_') →
    puLoop base true acc r = some (goVal base acc r) := by
  intro r
  induction r with
  | nil => intro acc _; rfl
  | cons c r ih =>
    intro acc h
    rw [List.forall_mem_cons] at h
    by_cases hu : c = '_'
    · subst hu; simp [puLoop, goVal, ih _ h.2]
    · obtain ⟨d, hd, hlt⟩ := h.1.resolve_right hu
      simp [puLoop, goVal, hu, hd, Nat.not_le.2 hlt, ih _ h.2]

section
variable {p : Char → Bool} {base : Nat} {hex : Bool} (hp : DigitClass p base hex) {r : List Char}
include hp

theorem puLoop_sep (h : sepTail p r = true) (acc : Nat) : puLoop base true acc r = some (goVal base acc r) :=
  puLoop_all acc fun c hc => (sepTail_mem h c hc).imp_left hp.val

theorem uok_sep : ∀ {r : List Char}, sepTail p r = true → uokLoop hex .dig r = true := by
  have hus : (isDec '_' || (hex && isHexLetter '_')) = false := by
    rw [show isDec '_' = false by decide, show isHexLetter '_' = false by decide]; simp
  intro r
  induction r using sepTail.induct with
  | case1 => intro _; rfl
  | case2 c hc d r' ih =>
    obtain rfl : c = '_' := beq_iff_eq.mp hc
    intro h
    simp only [sepTail, beq_self_eq_true, if_true, Bool.and_eq_true] at h
    simp [uokLoop, hus, hp.dig h.1, ih h.2]
  | case3 c hc => intro h; simp [sepTail, hc] at h
  | case4 c r hc ih =>
    intro h
    rw [sepTail.eq_def] at h; simp [hc] at h
    rw [uokLoop, if_pos (hp.dig h.1)]
    exact ih h.2

theorem scMant_sep (h : sepTail p r = true) : scMant hex r = (r, []) := by
  have hd : scDigits hex r = (r, []) := scDigits_span hex r ▸ spanDig_all fun c hc =>
    (sepTail_mem h c hc).imp_left fun h1 => by
      have := hp.dig h1
      cases hex <;> simpa [isHexDig] using this
  simp [scMant, hd, scExp]

/-- strconv.ParseUint(s, 0, ·) when `s` passes underscoreOK like the digit string `r` and the base-0 prefix
handling leaves `r` to the main loop -/
theorem parseUint0_sep {s : List Char} (h : sepTail p r = true)
    (hu : underscoreOK s = uokLoop hex .dig r) (hb : puBase0 s = puLoop base true 0 r) :
    parseUint s 0 = some (goVal base 0 r) := by
  simp [parseUint, hu, uok_sep hp h, hb, puLoop_sep hp h]

end

/-! ### strconv.FormatInt then strconv.ParseInt(·, 10, ·) -/

theorem puLoop_append {base : Nat} {b0 : Bool} : ∀ (l r : List Char) (acc : Nat),
    puLoop base b0 acc (l ++ r) = (puLoop base b0 acc l).bind fun v => puLoop base b0 v r := by
  intro l
  induction l with
  | nil => intro r acc; simp [puLoop]
  | cons c l ih =>
    intro r acc
    simp only [List.cons_append, puLoop]
    split
    · exact ih r acc
    · split
      · simp
      · split
        · simp
        · exact ih r _

theorem digitChar_val : ∀ d, d < 10 → digitVal? (digitChar d) = some d := by decide

theorem digitChar_ne_us : ∀ d, d < 10 → (digitChar d == '_') = false := by decide

theorem puLoop_digit (acc d : Nat) (h : d < 10) : puLoop 10 false acc [digitChar d] = some (acc * 10 + d) := by
  simp [puLoop, digitChar_val d h]; omega

theorem puLoop_itoaF : ∀ (f n : Nat), n < f → puLoop 10 false 0 (itoaF f n) = some n := by
  intro f
  induction f with
  | zero => intro n h; cases h
  | succ f ih =>
    intro n h
    unfold itoaF
    split
    · rw [puLoop_digit 0 n ‹_›, Nat.zero_mul, Nat.zero_add]
    · rw [puLoop_append, ih (n / 10) (by omega), Option.bind_some, puLoop_digit _ _ (Nat.mod_lt _ (by decide)),
        Nat.div_add_mod']

theorem parseUint_itoa (n : Nat) : parseUint (itoa n) 10 = some n := by
  unfold parseUint itoa
  have h := puLoop_itoaF (n + 1) n (by omega)
  have hne : itoaF (n + 1) n ≠ [] := by unfold itoaF; split <;> simp
  simp only [show ((10 : Nat) == 0) = false by decide]
  split
  · contradiction
  · simpa using h

/-- expr_atom.go `pushIntConstant` on the decimal spelling written by `convertRadixToDecimal` -/
theorem pushInt_itoa (n : Nat) (h : n < 2 ^ 63) : pushInt (itoa n) = .int n := by
  unfold pushInt parseInt
  rw [parseUint_itoa]
  by_cases h31 : n < 2 ^ (32 - 1)
  · simp [h31]
  · have h63 : n < 2 ^ (64 - 1) := h
    simp [h31, h63]

/-! ### the scanner and strconv.ParseInt(·, 0, 64) on the Go integer grammar -/

/-- the text does not start with a radix prefix `0x`, `0o`, `0b` -/
def NoRadix (s : List Char) : Prop := ∀ c r, s = '0' :: c :: r → (isX c || isO c || isB c) = false

theorem scMant_cons_digit {d : Char} (hd : isDec d = true) (t : List Char) :
    scMant false (d :: t) = (d :: (scMant false t).1, (scMant false t).2) := by
  have h1 : scDigits false (d :: t) = (d :: (scDigits false t).1, (scDigits false t).2) := by
    simp [scDigits, hd]
  unfold scMant
  rw [h1]
  simp only []
  split <;> simp

theorem scanNumber_prefixed {c : Char} (h : (isX c || isO c || isB c) = true) (r : List Char) :
    scanNumber ('0' :: c :: r) = ('0' :: c :: (scMant (isX c) r).1, (scMant (isX c) r).2) := by
  have hdot : ('0' == '.') = false := by decide
  cases hx : isX c
  · have hob : (isO c || isB c) = true := by simpa [hx] using h
    simp [scanNumber, hdot, hx, hob]
  · simp [scanNumber, hdot, hx]

theorem scanNumber_plain {s : List Char} (h : NoRadix s) :
    scanNumber s = scMant false s := by
  match s with
  | [] => rfl
  | c0 :: t =>
    by_cases hdot : c0 = '.'
    · subst hdot; simp [scanNumber, scMant, scDigits, show isDec '.' = false by decide]
    · have hdot' : (c0 == '.') = false := by simpa using hdot
      by_cases h0 : c0 = '0'
      · subst h0
        cases t with
        | nil => rfl
        | cons c r =>
          have := h c r rfl
          simp only [Bool.or_eq_false_iff] at this
          simp [scanNumber, hdot', this, scMant_cons_digit (show isDec '0' = true by decide)]
      · have h0' : (c0 == '0') = false := by simpa using h0
        simp [scanNumber, hdot', h0']

theorem underscoreOK_prefixed {c : Char} (h : (isX c || isO c || isB c) = true) (r : List Char) :
    underscoreOK ('0' :: c :: r) = uokLoop (isX c) .dig r := by
  rw [underscoreOK, if_pos]
  -- the same test with the three letters in the opposite order
  rw [← h]; cases isX c <;> cases isO c <;> cases isB c <;> rfl

theorem underscoreOK_plain {s : List Char} (h : NoRadix s) : underscoreOK s = uokLoop false .beg s := by
  unfold underscoreOK
  split
  · rename_i c0 c r
    rw [if_neg]
    intro hpre
    simp only [Bool.and_eq_true, beq_iff_eq] at hpre
    have := h c r (hpre.1 ▸ rfl)
    simp only [Bool.or_eq_false_iff] at this
    simp [this] at hpre
  · rfl

/-- base-0 prefix handling of ParseUint without a radix prefix: the whole text in base 8 (legacy octal) after a
leading `0`, else in base 10 -/
theorem puBase0_plain {c0 : Char} {t : List Char} (h : NoRadix (c0 :: t)) :
    puBase0 (c0 :: t) = puLoop (if c0 = '0' then 8 else 10) true 0 (c0 :: t) := by
  by_cases h0 : c0 = '0'
  · subst h0
    have hz : puLoop 8 true 0 ('0' :: t) = puLoop 8 true 0 t := by
      rw [puLoop, if_neg (by decide), show digitVal? '0' = some 0 by decide]; rfl
    rw [if_pos rfl, hz]
    cases t with
    | nil => rfl
    | cons c r =>
      have := h c r rfl
      simp only [Bool.or_eq_false_iff] at this
      cases r <;> simp [puBase0, this]
  · simp [puBase0, h0]

theorem goInt_prefixed {c : Char} {r : List Char} {n : Nat} (hpre : (isX c || isO c || isB c) = true)
    (h : goInt ('0' :: c :: r) = some n) :
    ∃ p base, DigitClass p base (isX c) ∧ optSep p r = true ∧ n = goVal base 0 r ∧
      ∀ d r', puBase0 ('0' :: c :: d :: r') = puLoop base true 0 (d :: r') := by
  by_cases hx : isX c = true
  · have he := isX_excl hx
    simp [goInt, hx] at h
    exact ⟨isHexDig, 16, hx ▸ hexClass, h.1, h.2.symm, by intro d r'; simp [puBase0, he.1, he.2, hx]⟩
  · by_cases ho : isO c = true
    · have he := isO_excl ho
      simp [goInt, hx, ho] at h
      exact ⟨isOct, 8, he.2 ▸ octClass, h.1, h.2.symm, by intro d r'; simp [puBase0, he.1, ho]⟩
    · have hb : isB c = true := by simpa [hx, ho] using hpre
      have he := isB_excl hb
      simp [goInt, hx, ho, hb] at h
      exact ⟨isBin, 2, he.2 ▸ binClass, h.1, h.2.symm, by intro d r'; simp [puBase0, hb]⟩

theorem plain_scan_parse {p : Char → Bool} {base : Nat} (hp : DigitClass p base false) {c0 : Char} {t : List Char}
    (hpl : NoRadix (c0 :: t)) (h0 : p c0 = true) (hs : sepTail p t = true) (hb : (if c0 = '0' then 8 else 10) = base) :
    scanNumber (c0 :: t) = (c0 :: t, []) ∧ parseUint (c0 :: t) 0 = some (goVal base 0 (c0 :: t)) := by
  have hd : isDec c0 = true := by simpa using hp.dig h0
  have hs' : sepTail p (c0 :: t) = true := by
    rw [sepTail.eq_def]; simp [isDec_ne hd (show '_' ∈ special by decide), h0, hs]
  refine ⟨?_, parseUint0_sep hp hs' ?_ ?_⟩
  · rw [scanNumber_plain hpl, scMant_sep hp hs']
  · rw [underscoreOK_plain hpl, uokLoop, if_pos (hp.dig h0), uokLoop, if_pos (hp.dig h0)]
  · rw [puBase0_plain hpl, hb]

/-- a Go integer literal starts with a digit, text/scanner takes the whole text as one number token and
strconv.ParseUint(·, 0, ·) computes the literal's value -/
theorem goInt_scan_parse {s : List Char} {n : Nat} (h : goInt s = some n) :
    (∃ c t, s = c :: t ∧ isDec c = true) ∧ scanNumber s = (s, []) ∧ parseUint s 0 = some n := by
  cases s with
  | nil => simp [goInt] at h
  | cons c0 t =>
    by_cases h0 : c0 = '0'
    · subst h0
      refine ⟨⟨_, _, rfl, by decide⟩, ?_⟩
      cases t with
      | nil => simp [goInt] at h; subst h; decide
      | cons c r =>
        by_cases hpre : (isX c || isO c || isB c) = true
        · obtain ⟨p, base, hp, hs, rfl, hb⟩ := goInt_prefixed hpre h
          obtain ⟨hne, hs⟩ : r ≠ [] ∧ sepTail p r = true := by simpa [optSep] using hs
          refine ⟨?_, parseUint0_sep hp hs (underscoreOK_prefixed hpre r) ?_⟩
          · rw [scanNumber_prefixed hpre, scMant_sep hp hs]
          · cases r with
            | nil => exact absurd rfl hne
            | cons d r' => exact hb d r'
        · -- legacy octal: "0" [ "_" ] octal_digits
          obtain ⟨⟨hx, ho⟩, hb⟩ : (isX c = false ∧ isO c = false) ∧ isB c = false := by simpa using hpre
          simp [goInt, hx, ho, hb, optSep] at h
          obtain ⟨hs, rfl⟩ := h
          exact plain_scan_parse octClass (fun c' r' e => by cases e; simp [hx, ho, hb]) (by decide) hs rfl
    · -- decimal_lit = ( "1" … "9" ) [ [ "_" ] decimal_digits ]
      simp [goInt, h0] at h
      obtain ⟨⟨hc0, hs⟩, rfl⟩ := h
      exact ⟨⟨_, _, rfl, hc0⟩,
        plain_scan_parse decClass (fun c' r' e => by cases e; exact absurd rfl h0) hc0 hs (if_neg h0)⟩

end EgoVerif.C06
