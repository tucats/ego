import EgoVerif.C11.Model
import EgoVerif.C11.Glue
/-
C11 — theorems.  §1 base64 round trip (unbounded), §2 Roman numerals (FINITE 1…3999), §3 the sort
checkers are sound and complete, §4 the native-call glue is the identity on each parameter type's domain.
The Go library functions themselves are the specification and are compared differentially (harness).
-/
namespace EgoVerif.C11

/-! ## §1 base64 -/
/-- `decodeMap` inverts the alphabet: the table has 64 entries -/
theorem dec_enc : ∀ n < 64, dec (enc n) = some n := by decide

theorem enc_char (n : Nat) : enc n < 256 ∧ enc n ≠ 61 ∧ isNL (enc n) = false := by
  unfold enc isNL
  repeat' split
  all_goals simp <;> omega

/-- the four 6-bit groups of a 3-byte quantum are alphabet indices … -/
theorem sextets_lt {a b c : Nat} (ha : a < 256) (hb : b < 256) (hc : c < 256) :
    a / 4 < 64 ∧ a % 4 * 16 + b / 16 < 64 ∧ b % 16 * 4 + c / 64 < 64 ∧ c % 64 < 64 := by omega

/-- … and `decodeQuantum` puts the three bytes back together.  The short final quanta are the
    instances `b = c = 0` and `c = 0` (up to unfolding `0 / 16`, `x + 0`). -/
theorem quantum {a b c : Nat} (ha : a < 256) (hb : b < 256) (hc : c < 256) :
    (a / 4 * 4 + (a % 4 * 16 + b / 16) / 16) % 256 = a ∧
    ((a % 4 * 16 + b / 16) % 16 * 16 + (b % 16 * 4 + c / 64) / 4) % 256 = b ∧
    ((b % 16 * 4 + c / 64) % 4 * 64 + c % 64) % 256 = c := by omega

theorem encodeN_forall {P : Nat → Prop} (henc : ∀ n, P (enc n)) (hpad : P 61) (l : List Nat) :
    ∀ c ∈ encodeN l, P c := by
  fun_induction encodeN l <;> simp_all

theorem decodeQ_encodeN (l : List Nat) (h : ∀ b ∈ l, b < 256) : decodeQ (encodeN l) = some l := by
  fun_induction encodeN l with
  | case1 => rfl
  | case2 a =>
    simp only [List.forall_mem_cons] at h
    have := sextets_lt h.1 (Nat.zero_lt_succ _) (Nat.zero_lt_succ _)
    have := quantum h.1 (Nat.zero_lt_succ _) (Nat.zero_lt_succ _)
    simp_all [decodeQ, pad2, dec_enc]
  | case3 a b =>
    simp only [List.forall_mem_cons] at h
    have := sextets_lt h.1 h.2.1 (Nat.zero_lt_succ _)
    have := quantum h.1 h.2.1 (Nat.zero_lt_succ _)
    simp_all [decodeQ, pad1, dec_enc, (enc_char _).2.1]
  | case4 a b c rest ih =>
    simp only [List.forall_mem_cons] at h
    have := sextets_lt h.1 h.2.1 h.2.2.1
    have := quantum h.1 h.2.1 h.2.2.1
    simp_all [decodeQ, dec_enc, (enc_char _).2.1]

theorem decodeN_encodeN (l : List Nat) (h : ∀ b ∈ l, b < 256) : decodeN (encodeN l) = some l := by
  rw [decodeN, List.filter_eq_self.mpr, decodeQ_encodeN l h]
  exact encodeN_forall (P := fun c => (!isNL c) = true) (fun n => by rw [(enc_char n).2.2]; rfl) rfl l

theorem map_toNat_ofNat (l : List Nat) (h : ∀ c ∈ l, c < 256) : (l.map UInt8.ofNat).map (·.toNat) = l := by
  rw [List.map_map]
  exact (List.map_congr_left fun c hc => by simp [Nat.mod_eq_of_lt (h c hc)]).trans (List.map_id l)

/-- base64 round trip, every byte string (unbounded; induction on 3-byte chunks) -/
theorem C11_base64 (bs : List UInt8) : b64decode (b64encode bs) = some bs := by
  have hb : ∀ b ∈ bs.map (·.toNat), b < 256 := by
    intro b hb; simp only [List.mem_map] at hb; obtain ⟨x, _, rfl⟩ := hb; exact x.toNat_lt
  unfold b64decode b64encode
  rw [map_toNat_ofNat _ (encodeN_forall (fun n => (enc_char n).1) (by decide) _), decodeN_encodeN _ hb]
  simp [Function.comp_def]

/-- non-vacuity: "Man" ↦ "TWFu", "M" ↦ "TQ==" and back; garbage and bad padding are rejected,
    newlines are skipped -/
example : b64encode [77, 97, 110] = [84, 87, 70, 117] := by decide
example : b64encode [77] = [84, 81, 61, 61] := by decide
example : b64decode [84, 81, 61, 61] = some [77] := by decide
example : b64decode [84, 10, 81, 61, 13, 61, 10] = some [77] := by decide
example : b64decode [84, 81, 61] = none := by decide
example : b64decode [84, 81, 61, 61, 84] = none := by decide
example : b64decode [84, 42, 70, 117] = none := by decide

/-! ## §2 Roman numerals -/

theorem consume_stop {sym t : List Nat} (h : hasPrefix sym t = false) (v f acc : Nat) :
    consume sym v f t acc = (acc, t) := by
  cases f <;> simp [consume, h]

/-- one round of `romanToInt`'s loop over `_numerals` -/
def eat (st : Nat × List Nat) (nm : Nat × List Nat) : Nat × List Nat :=
  consume nm.2 nm.1 st.2.length st.2 st.1

/-- the ten digit strings of a decimal place written with the letters `i` (one), `v` (five), `x` (ten) -/
def digits (i v x : Nat) : List (List Nat) :=
  [[], [i], [i, i], [i, i, i], [i, v], [v], [v, i], [v, i, i], [v, i, i, i], [i, x]]

/-- The numerals `nums` read the value `val` off the whole of `s`, and no symbol matches `s` unless it begins with a
    letter of `L`.  This is what a tail of `intToRoman n` (the lower decimal places) and the corresponding tail of
    `_numerals` satisfy, with `L` the letters one and five of those places. -/
def Reads (nums : List (Nat × List Nat)) (s : List Nat) (val : Nat) (L : List Nat) : Prop :=
  (∀ acc, nums.foldl eat (acc, s) = (acc + val, [])) ∧ ∀ y, y ∉ L → ∀ p, hasPrefix (y :: p) s = false

section loop
-- the loop on a closed digit string runs by these equations; a symbol that does not match stops its round
attribute [local simp] tbl digits eat consume consume_stop hasPrefix
variable {nums : List (Nat × List Nat)} {s L : List Nat} {val : Nat}

/-- One more decimal place in front: its four numerals (nine, five, four, one; `u` the unit) read the digit `d` off the
    front, because what follows starts with none of the place's letters; and the longer string starts with the place's
    one or five, or as `s` does.  The loop is run on each of the ten digit strings, letters and `s` symbolic. -/
theorem Reads.place (h : Reads nums s val L) (i v x u : Nat) (hne : v ≠ i ∧ x ≠ i ∧ x ≠ v)
    (hL : i ∉ L ∧ v ∉ L ∧ x ∉ L) {d : Nat} (hd : d < 10) :
    Reads ([(9 * u, [i, x]), (5 * u, [v]), (4 * u, [i, v]), (u, [i])] ++ nums) (tbl (digits i v x) d ++ s)
      (d * u + val) (i :: v :: L) := by
  have hi := h.2 i hL.1
  have hv := h.2 v hL.2.1
  have hx := h.2 x hL.2.2
  match d, hd with
  | 0, _ | 1, _ | 2, _ | 3, _ | 4, _ | 5, _ | 6, _ | 7, _ | 8, _ | 9, _ =>
    constructor
    · intro acc
      simp [h.1, hi, hv, hx, hne, hne.1.symm] <;> omega
    · intro y hy p
      simp only [List.mem_cons, not_or] at hy
      simp [hy, h.2 y hy.2.2]

theorem Reads.thousands (h : Reads nums s val L) (hL : 77 ∉ L) {a : Nat} (ha : a ≤ 3) (acc : Nat) :
    ((1000, [77]) :: nums).foldl eat (acc, tbl rM3 a ++ s) = (acc + (a * 1000 + val), []) := by
  have hm := h.2 77 hL
  match a, ha with
  | 0, _ | 1, _ | 2, _ | 3, _ => simp [rM3, hm, h.1] <;> omega

end loop

/-- `romanToInt (intToRoman n) = n` below 4000: units, tens and hundreds are put in front one after the other, then
    the thousands, `M` repeated. -/
theorem romanParse_format (n : Nat) (h : n < 4000) : romanParse (romanFormat n) = some n := by
  have p0 : Reads [] [] 0 [] := ⟨fun _ => rfl, fun _ _ _ => rfl⟩
  have p1 := p0.place 73 86 88 1 (by decide) (by decide) (d := n % 10) (by omega)
  have p2 := p1.place 88 76 67 10 (by decide) (by decide) (d := n % 100 / 10) (by omega)
  have p3 := p2.place 67 68 77 100 (by decide) (by decide) (d := n % 1000 / 100) (by omega)
  have := p3.thousands (by decide) (a := n % 10000 / 1000) (by omega) 0
  simp only [List.append_nil, ← List.append_assoc] at this
  unfold romanParse
  -- `numerals` is the list of numerals in `this` and `rM2`, `rM1`, `rM0` are `digits` of their letters, by evaluation
  erw [this]
  simp
  omega

/-- romannumeral.romanToInt (intToRoman n) = n on the whole range 1…3999 that `itor` accepts -/
theorem C11_roman (n : Nat) (h1 : 1 ≤ n) (h2 : n ≤ 3999) : romanParse (romanFormat n) = some n :=
  romanParse_format n (by omega)

/-- strconv.Itor rejects exactly the integers outside 1…3999 -/
theorem C11_itor_range (n : Int) : (itor n).isSome = true ↔ (1 ≤ n ∧ n ≤ 3999) := by
  unfold itor; split <;> simp <;> omega

example : romanFormat 1994 = [77, 67, 77, 88, 67, 73, 86] := by decide
example : romanParse [77, 67, 77, 88, 67, 73, 86] = some 1994 := by decide
example : rtoi [32, 120, 105, 118, 10] = some 14 := by decide
/-- the parser is greedy, not a validator: "IIII" is accepted; "IM" leaves input over and is not (as in Go's library) -/
example : romanParse [73, 73, 73, 73] = some 4 := by decide
example : romanParse [73, 77] = none := by decide

/-! ## §3 checkers for observed sort results (T3) -/
theorem sortedB_iff (l : List Int) : sortedB l = true ↔ l.Pairwise (· ≤ ·) := by
  induction l with
  | nil => simp [sortedB]
  | cons a rest ih =>
    cases rest with
    | nil => simp [sortedB]
    | cons b t =>
      rw [sortedB]
      simp only [Bool.and_eq_true, decide_eq_true_eq, ih, List.pairwise_cons]
      constructor
      · rintro ⟨hab, hb, ht⟩
        refine ⟨?_, hb, ht⟩
        intro x hx
        rcases List.mem_cons.mp hx with rfl | hx
        · exact hab
        · exact Int.le_trans hab (hb x hx)
      · rintro ⟨ha, hb, ht⟩
        exact ⟨ha b (by simp), hb, ht⟩

/-- the checker the harness feeds with observed sort results is sound and complete -/
theorem C11_sortcheck_sound (out inp : List Int) :
    isSortedPerm out inp = true ↔ out.Pairwise (· ≤ ·) ∧ out.Perm inp := by
  simp [isSortedPerm, sortedB_iff, List.isPerm_iff]

theorem sameRuns_iff (out inp : List (Int × Nat)) (ks : List Int) :
    sameRuns out inp ks = true ↔ ∀ k ∈ ks, out.filter (·.1 == k) = inp.filter (·.1 == k) := by
  induction ks with
  | nil => simp [sameRuns]
  | cons k t ih => simp [sameRuns, ih]

theorem filter_absent (l : List (Int × Nat)) (k : Int) (h : k ∉ keys l) : l.filter (·.1 == k) = [] := by
  rw [List.filter_eq_nil_iff]
  intro x hx hk
  apply h
  simp only [keys, List.mem_map]
  exact ⟨x, hx, by simpa using hk⟩

/-- stability checker: sound and complete for "sorted by key, permutation, equal keys keep input order" -/
theorem C11_stablecheck_sound (out inp : List (Int × Nat)) :
    isStable out inp = true ↔
      (keys out).Pairwise (· ≤ ·) ∧ out.Perm inp ∧ ∀ k : Int, out.filter (·.1 == k) = inp.filter (·.1 == k) := by
  simp only [isStable, Bool.and_eq_true, sortedB_iff, List.isPerm_iff, sameRuns_iff, and_assoc]
  constructor
  · rintro ⟨hs, hp, hr⟩
    refine ⟨hs, hp, fun k => ?_⟩
    by_cases hk : k ∈ keys out ++ keys inp
    · exact hr k hk
    · rw [List.mem_append, not_or] at hk
      rw [filter_absent out k hk.1, filter_absent inp k hk.2]
  · rintro ⟨hs, hp, hr⟩
    exact ⟨hs, hp, fun k _ => hr k⟩

example : isSortedPerm [1, 2, 2, 5] [2, 5, 1, 2] = true := by decide
example : isSortedPerm [1, 2, 5] [2, 5, 1, 2] = false := by decide
example : isSortedPerm [2, 1] [1, 2] = false := by decide
example : isStable [(1, 1), (2, 0), (2, 2)] [(2, 0), (1, 1), (2, 2)] = true := by decide
example : isStable [(1, 1), (2, 2), (2, 0)] [(2, 0), (1, 1), (2, 2)] = false := by decide

/-! ## §4 the native-call glue (Glue.lean: convertToNative / convertFromNative) -/

theorem wrap_id (k : IK) (n : Int) (h : k.inRange n) : k.wrap n = n := by
  unfold IK.inRange at h
  unfold IK.wrap
  have hpos : 0 < k.hi - k.lo + 1 := by cases k <;> simp [IK.hi, IK.lo]
  rw [Int.emod_eq_of_lt (by omega) (by omega)]; omega

theorem lossy_same (k : IK) (n : Int) : lossy k k n = false := by
  cases k <;> simp [lossy]

/-- the domain of a scalar parameter type: the values that already have the declared Go type -/
def hasTy : Ty → Scalar → Prop
  | .str, .str _ => True
  | .sandboxed .str, .str _ => True
  | .bool, .bool _ => True
  | .any, _ => True
  | t, .int k n => intTarget t = some k ∧ k.inRange n
  | t, .flt k _ => fltTarget t = some k
  | _, _ => False

theorem scalarToNative_int {t : Ty} {k : IK} (h : intTarget t = some k) (pe : Bool) (s : Scalar) :
    scalarToNative pe t s = coerceInt pe k s := by
  cases t <;> cases h <;> rfl

theorem scalarToNative_flt {t : Ty} {k : FK} (h : fltTarget t = some k) (pe : Bool) (s : Scalar) :
    scalarToNative pe t s = coerceFlt k s := by
  cases t <;> cases h <;> rfl

theorem coerceInt_inRange (pe : Bool) {src k : IK} {n : Int} (hl : lossy src k n = false) (hr : k.inRange n) :
    coerceInt pe k (.int src n) = .ok (.int k n) := by
  rw [coerceInt, hl, wrap_id k n hr, Bool.and_false]
  rfl

theorem scalar_roundtrip (pe : Bool) (t : Ty) (s : Scalar) (h : hasTy t s) : scalarToNative pe t s = .ok s := by
  unfold hasTy at h
  split at h
  · rfl
  · rfl
  · rfl
  · rfl
  · rw [scalarToNative_int h.1, coerceInt_inRange pe (lossy_same _ _) h.2]
  · rw [scalarToNative_flt h]; exact if_pos rfl
  · exact h.elim

/-- element domain of an array with element kind `e` -/
def elemHas : EK → Scalar → Prop
  | .int k, .int k' n => k = k' ∧ k.inRange n
  | .str, .str _ => True
  | .bool, .bool _ => True
  | .flt k, .flt k' _ => k = k'
  | _, _ => False

/-- array element kinds handled in BOTH directions (makeNativeArrayArgument and convertFromNativeArray) -/
def faithfulEK : EK → Bool
  | .int k => k == .int || k == .int16 || k == .uint16 || k == .int32 || k == .int64 || k == .byte
  | .str | .bool => true
  | .flt k => k == .f32 || k == .f64
  | .any => false

theorem mapRes_id (f : Scalar → Res Scalar) (xs : List Scalar) (h : ∀ x ∈ xs, f x = .ok x) : mapRes f xs = .ok xs := by
  induction xs with
  | nil => rfl
  | cons a t ih =>
    simp [mapRes, h a (by simp), ih (fun x hx => h x (by simp [hx]))]

theorem coerceElem_id (pe : Bool) (k : IK) (x : Scalar) (h : elemHas (.int k) x) : coerceElem pe k x = .ok x := by
  cases x with
  | int k' n =>
    obtain ⟨rfl, hr⟩ := h
    unfold coerceElem
    split
    · exact coerceInt_inRange pe (lossy_same k n) hr
    · exact if_pos rfl
  | _ => cases h

theorem arr_toNative (pe : Bool) (e : EK) (xs : List Scalar) (he : faithfulEK e = true)
    (h : ∀ x ∈ xs, elemHas e x) : arrToNative pe (.arr e xs) = .ok (.slice e xs) := by
  cases e with
  | any => cases he
  | str | bool => rw [arrToNative, mapRes_id _ _ fun x hx => by have := h x hx; cases x <;> first | rfl | cases this]
  | flt k =>
    rw [arrToNative, mapRes_id _ _ fun x hx => by
      have := h x hx; cases x <;> first | (cases this; exact if_pos rfl) | cases this]
    cases k <;> first | rfl | cases he
  | int k =>
    rw [arrToNative, mapRes_id _ _ fun x hx => coerceElem_id pe k x (h x hx)]
    cases k <;> first | rfl | cases he

theorem faithfulEK_from (e : EK) (h : faithfulEK e = true) : fromArrayKind e = true := by
  cases e with
  | int k => cases k <;> first | rfl | cases h
  | flt k => cases k <;> first | rfl | cases h
  | _ => rfl

theorem toNative_sc {t : Ty} (h : ∀ e, t ≠ .arr e) {pe : Bool} {s r : Scalar} (hs : scalarToNative pe t s = .ok r) :
    toNative pe t (.sc s) = .ok (.sc r) := by
  unfold toNative
  split
  · exact absurd rfl (h _)
  · simp only [hs]

/-- `fromNative (toNative v T) = v`, scalars: on the domain of a faithful parameter type the argument
    reaches the Go function unchanged, and a Go scalar result comes back unchanged -/
theorem C11_conv_roundtrip (pe multi : Bool) (t : Ty) (s : Scalar) (ht : faithfulScalar t = true) (h : hasTy t s) :
    toNative pe t (.sc s) = .ok (.sc s) ∧ fromNative [t] multi (.sc s) = .ok [.sc s] := by
  have hna : ∀ e, t ≠ .arr e := by rintro e rfl; cases ht
  constructor
  · exact toNative_sc hna (scalar_roundtrip pe t s h)
  · unfold fromNative
    split
    · rename_i e heq; cases heq; exact absurd rfl (hna e)
    · rfl

/-- `fromNative (toNative v T) = v`, arrays: an Ego array of a faithful element kind reaches Go as the
    slice with the same elements, and that slice comes back as the same Ego array -/
theorem C11_conv_roundtrip_array (pe multi : Bool) (et : Ty) (e : EK) (xs : List Scalar) (he : faithfulEK e = true)
    (h : ∀ x ∈ xs, elemHas e x) :
    toNative pe (.arr et) (.arr e xs) = .ok (.slice e xs) ∧
    fromNative [.arr et] multi (.slice e xs) = .ok [.arr e xs] := by
  constructor
  · simp [toNative, arr_toNative pe e xs he h]
  · simp [fromNative, faithfulEK_from e he]

/-- value/error result lists: every element of a Go multi-value result is delivered, in order, under
    a marker carrying the count; a single-value use receives the primary (first) value -/
theorem C11_conv_results (rets : List Ty) (xs : List Scalar) (hr : ∀ e, rets ≠ [.arr e]) :
    fromNative rets true (.list xs) = .ok (xs.map .sc ++ [.marker xs.length]) ∧
    (xs.length > 1 → fromNative rets false (.list xs) = .ok ((xs.take 1).map .sc)) := by
  have (multi : Bool) : fromNative rets multi (.list xs) = .ok (pushMulti multi xs) := by
    unfold fromNative
    split
    · rename_i e; exact absurd rfl (hr e)
    · rfl
  refine ⟨by simp [this, pushMulti], fun hl => ?_⟩
  simp [this, pushMulti, hl]

/-- faithfulness: on the domain, distinct Ego arguments reach the Go function as distinct values
    (so the wrapper computes the Go function on the caller's value) -/
theorem C11_conv_faithful (pe : Bool) (t : Ty) (s₁ s₂ : Scalar) (ht : faithfulScalar t = true)
    (h₁ : hasTy t s₁) (h₂ : hasTy t s₂) (heq : toNative pe t (.sc s₁) = toNative pe t (.sc s₂)) : s₁ = s₂ := by
  rw [(C11_conv_roundtrip pe true t s₁ ht h₁).1, (C11_conv_roundtrip pe true t s₂ ht h₂).1] at heq
  injection heq with h; injection h

/-- outside the domain the mapping is NOT the identity — the coercions of coerce.go:
    an int32 parameter wraps (or, with ego.runtime.precision.error, rejects) a wide int … -/
theorem C11_conv_wrap_counterexample :
    toNative false .int32 (.sc (.int .int 4294967297)) = .ok (.sc (.int .int32 1)) ∧
    toNative true .int32 (.sc (.int .int 4294967297)) = .precision := by decide

/-- an integer literal (an Ego `int`) that the parameter type can hold arrives as exactly that value, under
    either setting of ego.runtime.precision.error (with fixes/C11.patch; before it, MinInt32 was rejected
    for an int32 parameter: `strings.ContainsRune(s, -2147483648)`) -/
theorem C11_conv_int_literal (pe : Bool) (t : Ty) (k : IK) (n : Int) (ht : intTarget t = some k) (hr : k.inRange n) :
    toNative pe t (.sc (.int .int n)) = .ok (.sc (.int k n)) := by
  have hl : lossy .int k n = false := by
    unfold IK.inRange at hr
    cases k <;> simp_all [lossy, IK.lo, IK.hi] <;> omega
  exact toNative_sc (by rintro e rfl; cases ht) ((scalarToNative_int ht pe _).trans (coerceInt_inRange pe hl hr))

example : toNative true .int32 (.sc (.int .int (-2147483648))) = .ok (.sc (.int .int32 (-2147483648))) := by decide

theorem tableOk_append (a b : List FnDecl) : tableOk (a ++ b) = (tableOk a && tableOk b) := by
  simp [tableOk]

theorem tableOk_sound (t : List FnDecl) (h : tableOk t = true) : ∀ f ∈ t, f.native = true → FaithfulDecl f := by
  intro f hf hn
  have := List.all_eq_true.mp h f hf
  simp [declOk, hn] at this
  exact ⟨fun p hp => this.1 p hp, fun r hr => this.2 r hr⟩

example : hasTy .int32 (.int .int32 (-2147483648)) := by unfold hasTy; exact ⟨rfl, by decide⟩
example : hasTy .str (.str "héllo") := trivial
example : elemHas (.int .byte) (.int .byte 255) := by unfold elemHas; exact ⟨rfl, by decide⟩

/-! non-vacuity of the remaining hypotheses -/
example : ∀ e, ([Ty.int, Ty.err] : List Ty) ≠ [.arr e] := by intro e; simp
example : faithfulEK (.int .int32) = true ∧ faithfulEK .str = true ∧ faithfulEK .any = false := by decide
example : faithfulScalar .int32 = true ∧ faithfulScalar (.sandboxed .str) = true ∧ faithfulScalar .uint32 = false := by decide
example : intTarget .byte = some .byte ∧ IK.byte.inRange 255 := by decide
/-- a native function with a parameter type the glue has no case for fails the per-function obligation -/
example : declOk { pkg := "strconv", name := "IsPrint", params := [.uint32], variadic := false, returns := [.bool],
                   native := true, receiver := false, value := "go:strconv.IsPrint" } = false := by decide
example : declOk { pkg := "strings", name := "Fields", params := [.str], variadic := false, returns := [.arr .str],
                   native := true, receiver := false, value := "go:strings.Fields" } = true := by decide
end EgoVerif.C11
