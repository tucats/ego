/-
C41 — theorems over the re-encoding model (Model.lean): what a service observes in a child process is what it observes
in-process, and what the parent writes from the child's answer is the in-process response, each for all inputs of a
stated domain (`ReqOK`, `RespOK`).  The classes outside the domains on which the two paths really differ (strings that
are not UTF-8, several values of one response header, status 401, an error status without a body) each have a
counterexample theorem; that response header names are canonical and distinct is assumed for the proof only.
-/
import EgoVerif.C41.Model
namespace EgoVerif.C41

theorem sanitizeF_of_validF : ∀ (f : Nat) (s : Bytes), validF f s = true → sanitizeF f s = s := by
  intro f
  induction f with
  | zero =>
    intro s hv
    cases s with
    | nil => rfl
    | cons b r => cases hv
  | succ f ih =>
    intro s hv
    cases s with
    | nil => rfl
    | cons b r =>
      rw [validF] at hv
      rw [sanitizeF]
      split at hv
      · cases hv
      · rename_i h0
        rw [if_neg h0, ih _ hv, List.take_append_drop]

/-- A string that is valid UTF-8 survives the JSON transport byte for byte. -/
theorem C41_string_survives (s : Bytes) (h : valid s = true) : sanitize s = s :=
  sanitizeF_of_validF s.length s h

/-- …and one that is not does not: the single byte FF (and the PNG signature) come back as U+FFFD. -/
theorem C41_string_counterexample :
    valid [0xFF] = false ∧ sanitize [0xFF] = [0xEF, 0xBF, 0xBD] ∧
    sanitize [0x89, 0x50, 0x4E, 0x47] = [0xEF, 0xBF, 0xBD, 0x50, 0x4E, 0x47] := by decide

example : valid [0xC3, 0xA9, 0xE2, 0x98, 0x83, 0xF0, 0x9D, 0x84, 0x9E, 0x41] = true ∧ valid [0xED, 0xA0, 0x80] = false ∧ valid [0xC0, 0x80] = false ∧
    valid [0xF4, 0x90, 0x80, 0x80] = false ∧ valid [0xF4, 0x8F, 0xBF, 0xBF] = true := by decide

theorem foldl_snoc {α β} (ins : Bytes → β → SMap β → SMap β)
    (hins : ∀ k v m, k ∉ m.map (·.1) → ins k v m = m ++ [(k, v)]) (g : α → Bytes × β) (l : List α) :
    ∀ acc : SMap β, ((acc ++ l.map g).map (·.1)).Nodup →
      l.foldl (fun acc a => ins (g a).1 (g a).2 acc) acc = acc ++ l.map g := by
  induction l with
  | nil => intro acc _; exact (List.append_nil acc).symm
  | cons a l ih =>
    intro acc hn
    rw [List.map_cons] at hn
    have hfresh : (g a).1 ∉ acc.map (·.1) := by
      rw [List.map_append, List.map_cons, List.nodup_append] at hn
      exact fun hmem => hn.2.2 _ hmem _ List.mem_cons_self rfl
    rw [List.foldl_cons, hins _ _ _ hfresh, ih _ (by rwa [List.append_assoc]), List.append_assoc]; rfl

theorem insertLast_notin {α} (k : Bytes) (v : α) (m : SMap α) (h : k ∉ m.map (·.1)) :
    insertLast k v m = m ++ [(k, v)] := by
  induction m with
  | nil => rfl
  | cons x m ih =>
    obtain ⟨k', v'⟩ := x
    rw [List.map_cons, List.mem_cons, not_or] at h
    rw [insertLast, if_neg (fun e => h.1 e.symm), ih h.2]; rfl

/-- A Go map whose keys are valid UTF-8 (hence distinct after the transport) and whose values survive,
survives the JSON transport entry for entry. -/
theorem C41_map_survives {α} (f : α → α) (m : SMap α) (hk : ∀ kv ∈ m, valid kv.1 = true)
    (hf : ∀ kv ∈ m, f kv.2 = kv.2) (hn : (m.map (·.1)).Nodup) : jsonMap f m = m := by
  have hid : m.map (fun kv => (sanitize kv.1, f kv.2)) = m := by
    rw [List.map_congr_left fun kv h => by rw [C41_string_survives _ (hk kv h), hf kv h], List.map_id']
  have h := foldl_snoc insertLast insertLast_notin (fun kv => (sanitize kv.1, f kv.2)) m []
  rw [List.nil_append, hid] at h
  exact h hn

/-- …and two keys that are not valid UTF-8 can collapse into one entry (query `?%FE=1&%FF=2`). -/
theorem C41_map_counterexample :
    jsonMap jsonList [([0xFE], [[0x31]]), ([0xFF], [[0x32]])] = [([0xEF, 0xBF, 0xBD], [[0x32]])] := by decide

/-! ## the request -/

@[reducible] def validL (l : List Bytes) : Prop := ∀ x ∈ l, valid x = true

@[reducible] def validMap (m : SMap (List Bytes)) : Prop :=
  (∀ kv ∈ m, valid kv.1 = true ∧ validL kv.2) ∧ (m.map (·.1)).Nodup

def validPart : Part → Prop
  | .b _ => True
  | .s v => valid v = true

instance (p : Part) : Decidable (validPart p) := by
  cases p <;> simp only [validPart] <;> infer_instance

/-- the domain of the request theorem: every string of the request is valid UTF-8 (map keys distinct, as in
any Go map), and the session's parameters are the URL's query, as `router.ServeHTTP` sets them -/
structure ReqOK (s : Session) (r : Request) : Prop where
  params : s.parameters = r.query
  user : valid s.user = true
  path : valid s.path = true
  method : valid r.method = true
  url : valid r.url = true
  body : valid r.body = true
  perms : validL s.permissions
  query : validMap r.query
  headers : validMap r.headers
  parts : (∀ kv ∈ s.urlParts, valid kv.1 = true ∧ validPart kv.2) ∧ (s.urlParts.map (·.1)).Nodup

theorem jsonList_id (l : List Bytes) (h : validL l) : jsonList l = l :=
  (List.map_congr_left fun x hx => C41_string_survives x (h x hx)).trans (List.map_id' l)

theorem jsonMap_lists (m : SMap (List Bytes)) (h : validMap m) : jsonMap jsonList m = m :=
  C41_map_survives jsonList m (fun kv hkv => (h.1 kv hkv).1) (fun kv hkv => jsonList_id _ (h.1 kv hkv).2) h.2

theorem wirePart_id (p : Part) (h : validPart p) : wirePart p = p := by
  cases p with
  | b v => rfl
  | s v => exact congrArg Part.s (C41_string_survives v h)

theorem validMap_filter (m : SMap (List Bytes)) (p : Bytes × List Bytes → Bool) (h : validMap m) :
    validMap (m.filter p) :=
  ⟨fun kv hkv => h.1 kv (List.mem_filter.mp hkv).1,
   List.Nodup.sublist (List.Sublist.map _ List.filter_sublist) h.2⟩

theorem acceptsJSONHeader_filter (hs : SMap (List Bytes)) :
    acceptsJSONHeader (hs.filter (fun h => nonSensitive h.1)) = acceptsJSONHeader hs := by
  simp only [acceptsJSONHeader, List.any_filter]
  congr 1
  funext h
  cases nonSensitive h.1 <;> simp

theorem wireReq_id (s : Session) (r : Request) (h : ReqOK s r) : wireReq (encodeReq s r) = encodeReq s r := by
  simp only [wireReq, encodeReq]
  rw [C41_string_survives _ h.user, C41_string_survives _ h.method, C41_string_survives _ h.path,
      C41_string_survives _ h.url, C41_string_survives _ h.body, jsonList_id _ h.perms,
      jsonMap_lists _ (validMap_filter _ _ h.headers), jsonMap_lists _ (h.params ▸ h.query),
      C41_map_survives wirePart _ (fun kv hkv => (h.parts.1 kv hkv).1)
        (fun kv hkv => wirePart_id _ (h.parts.1 kv hkv).2) h.parts.2]

/-- request half: for every session and request in the domain, the Ego `Request` value and the request
symbols a service observes in a child process equal what it observes in-process — method, URL, endpoint, user,
body, admin/JSON/text/authenticated flags, authentication kind, session id, every (non-sensitive) header with all
its values, every parameter, every URL part with its type, permissions, URL-part symbols, `_user`, `_method`,
`_session`, and the handler's JSON-reply decision. -/
theorem C41_request_fields_survive (s : Session) (r : Request) (h : ReqOK s r) :
    viewChild (wireReq (encodeReq s r)) = viewInproc s r := by
  rw [wireReq_id s r h]
  simp only [viewChild, viewInproc, encodeReq, List.filter_filter, Bool.and_self, acceptsJSONHeader_filter, h.params]

/-- outside the domain the request is altered: a body that is not UTF-8 reaches the child service changed
(and longer), and a percent-encoded non-UTF-8 URL variable changes too -/
theorem C41_request_counterexample :
    let s : Session := { id := 1, path := [0x2F], user := [], token := [], authenticated := false, admin := false,
                         acceptsJSON := false, acceptsText := false, parameters := [], urlParts := [([0x6E], .s [0xFF])],
                         permissions := [] }
    let r : Request := { method := [0x50], url := [0x2F], query := [], headers := [], body := [0x61, 0xFF, 0x62] }
    (viewChild (wireReq (encodeReq s r))).body = [0x61, 0xEF, 0xBF, 0xBD, 0x62] ∧ (viewInproc s r).body = [0x61, 0xFF, 0x62] ∧
    (viewChild (wireReq (encodeReq s r))).parts ≠ (viewInproc s r).parts := by decide

/-- the domain is inhabited by a non-trivial request (typed parts, repeated header values, a sensitive header) -/
example : ∃ s r, ReqOK s r ∧ (viewInproc s r).parts = [([0x61], .b true), ([0x6E], .s [0x74])] ∧
    (viewInproc s r).headers = [([0x58, 0x2D, 0x54], [[0x31], [0x32]])] :=
  ⟨{ id := 7, path := [0x2F, 0x61], user := [0x6A], token := [0x74], authenticated := true, admin := false,
     acceptsJSON := true, acceptsText := false, parameters := [([0x71], [[0x31], [0x32]])],
     urlParts := [([0x61], .b true), ([0x6E], .s [0x74])], permissions := [[0x70]] },
   { method := [0x47], url := [0x2F, 0x61], query := [([0x71], [[0x31], [0x32]])],
     headers := [([0x43, 0x6F, 0x6F, 0x6B, 0x69, 0x65], [[0x73]]), ([0x58, 0x2D, 0x54], [[0x31], [0x32]])], body := [0x7B, 0x7D] },
   -- the header filter runs `nonSensitive`, whose names are `str "…"`: `ByteArray.toList` is by well-founded
   -- recursion, which only the kernel unfolds; so it is with every vector below that meets a `str` literal
   ⟨⟨rfl, by decide, by decide, by decide, by decide, by decide, by decide, by decide, by decide, by decide⟩,
     rfl, by decide +kernel⟩⟩

/-! ## the response -/

/-- the header map as one value per name -/
def heads (hs : SMap (List Bytes)) : SMap Bytes := hs.map fun kv => (kv.1, join kv.2)

theorem heads_keys (hs : SMap (List Bytes)) : (heads hs).map (·.1) = hs.map (·.1) := by
  simp only [heads, List.map_map, Function.comp_def]

theorem hSet_comm (h : HMap) {a b : Bytes} (hab : a ≠ b) (v w : Bytes) :
    hSet (hSet h a v) b w = hSet (hSet h b w) a v := by
  funext x
  simp only [hSet]
  by_cases hb : x = b
  · rw [if_pos hb, if_neg fun ha => hab (ha.symm.trans hb), if_pos hb]
  · rw [if_neg hb, if_neg hb]

/-- in the parent's loop `for k, v := range m { h.Set(k, v) }` a name that `m` does not hold is set before or
after the loop alike -/
theorem foldl_hSet_fresh (m : SMap Bytes) (k v : Bytes) (hk : k ∉ m.map fun kv => canon kv.1) : ∀ h : HMap,
    m.foldl (fun h kv => hSet h (canon kv.1) kv.2) (hSet h k v) =
      hSet (m.foldl (fun h kv => hSet h (canon kv.1) kv.2) h) k v := by
  induction m with
  | nil => intro h; rfl
  | cons x m ih =>
    intro h
    rw [List.map_cons, List.mem_cons, not_or] at hk
    rw [List.foldl_cons, List.foldl_cons, hSet_comm h hk.1, ih hk.2]

theorem foldl_hSet_congr (m : SMap Bytes) : ∀ h h' : HMap, (∀ x, x ∉ m.map (fun kv => canon kv.1) → h x = h' x) →
    m.foldl (fun h kv => hSet h (canon kv.1) kv.2) h = m.foldl (fun h kv => hSet h (canon kv.1) kv.2) h' := by
  induction m with
  | nil => intro h h' e; exact funext fun x => e x List.not_mem_nil
  | cons kv m ih =>
    intro h h' e
    refine ih _ _ fun x hx => ?_
    simp only [hSet]
    split
    · rfl
    · rename_i hne
      exact e x (by rw [List.map_cons, List.mem_cons, not_or]; exact ⟨hne, hx⟩)

theorem mapSet_notin {α} (k : Bytes) (v : α) (m : SMap α) (h : k ∉ m.map (·.1)) : mapSet k v m = m ++ [(k, v)] := by
  induction m with
  | nil => rfl
  | cons x m ih =>
    obtain ⟨k', v'⟩ := x
    rw [List.map_cons, List.mem_cons, not_or] at h
    rw [mapSet, if_neg (fun e => h.1 e.symm), ih h.2]; rfl

/-- `getHeadersFromResponse` over canonical, distinct names lists the map -/
theorem foldl_mapSet (hs : SMap (List Bytes)) (hc : ∀ kv ∈ hs, canon kv.1 = kv.1) (hn : (hs.map (·.1)).Nodup) :
    hs.foldl (fun m kv => mapSet (canon kv.1) (join kv.2) m) [] = heads hs := by
  have hid : hs.map (fun kv => (canon kv.1, join kv.2)) = heads hs :=
    List.map_congr_left fun kv h => by rw [hc kv h]
  have h := foldl_snoc mapSet mapSet_notin (fun kv => (canon kv.1, join kv.2)) hs []
  rw [List.nil_append, hid, heads_keys] at h
  exact h hn

theorem hAdd_hDel (h : HMap) (k v : Bytes) : hAdd (hDel h k) k v = hSet h k v := by
  funext x
  by_cases hx : x = k <;> simp [hAdd, hDel, hSet, hx]

/-- service.go's `Del` + `Add` per value is a `Set` when the name has one value -/
theorem foldl_inproc (hs : SMap (List Bytes)) : ∀ h : HMap, (∀ kv ∈ hs, ∃ v, kv.2 = [v]) →
    hs.foldl (fun h kv => kv.2.foldl (fun h v => hAdd h (canon kv.1) v) (hDel h (canon kv.1))) h =
    (heads hs).foldl (fun h kv => hSet h (canon kv.1) kv.2) h := by
  induction hs with
  | nil => intro h _; rfl
  | cons x hs ih =>
    intro h hs1
    obtain ⟨v, hv⟩ := hs1 x List.mem_cons_self
    rw [List.foldl_cons, hv, List.foldl_cons, List.foldl_nil, hAdd_hDel, heads, List.map_cons, List.foldl_cons, hv]
    exact ih _ fun kv hk => hs1 kv (List.mem_cons_of_mem _ hk)

/-- the domain of the response theorem: the handler returned normally, every header has ONE value, header names are
canonical (`Content-Type`, `X-Trace`) and distinct, names, values and body are valid UTF-8, the status is not 401 and
an error status comes with a body -/
structure RespOK (o : SvcOut) : Prop where
  single : ∀ kv ∈ o.headers, ∃ v, kv.2 = [v]
  canonical : ∀ kv ∈ o.headers, canon kv.1 = kv.1
  distinct : (o.headers.map (·.1)).Nodup
  validH : ∀ kv ∈ o.headers, valid kv.1 = true ∧ valid (join kv.2) = true
  body : valid o.body = true
  not401 : o.status ≠ 401
  errBody : o.status < 400 ∨ o.body ≠ []

theorem ctKey_valid : valid ctKey = true ∧ valid jsonType = true ∧ canon ctKey = ctKey := by decide +kernel

/-- `runChildRequest`'s default Content-Type: added to the child's header map when the reply is JSON and the service
set none -/
def withDefaultType (isJSON : Bool) (m : SMap Bytes) : SMap Bytes :=
  if isJSON && !(m.any fun kv => kv.1 == ctKey) then mapSet ctKey jsonType m else m

theorem withDefaultType_cases (isJSON : Bool) (m : SMap Bytes) :
    (withDefaultType isJSON m = m ∧ (isJSON = true → ctKey ∈ m.map (·.1))) ∨
    (withDefaultType isJSON m = m ++ [(ctKey, jsonType)] ∧ isJSON = true ∧ ctKey ∉ m.map (·.1)) := by
  have hany : (m.any fun kv => kv.1 == ctKey) = true ↔ ctKey ∈ m.map (·.1) := by
    simp only [List.any_eq_true, List.mem_map, beq_iff_eq]
  unfold withDefaultType
  cases isJSON with
  | false => exact Or.inl ⟨rfl, fun h => nomatch h⟩
  | true =>
    cases ha : m.any fun kv => kv.1 == ctKey with
    | true => exact Or.inl ⟨rfl, fun _ => hany.1 ha⟩
    | false =>
      have hct : ctKey ∉ m.map (·.1) := fun h => Bool.false_ne_true (ha ▸ hany.2 h)
      exact Or.inr ⟨mapSet_notin _ _ _ hct, rfl, hct⟩

/-- the default is appended by the child and `Set` last by the parent; in-process it is `Add`ed first and overwritten
by a Content-Type of the service: the same header map either way -/
theorem foldl_hSet_default (isJSON : Bool) (m : SMap Bytes) (hc : ∀ kv ∈ m, canon kv.1 = kv.1) :
    (withDefaultType isJSON m).foldl (fun h kv => hSet h (canon kv.1) kv.2) (fun _ => []) =
    m.foldl (fun h kv => hSet h (canon kv.1) kv.2) (if isJSON then hAdd (fun _ => []) ctKey jsonType else fun _ => []) := by
  have hkeys : m.map (fun kv => canon kv.1) = m.map (·.1) := List.map_congr_left hc
  rcases withDefaultType_cases isJSON m with ⟨e, hct⟩ | ⟨e, rfl, hct⟩
  · rw [e]
    refine foldl_hSet_congr m _ _ fun x hx => ?_
    cases isJSON with
    | false => rfl
    | true => exact (if_neg fun (hxc : x = ctKey) => hx (hkeys ▸ hxc ▸ hct rfl)).symm
  · rw [e, List.foldl_append, List.foldl_cons, List.foldl_nil, ctKey_valid.2.2, ← foldl_hSet_fresh m _ _ (hkeys ▸ hct)]
    rfl

theorem withDefaultType_valid (isJSON : Bool) (m : SMap Bytes) (hv : ∀ kv ∈ m, valid kv.1 = true ∧ valid kv.2 = true)
    (hn : (m.map (·.1)).Nodup) :
    (∀ kv ∈ withDefaultType isJSON m, valid kv.1 = true ∧ valid kv.2 = true) ∧
    ((withDefaultType isJSON m).map (·.1)).Nodup := by
  rcases withDefaultType_cases isJSON m with ⟨e, -⟩ | ⟨e, -, hct⟩
  · rw [e]; exact ⟨hv, hn⟩
  · rw [e, List.map_append, List.nodup_append]
    exact ⟨List.forall_mem_append.2 ⟨hv, List.forall_mem_singleton.2 ⟨ctKey_valid.1, ctKey_valid.2.1⟩⟩,
      hn, List.pairwise_singleton _ _, fun a ha b hb e => hct ((e.trans (List.mem_singleton.1 hb) : a = ctKey) ▸ ha)⟩

theorem wireResp_id (c : ChildResp) (hm : valid c.msg = true) (hb : valid c.body = true)
    (hh : ∀ kv ∈ c.headers, valid kv.1 = true ∧ valid kv.2 = true) (hn : (c.headers.map (·.1)).Nodup) :
    wireResp c = c := by
  rw [wireResp, C41_string_survives _ hm, C41_string_survives _ hb,
    C41_map_survives sanitize _ (fun kv h => (hh kv h).1) (fun kv h => C41_string_survives _ (hh kv h).2) hn]

theorem parentWrite_ok (c : ChildResp) (h : c.status < 400 ∨ c.body ≠ []) :
    parentWrite c = { status := c.status, headers := c.headers.foldl (fun h kv => hSet h (canon kv.1) kv.2) (fun _ => []),
                      body := c.body, errorDoc := none } := by
  refine if_neg ?_
  rw [Bool.and_eq_true, decide_eq_true_eq, List.isEmpty_iff]
  exact fun ⟨h1, h2⟩ => h.elim (Nat.not_lt.2 h1) (· h2)

/-- response half: for every handler outcome in the domain and either value of the JSON-reply flag, the HTTP
response the parent writes from the child's answer — status, every header, body — is the in-process response. -/
theorem C41_response_fields_survive (isJSON : Bool) (realm : Bytes) (o : SvcOut) (h : RespOK o) :
    respChild isJSON realm o = respInproc isJSON o := by
  have hchild : childResp isJSON realm o =
      { status := o.status, msg := [], headers := withDefaultType isJSON (heads o.headers), body := o.body } := by
    simp only [childResp, if_neg h.not401, foldl_mapSet o.headers h.canonical h.distinct, withDefaultType]
  have hcanon : ∀ kv ∈ heads o.headers, canon kv.1 = kv.1 := List.forall_mem_map.2 h.canonical
  have hval : ∀ kv ∈ heads o.headers, valid kv.1 = true ∧ valid kv.2 = true := List.forall_mem_map.2 h.validH
  have hwire := withDefaultType_valid isJSON _ hval (heads_keys _ ▸ h.distinct)
  rw [respChild, hchild, wireResp_id _ rfl h.body hwire.1 hwire.2, parentWrite_ok _ h.errBody, respInproc,
    foldl_inproc o.headers _ h.single, foldl_hSet_default isJSON _ hcanon]

/-- the domain of the response theorem is inhabited by a non-trivial outcome (two headers, JSON default type) -/
example : RespOK { status := 201, headers := [(str "Location", [str "/x"]), (str "X-One", [str "1"])], body := str "ok" } := by
  refine ⟨?_, by decide +kernel, by decide +kernel, by decide +kernel, by decide +kernel, by decide, Or.inl (by decide)⟩
  intro kv h
  simp only [List.mem_cons, List.not_mem_nil, or_false] at h
  rcases h with rfl | rfl <;> exact ⟨_, rfl⟩

example : (respChild true [] { status := 201, headers := [(str "X-One", [str "1"])], body := str "ok" }).headers ctKey = [jsonType] := by
  decide +kernel

/-! ### outside the domain the responses differ (each class is a recorded finding) -/

/-- two values of one header are folded into one comma-joined value -/
theorem C41_response_multivalue_counterexample :
    let o : SvcOut := { status := 200, headers := [(str "Set-Cookie", [str "a=1", str "b=2"])], body := str "h" }
    (respInproc false o).headers (str "Set-Cookie") = [str "a=1", str "b=2"] ∧
    (respChild false [] o).headers (str "Set-Cookie") = [str "a=1, b=2"] := by decide +kernel

/-- an error status without a body: empty in-process, an ErrorResponse document through the child -/
theorem C41_response_emptybody_counterexample :
    let o : SvcOut := { status := 404, headers := [], body := [] }
    (respInproc false o).errorDoc = none ∧ (respInproc false o).headers ctKey = [] ∧
    (respChild false [] o).errorDoc = some (404, []) ∧ (respChild false [] o).headers ctKey = [jsonType, errType] ∧
    (respChild false [] { o with status := 600 }).status = 500 ∧ (respInproc false { o with status := 600 }).status = 600 := by
  decide +kernel

/-- 401: only the child adds the realm header -/
theorem C41_response_401_counterexample :
    let o : SvcOut := { status := 401, headers := [], body := str "no" }
    (respInproc false o).headers authKey = [] ∧ (respChild false (str "Basic") o).headers authKey = [str "Basic"] := by
  decide +kernel

/-- a body that is not UTF-8 (the PNG signature) is altered -/
theorem C41_response_body_counterexample :
    let o : SvcOut := { status := 200, headers := [], body := [0x89, 0x50, 0x4E, 0x47] }
    (respInproc false o).body = [0x89, 0x50, 0x4E, 0x47] ∧ (respChild false [] o).body = [0xEF, 0xBF, 0xBD, 0x50, 0x4E, 0x47] := by
  decide

/-! ## the JSON-reply decision, and the whole exchange -/

/-- the JSON-reply decision looks at EVERY value of every header named Accept (any letter case): it holds exactly
when some value of such a header contains "application/json" — on whichever header line it was sent -/
theorem C41_json_reply_scans_all_values (hs : SMap (List Bytes)) :
    acceptsJSONHeader hs = true ↔
      ∃ kv ∈ hs, kv.1.map lower = str "accept" ∧ ∃ v ∈ kv.2, hasSub (str "application/json") v = true := by
  simp only [acceptsJSONHeader, List.any_eq_true, Bool.and_eq_true, beq_iff_eq]
  constructor
  · rintro ⟨kv, hkv, ⟨_, hn⟩, hv⟩
    exact ⟨kv, hkv, hn, hv⟩
  · rintro ⟨kv, hkv, hn, hv⟩
    refine ⟨kv, hkv, ⟨?_, hn⟩, hv⟩
    simp only [nonSensitive, hn]
    decide +kernel

/-- "application/json" on a LATER Accept line (after `text/plain`, with q-values) decides a JSON reply on both sides;
a first-line-only reading (`http.Header.Get`) would answer false -/
theorem C41_json_reply_later_line :
    let hs : SMap (List Bytes) := [(str "Accept", [str "text/plain;q=0.5", str "application/xml;q=0.4", str "application/json;q=0.9"])]
    let s : Session := { id := 1, path := [0x2F], user := [], token := [], authenticated := false, admin := false,
                         acceptsJSON := true, acceptsText := true, parameters := [], urlParts := [], permissions := [] }
    let r : Request := { method := [0x47], url := [0x2F], query := [], headers := hs, body := [] }
    (viewInproc s r).jsonReply = true ∧ (viewChild (wireReq (encodeReq s r))).jsonReply = true ∧
    hasSub (str "application/json") (str "text/plain;q=0.5") = false ∧
    acceptsJSONHeader [(str "Accept", [str "text/plain", str "text/html;q=0.8"])] = false ∧
    acceptsJSONHeader [(str "accept", [str "a"]), (str "Cookie", [str "application/json"]), (str "ACCEPT", [str "b", str "application/json"])] = true := by
  have snoc : ∀ {a b c d e : Prop}, a ∧ b ∧ c ∧ d → e → a ∧ b ∧ c ∧ d ∧ e :=
    fun h he => ⟨h.1, h.2.1, h.2.2.1, h.2.2.2, he⟩
  -- the last vector by the theorem above (the ACCEPT entry, its second value): evaluating it would run
  -- `nonSensitive` over its whole table for `Cookie`
  exact snoc (by decide +kernel)
    ((C41_json_reply_scans_all_values _).2
      ⟨_, .tail _ (.tail _ (.head _)), by decide +kernel, _, .tail _ (.head _), by decide +kernel⟩)

/-- whole exchange: for every session and request in the request domain and every handler outcome in the
response domain, the HTTP response produced through the child — with the JSON-reply decision taken BY THE CHILD from the
headers it received over the wire — is the in-process response with the decision taken from the original request. -/
theorem C41_exchange_survives (s : Session) (r : Request) (h : ReqOK s r) (realm : Bytes) (o : SvcOut) (ho : RespOK o) :
    respChild (viewChild (wireReq (encodeReq s r))).jsonReply realm o = respInproc (viewInproc s r).jsonReply o := by
  rw [C41_request_fields_survive s r h]
  exact C41_response_fields_survive _ realm o ho

end EgoVerif.C41
