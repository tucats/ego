/-
C13 — model of the per-test guard of `ego test` (core Lean only).

Go sources mirrored (with fixes/C13.patch, fixes/C13-2.patch and fixes/C13-3.patch applied):
  internal/language/compiler/testing.go   testDirective, collectTestBodyTokens, collectVerbatimUntilMarker,
                                          compileTestBody, emitTestPass, emitTestFail, Fail (@fail)
  internal/language/compiler/directives.go compileBlockDirective / collectTokensUntilEOFMarker (the eof= span)
  internal/language/compiler/symbols.go   DefineSymbol / ReferenceSymbol / the file scope's usage map (`Scope` section)
  internal/language/bytecode/try.go       tryByteCode, tryPopByteCode, tryFlushByteCode
  internal/language/bytecode/catch.go     handleCatch (search from the top, unwind to the "try" marker)
  internal/language/bytecode/callframe.go callFramePush (tryDepth) / callFramePop (try stack truncation)
  internal/language/bytecode/return.go    returnByteCode (void return discards the callee's values)
  internal/language/bytecode/capture.go   beginCaptureByteCode / endCaptureByteCode
  internal/language/bytecode/test.go      pushTestByteCode / popTestByteCode
  internal/language/bytecode/logging.go   consoleByteCode / sayByteCode

Abstractions: a test body is run big-step (`Body`: how many values and which try entries it leaves
behind, and how it ends); addresses are relative to the block (every address `compileTestBody`
patches points inside the code it emitted itself); every try entry catches every error (selective
catch sets only occur inside bodies); the text of a line is reduced to (test name, verdict).
-/
namespace EgoVerif.C13

/-! ## source level: tokens and the split at `@test` (collectTestBodyTokens) -/

inductive Outcome | pass | assertFail | runtimeErr | compileErr | atFail
  deriving Repr, DecidableEq

/-- what a (compiled) body does when called through `CallTest`: it leaves `junk` values and the try
    entries `leak` (handler address, 0 = spent) behind and then returns, raises or runs `@fail`. -/
structure Body where
  junk : Nat
  leak : List Nat
  outcome : Outcome
  deriving Repr, DecidableEq

inductive Tok
  | test (name : Nat)        -- the two tokens `@` `test` and the description
  | open                     -- `{`
  | close                    -- `}`
  | stmt (b : Body)          -- the statements of a body (one token per generated body)
  | eofOpen (m : Nat)        -- `@compile … eof="m"` up to the `;` that ends the directive line
  | eofMark (m : Nat)        -- the tokens that spell the marker text `m`
  deriving Repr, DecidableEq

/-- does the marker `m` appear in the rest of the stream (collectVerbatimUntilMarker returns true) -/
def hasMark (m : Nat) : List Tok → Bool
  | [] => false
  | Tok.eofMark k :: r => k == m || hasMark m r
  | _ :: r => hasMark m r

/-- collectTestBodyTokens (fixed) as a state machine; the state is `some m` while
    collectVerbatimUntilMarker copies the span of an `@compile eof="m"` directive (nothing in the span
    is a boundary, braces are not looked at) and `none` otherwise (every `@test` is a boundary,
    whatever the brace depth). fixes/C13-3.patch: a directive whose marker never appears is copied as
    plain tokens (the tokenizer is set back to the directive), so it ends at the next `@test` like any
    other body. Returns the body tokens and the rest of the stream (which starts at the next `@test`). -/
def collect : Option Nat → List Tok → List Tok × List Tok
  | _, [] => ([], [])
  | some m, Tok.eofMark k :: rest =>
      let (b, r) := collect (if k = m then none else some m) rest; (Tok.eofMark k :: b, r)
  | some m, t :: rest => let (b, r) := collect (some m) rest; (t :: b, r)
  | none, Tok.test n :: rest => ([], Tok.test n :: rest)
  | none, Tok.eofOpen m :: rest =>
      let (b, r) := collect (if hasMark m rest then some m else none) rest; (Tok.eofOpen m :: b, r)
  | none, t :: rest => let (b, r) := collect none rest; (t :: b, r)

def collectBody (ts : List Tok) : List Tok × List Tok := collect none ts

/-- collectTestBodyTokens before fixes/C13-3.patch: the span of an `@compile eof="m"` directive is
    copied up to the marker or, if the marker is missing, up to the end of the file. -/
def collectEofOld : Option Nat → List Tok → List Tok × List Tok
  | _, [] => ([], [])
  | some m, Tok.eofMark k :: rest =>
      let (b, r) := collectEofOld (if k = m then none else some m) rest; (Tok.eofMark k :: b, r)
  | some m, t :: rest => let (b, r) := collectEofOld (some m) rest; (t :: b, r)
  | none, Tok.test n :: rest => ([], Tok.test n :: rest)
  | none, Tok.eofOpen m :: rest => let (b, r) := collectEofOld (some m) rest; (Tok.eofOpen m :: b, r)
  | none, t :: rest => let (b, r) := collectEofOld none rest; (t :: b, r)

/-- collectTestBodyTokens as it was before the fix: only an `@test` at brace depth 0 is a boundary
    (`depth` is an `Int`: an extra `}` drives it to -1 and it never returns to 0). -/
def collectBodyOld : Int → List Tok → List Tok × List Tok
  | _, [] => ([], [])
  | d, Tok.test n :: rest =>
      if d = 0 then ([], Tok.test n :: rest)
      else let (b, r) := collectBodyOld d rest; (Tok.test n :: b, r)
  | d, Tok.open :: rest => let (b, r) := collectBodyOld (d + 1) rest; (Tok.open :: b, r)
  | d, Tok.close :: rest => let (b, r) := collectBodyOld (d - 1) rest; (Tok.close :: b, r)
  | d, t :: rest => let (b, r) := collectBodyOld d rest; (t :: b, r)

theorem collect_rest_le (md : Option Nat) (ts : List Tok) : (collect md ts).2.length ≤ ts.length := by
  fun_induction collect md ts
  -- the end of the stream, and an `@test` outside a span: the rest is the whole stream
  case case1 | case4 => exact Nat.le_refl _
  all_goals
    rename_i hc ih
    rw [hc] at ih
    exact Nat.le_succ_of_le ih

theorem collectBody_rest_le (ts : List Tok) : (collectBody ts).2.length ≤ ts.length :=
  collect_rest_le none ts

/-- the statement loop of the file compiler: each `@test` takes its body; tokens before the first
    `@test` are not a test. `fuel` bounds the recursion (length of the stream is enough). -/
def splitTests : Nat → List Tok → List (Nat × List Tok)
  | 0, _ => []
  | _, [] => []
  | fuel + 1, Tok.test n :: rest =>
      let (b, r) := collectBody rest
      (n, b) :: splitTests fuel r
  | fuel + 1, _ :: rest => splitTests fuel rest

/-- brace balance of a body as the block compiler sees it: never negative, zero at the end -/
def balanced : Nat → List Tok → Bool
  | d, [] => d == 0
  | d, Tok.open :: r => balanced (d + 1) r
  | 0, Tok.close :: _ => false
  | d + 1, Tok.close :: r => balanced d r
  | d, _ :: r => balanced d r

def firstStmt : List Tok → Option Body
  | [] => none
  | Tok.stmt b :: _ => some b
  | _ :: r => firstStmt r

/-- compileBlockDirective + collectTokensUntilEOFMarker as the block compiler meets them: the span of
    an `@compile eof="m"` directive (up to and including its marker) is taken out of the body's token
    stream and compiled on its own (its braces never count for the body); a directive whose marker is
    missing is a compile error of the body (`none`). -/
def stripSpans : Option Nat → List Tok → Option (List Tok)
  | none, [] => some []
  | some _, [] => none
  | some m, Tok.eofMark k :: r => if k = m then stripSpans none r else stripSpans (some m) r
  | some m, _ :: r => stripSpans (some m) r
  | none, Tok.eofOpen m :: r => stripSpans (some m) r
  | none, t :: r => (stripSpans none r).map (t :: ·)

/-- result of `subCompiler.Compile("@test", tokens)`: a compile error, or the body to call -/
def compileBody (toks : List Tok) : Option Body :=
  match stripSpans none toks with
  | none => none
  | some toks =>
    if balanced 0 toks then
      match firstStmt toks with
      | some b => if b.outcome = Outcome.compileErr then none else some b
      | none => some { junk := 0, leak := [], outcome := Outcome.pass }
    else none

/-! ## the file scope shared by every test's clone (compiler/symbols.go, compiler/compiler.go Clone)

`Clone` copies the slice of scopes but not the `usage` maps in it, so what a test body declares at file
level (bare statements after `@test "name"`, the older style without braces) lands in the map the file's
own compiler checks in `Errors()` when the whole file has been compiled. -/

/-- what compiling a body does to the file scope, in source order, up to the point where it stops -/
inductive ScopeEv | decl (n : Nat) | use (n : Nat)
  deriving Repr, DecidableEq

/-- `scope.usage` of the file scope: name ↦ `true` (declared, not read yet) | `false` (read) -/
abbrev Usage := List (Nat × Bool)

/-- DefineSymbol: a name that is not in the map yet is entered as "not read yet" -/
def define (u : Usage) (n : Nat) : Usage := if u.any (fun p => p.1 == n) then u else (n, true) :: u

/-- validateSymbol: the name is marked as read -/
def reference (u : Usage) (n : Nat) : Usage := u.map fun p => if p.1 = n then (p.1, false) else p

def applyEvs (u : Usage) : List ScopeEv → Usage
  | [] => u
  | ScopeEv.decl n :: r => applyEvs (define u n) r
  | ScopeEv.use n :: r => applyEvs (reference u n) r

/-- compileTestBody (fixes/C13-2.patch): the names a body that failed to compile added are deleted -/
def afterBody (u : Usage) (evs : List ScopeEv) (failed : Bool) : Usage :=
  if failed then (applyEvs u evs).filter fun p => u.any (fun q => q.1 == p.1) else applyEvs u evs

/-- compileTestBody before fixes/C13-2.patch: the abandoned clone's declarations stay in the shared map -/
def afterBodyOld (u : Usage) (evs : List ScopeEv) (_failed : Bool) : Usage := applyEvs u evs

/-- Errors() at the end of the file: every name still "not read yet" is a compile error of the file -/
def fileCompiles (u : Usage) : Bool := u.all fun p => !p.2

/-! ## the VM -/

inductive Val | marker | frame (tryDepth : Nat) | junk | str
  deriving Repr, DecidableEq

inductive Verdict | PASS | FAIL
  deriving Repr, DecidableEq

structure St where
  stack : List Val            -- head = top
  tries : List Nat            -- c.tryStack, head = top; value = handler address, 0 = spent
  outStack : List Bool        -- c.outputStack: saved "output is not the console buffer" flags
  capturing : Bool            -- c.output is a BeginCapture builder (not c.captureBuffer)
  active : Nat                -- __activeTests
  out : List (Nat × Verdict)  -- the PASS/FAIL lines that reached the console
  halted : Bool               -- Run() returned an error
  deriving Repr, DecidableEq

inductive Instr
  | console                   -- Console false
  | pushTest                  -- PushTest
  | try_ (addr : Nat)         -- Try addr
  | pushMarker                -- Push Marker<try>
  | beginCapture
  | signal                    -- Push compileErr; Signal
  | callTest (b : Body)       -- CallTest bc  (… Return 0), big-step
  | endCapture                -- EndCapture; SyncOutputWriter; then the string is printed or dropped
  | dropToMarker
  | report (name : Nat) (v : Verdict) (skip : Nat)   -- RunDefers; PopTest skip; count; Print…; Say
  | branch (addr : Nat)
  | tryPop
  deriving Repr, DecidableEq

/-- handleCatch's search: the length of the try stack from its first live entry (from the top)
    down to the bottom (= tryIndex+1); 0 = no live entry. -/
def liveLen : List Nat → Nat
  | [] => 0
  | a :: ts => if a > 0 then ts.length + 1 else liveLen ts

/-- `c.tryStack[:d]` in the head-is-top representation -/
def truncate (ts : List Nat) (d : Nat) : List Nat := ts.drop (ts.length - d)

inductive Caught
  | abort                                                   -- the error is returned by Run()
  | to (pc : Nat) (stack : List Val) (tries : List Nat)     -- redirected to a catch handler
  deriving Repr, DecidableEq

/-- handleCatch's unwind loop: pop values down to the "try" marker; a call frame on the way is
    popped with callFramePop (which truncates the try stack to the frame's tryDepth); if that
    discarded the chosen entry, the search starts again (fixes/C13.patch, catch.go). -/
def unwind : List Val → List Nat → Nat → Caught
  | [], _, _ => Caught.abort
  | Val.marker :: s, ts, n =>
      match truncate ts n with
      | a :: below => Caught.to a s (0 :: below)
      | [] => Caught.abort
  | Val.frame d :: s, ts, n =>
      let ts' := if ts.length > d then truncate ts d else ts
      if n > ts'.length then
        match liveLen ts' with
        | 0 => Caught.abort
        | m + 1 => unwind s ts' (m + 1)
      else unwind s ts' n
  | _ :: s, ts, n => unwind s ts n

/-- an instruction returned a catchable error: handleCatch -/
def raise (st : St) : St × Nat :=
  match liveLen st.tries with
  | 0 => ({ st with halted := true }, 0)
  | n + 1 =>
    match unwind st.stack st.tries (n + 1) with
    | Caught.abort => ({ st with halted := true }, 0)
    | Caught.to pc s ts => ({ st with stack := s, tries := ts }, pc)

/-- callFramePop after a void Return: values above the frame are discarded, the frame is popped
    and the try stack is cut back to the depth recorded in the frame. The output-capture stack is cut
    back to the frame's outputDepth in the same place (fixes/C13-4.patch), so an `@capture` block left
    through `return` is closed with the frame: a body, taken big-step, never changes
    `outStack` / `capturing` (Props: C13_capture_return_old_counterexample for the code before the fix). -/
def popFrame : List Val → List Nat → Option (List Val × List Nat)
  | [], _ => none
  | Val.frame d :: s, ts => some (s, if ts.length > d then truncate ts d else ts)
  | _ :: s, ts => popFrame s ts

def dropToMarker : List Val → List Val
  | [] => []
  | Val.marker :: s => s
  | _ :: s => dropToMarker s

/-- CallTest bc … Return 0, big-step over the abstract body -/
def callTest (b : Body) (pc : Nat) (st : St) : St × Nat :=
  let st1 := { st with stack := List.replicate b.junk Val.junk ++ Val.frame st.tries.length :: st.stack,
                       tries := b.leak ++ st.tries }
  match b.outcome with
  | Outcome.pass =>
      match popFrame st1.stack st1.tries with
      | some (s, ts) => ({ st1 with stack := s, tries := ts }, pc + 1)
      | none => ({ st1 with halted := true }, 0)
  | Outcome.atFail => raise { st1 with tries := [] }          -- TryFlush; Signal
  | _ => raise st1                                            -- a catchable runtime error

def step (i : Instr) (pc : Nat) (st : St) : St × Nat :=
  match i with
  | Instr.console => ({ st with capturing := false }, pc + 1)
  | Instr.pushTest => ({ st with active := st.active + 1 }, pc + 1)
  | Instr.try_ a => ({ st with tries := a :: st.tries }, pc + 1)
  | Instr.pushMarker => ({ st with stack := Val.marker :: st.stack }, pc + 1)
  | Instr.beginCapture => ({ st with outStack := st.capturing :: st.outStack, capturing := true }, pc + 1)
  | Instr.signal => raise st
  | Instr.callTest b => callTest b pc st
  | Instr.endCapture =>
      match st.outStack with
      | [] => raise st                                          -- ErrStackUnderflow
      | f :: o => ({ st with outStack := o, capturing := f }, pc + 1)
  | Instr.dropToMarker => ({ st with stack := dropToMarker st.stack }, pc + 1)
  | Instr.report name v skip =>
      if st.active = 0 then (st, skip)                          -- PopTest: no active test
      else ({ st with active := st.active - 1,
                      out := if st.capturing then st.out else st.out ++ [(name, v)],
                      capturing := false }, pc + 1)             -- Print… ; Say
  | Instr.branch a => (st, a)
  | Instr.tryPop =>
      match st.tries with
      | [] => raise st                                          -- ErrTryCatchMismatch
      | _ :: t => ({ st with tries := t }, pc + 1)

/-- the run loop over one block's code; it ends when the pc leaves the code or Run() fails -/
def exec (code : List Instr) : Nat → Nat → St → St
  | 0, _, st => { st with halted := true }
  | fuel + 1, pc, st =>
    if st.halted then st else
    match code[pc]? with
    | none => st
    | some i => let r := step i pc st; exec code fuel r.2 r.1

/-- testDirective + compileTestBody for one `@test name`; `src` is the result of compiling the
    body (`none` = compile error). Addresses as patched by Mark/SetAddressHere. -/
def blockCode (name : Nat) (src : Option Body) : List Instr :=
  let mid := match src with
    | none => [Instr.signal]
    | some b => [Instr.callTest b, Instr.endCapture]
  let tryAddr := 8 + mid.length
  [Instr.console, Instr.pushTest, Instr.try_ tryAddr, Instr.pushMarker, Instr.beginCapture] ++ mid ++
  [Instr.dropToMarker, Instr.report name Verdict.PASS (tryAddr - 1), Instr.branch (tryAddr + 2),
   Instr.endCapture, Instr.report name Verdict.FAIL (tryAddr + 2), Instr.tryPop]

def compileBlock (name : Nat) (toks : List Tok) : List Instr := blockCode name (compileBody toks)

def compileFile (toks : List Tok) : List (List Instr) :=
  (splitTests toks.length toks).map fun p => compileBlock p.1 p.2

/-- Run(): the blocks one after the other; an error nobody caught ends the run -/
def runFile : St → List (List Instr) → St
  | st, [] => st
  | st, code :: rest =>
    let st' := exec code (code.length + 1) 0 st
    if st'.halted then st' else runFile st' rest

def init : St := { stack := [], tries := [], outStack := [], capturing := false, active := 0, out := [], halted := false }

/-! ## generated test files -/

/-- a generated @test block: its name, the body, and the shape of its source:
    0 a braced block, 1 a missing `}`, 2 an extra `}`, 3 bare statements (the older style without braces),
    4 / 6 a braced / bare body with an `@compile eof=` directive whose marker is missing,
    5 / 7 (and above) a braced / bare body with an `@compile eof=` directive whose span (unbalanced on
    purpose) ends at its marker. The markers of the directives without a marker in the file (`2*name`)
    differ from every marker that is in the file (`2*name+1`). -/
structure Block where
  name : Nat
  body : Body
  brace : Nat
  deriving Repr, DecidableEq

def Block.toks (b : Block) : List Tok :=
  Tok.test b.name ::
  match b.brace with
  | 0 => [Tok.open, Tok.stmt b.body, Tok.close]
  | 1 => [Tok.open, Tok.open, Tok.stmt b.body, Tok.close]
  | 2 => [Tok.open, Tok.stmt b.body, Tok.close, Tok.close]
  | 3 => [Tok.stmt b.body]
  | 4 => [Tok.open, Tok.eofOpen (2 * b.name), Tok.stmt b.body, Tok.close]
  | 5 => [Tok.open, Tok.eofOpen (2 * b.name + 1), Tok.open, Tok.eofMark (2 * b.name + 1), Tok.stmt b.body, Tok.close]
  | 6 => [Tok.eofOpen (2 * b.name), Tok.stmt b.body]
  | _ => [Tok.eofOpen (2 * b.name + 1), Tok.close, Tok.eofMark (2 * b.name + 1), Tok.stmt b.body]

def tokensOf (blocks : List Block) : List Tok := blocks.flatMap Block.toks

/-- shapes whose source cannot compile whatever the statements are -/
def Block.damaged (b : Block) : Bool := b.brace == 1 || b.brace == 2 || b.brace == 4 || b.brace == 6

/-- the outcome a block is meant to have -/
def Block.eff (b : Block) : Outcome := if b.damaged then Outcome.compileErr else b.body.outcome

def verdict (b : Block) : Nat × Verdict :=
  (b.name, if b.eff = Outcome.pass then Verdict.PASS else Verdict.FAIL)

def runTests (blocks : List Block) : St := runFile init (compileFile (tokensOf blocks))

end EgoVerif.C13
