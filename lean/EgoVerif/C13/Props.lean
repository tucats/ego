import EgoVerif.C13.Model
/-
C13 — `ego test` isolates each test: for every list of generated blocks the PASS/FAIL lines printed are the
verdicts of the blocks before the first `@fail`, in order (`C13_isolated`). It rests on one invariant: a block
that does not run `@fail` leaves the value, try and output stacks and the active-test count as it found them,
for any starting stacks, which is why the argument composes over any sequence (`C13_run_invariant`).
-/
namespace EgoVerif.C13

theorem truncate_append (l t : List Nat) : truncate (l ++ t) t.length = t := by
  simp [truncate]

theorem liveLen_append_live (l t : List Nat) (a : Nat) (ha : a > 0) :
    t.length + 1 ≤ liveLen (l ++ a :: t) := by
  induction l with
  | nil => simp [liveLen, ha]
  | cons x l ih =>
    simp only [List.cons_append, liveLen]
    split
    · simp; omega
    · exact ih

theorem unwind_junk (j : Nat) (s : List Val) (ts : List Nat) (n : Nat) :
    unwind (List.replicate j Val.junk ++ s) ts n = unwind s ts n := by
  induction j with
  | zero => rfl
  | succ j ih => simp [List.replicate_succ, unwind, ih]

theorem popFrame_junk (j : Nat) (d : Nat) (s : List Val) (ts : List Nat) :
    popFrame (List.replicate j Val.junk ++ Val.frame d :: s) ts =
      some (s, if ts.length > d then truncate ts d else ts) := by
  induction j with
  | zero => rfl
  | succ j ih => simp [List.replicate_succ, popFrame, ih]

/-- callFramePop's truncation gives back the caller's try stack, whatever the body left on top -/
theorem frame_truncate (l t : List Nat) :
    (if (l ++ t).length > t.length then truncate (l ++ t) t.length else l ++ t) = t := by
  split
  · exact truncate_append l t
  · rename_i h
    have : l = [] := List.eq_nil_of_length_eq_zero (by rw [List.length_append] at h; omega)
    rw [this, List.nil_append]

theorem unwind_marker (a : Nat) (t : List Nat) (s : List Val) :
    unwind (Val.marker :: s) (a :: t) (t.length + 1) = Caught.to a s (0 :: t) := by
  have ht : truncate (a :: t) (t.length + 1) = a :: t := truncate_append [] (a :: t)
  simp only [unwind, ht]

/-- The heart of the guard: an error that leaves the body (value stack: `j` values, the CallTest
    frame, the test's marker; try stack: whatever the body leaked, then the test's own live entry)
    is delivered to the test's own handler, with both stacks cut back to the caller's. -/
theorem unwind_to_own_handler (j : Nat) (l t : List Nat) (a : Nat) (ha : a > 0) (s : List Val) (n : Nat)
    (hn : t.length + 1 ≤ n) :
    unwind (List.replicate j Val.junk ++ Val.frame (t.length + 1) :: Val.marker :: s) (l ++ a :: t) n
      = Caught.to a s (0 :: t) := by
  have hf := frame_truncate l (a :: t)
  rw [List.length_cons] at hf
  rw [unwind_junk, unwind, hf]
  -- if the entry chosen was one the body leaked, it is gone with the frame: the new search
  -- finds the test's own entry, which is live
  have hl : liveLen (a :: t) = t.length + 1 := by simp [liveLen, ha]
  by_cases h : n > (a :: t).length
  · simp only [h, if_true, hl, unwind_marker]
  · have : n = t.length + 1 := by simp at h; omega
    subst this
    simp only [h, if_false, unwind_marker]

/-! ### the call of a body, at the place the skeleton calls it: the test's marker on top of the
value stack, the test's live try entry on top of the try stack -/

theorem raise_guarded (st : St) (s : List Val) (a : Nat) (t : List Nat) (ha : a > 0)
    (hs : st.stack = Val.marker :: s) (ht : st.tries = a :: t) :
    raise st = ({ st with stack := s, tries := 0 :: t }, a) := by
  simp only [raise, hs, ht, liveLen, ha, if_true, unwind_marker]

theorem callTest_pass (b : Body) (pc : Nat) (st : St) (hb : b.outcome = Outcome.pass) :
    callTest b pc st = (st, pc + 1) := by
  simp only [callTest, hb, popFrame_junk, frame_truncate]

theorem callTest_err (b : Body) (pc : Nat) (st : St) (s : List Val) (a : Nat) (t : List Nat) (ha : a > 0)
    (hs : st.stack = Val.marker :: s) (ht : st.tries = a :: t)
    (hp : b.outcome ≠ Outcome.pass) (hf : b.outcome ≠ Outcome.atFail) :
    callTest b pc st = ({ st with stack := s, tries := 0 :: t }, a) := by
  have hc : callTest b pc st = raise { st with
      stack := List.replicate b.junk Val.junk ++ Val.frame (t.length + 1) :: Val.marker :: s,
      tries := b.leak ++ a :: t } := by
    cases hb : b.outcome <;> simp only [callTest, hb, hs, ht, List.length_cons] <;> contradiction
  have h1 := liveLen_append_live b.leak t a ha
  rw [hc, raise]
  cases hn : liveLen (b.leak ++ a :: t) with
  | zero => omega
  | succ n => simp only [unwind_to_own_handler b.junk b.leak t a ha s (n + 1) (by omega)]

/-- `@fail`: TryFlush empties the try stack, nothing can catch the Signal, Run() returns the error -/
theorem callTest_atFail (b : Body) (pc : Nat) (st : St) (hb : b.outcome = Outcome.atFail) :
    (callTest b pc st).1.halted = true ∧ (callTest b pc st).1.out = st.out := by
  simp [callTest, hb, raise, liveLen]

/-! ### one block

The instructions and addresses of the skeleton `blockCode` emits are fixed and only the state is symbolic, so
it is run by `rfl`: up to the instruction in the middle, and from where that instruction leaves control. -/

/-- the state after a block that reported `v` -/
def restored (st : St) (name : Nat) (v : Verdict) : St :=
  { stack := st.stack, tries := st.tries, outStack := st.outStack, capturing := false,
    active := st.active, out := st.out ++ [(name, v)], halted := false }

/-- the address `Try` is patched with -/
abbrev handlerAddr : Option Body → Nat
  | none => 9
  | some _ => 10

/-- the state in which the body is called (or the compile error signalled) -/
def entered (st : St) (a : Nat) : St :=
  { stack := Val.marker :: st.stack, tries := a :: st.tries, outStack := false :: st.outStack,
    capturing := true, active := st.active + 1, out := st.out, halted := false }

/-- the state in which the handler starts -/
def caught (st : St) : St :=
  { stack := st.stack, tries := 0 :: st.tries, outStack := false :: st.outStack,
    capturing := true, active := st.active + 1, out := st.out, halted := false }

theorem exec_signal (name fuel : Nat) (st : St) (h : st.halted = false) :
    exec (blockCode name none) (fuel + 6) 0 st =
      exec (blockCode name none) fuel (raise (entered st 9)).2 (raise (entered st 9)).1 := by
  obtain ⟨stack, tries, outStack, capturing, active, out, halted⟩ := st
  cases h
  rfl

theorem exec_call (name : Nat) (b : Body) (fuel : Nat) (st : St) (h : st.halted = false) :
    exec (blockCode name (some b)) (fuel + 6) 0 st =
      exec (blockCode name (some b)) fuel (callTest b 5 (entered st 10)).2 (callTest b 5 (entered st 10)).1 := by
  obtain ⟨stack, tries, outStack, capturing, active, out, halted⟩ := st
  cases h
  rfl

theorem exec_handler (name : Nat) (src : Option Body) (fuel : Nat) (st : St) :
    exec (blockCode name src) (fuel + 4) (handlerAddr src) (caught st) = restored st name Verdict.FAIL := by
  cases src <;> rfl

theorem exec_passed (name : Nat) (b : Body) (fuel : Nat) (st : St) :
    exec (blockCode name (some b)) (fuel + 6) 6 (entered st 10) = restored st name Verdict.PASS := by
  rfl

theorem collectBody_tokensOf (rest : List Block) : collectBody (tokensOf rest) = ([], tokensOf rest) := by
  cases rest <;> rfl

theorem hasMark_append (m : Nat) (a b : List Tok) : hasMark m (a ++ b) = (hasMark m a || hasMark m b) := by
  induction a with
  | nil => rfl
  | cons t a ih => cases t <;> simp [hasMark, ih, Bool.or_assoc]

/-- the shapes of a generated block, as `Block.toks` tells them apart -/
theorem Block.shapes {P : Block → Prop}
    (braced : ∀ name body, P ⟨name, body, 0⟩) (unclosed : ∀ name body, P ⟨name, body, 1⟩)
    (extraClose : ∀ name body, P ⟨name, body, 2⟩) (bare : ∀ name body, P ⟨name, body, 3⟩)
    (bracedNoMark : ∀ name body, P ⟨name, body, 4⟩) (bracedSpan : ∀ name body, P ⟨name, body, 5⟩)
    (bareNoMark : ∀ name body, P ⟨name, body, 6⟩) (bareSpan : ∀ name body n, P ⟨name, body, n + 7⟩) :
    ∀ b, P b
  | ⟨name, body, 0⟩ => braced name body
  | ⟨name, body, 1⟩ => unclosed name body
  | ⟨name, body, 2⟩ => extraClose name body
  | ⟨name, body, 3⟩ => bare name body
  | ⟨name, body, 4⟩ => bracedNoMark name body
  | ⟨name, body, 5⟩ => bracedSpan name body
  | ⟨name, body, 6⟩ => bareNoMark name body
  | ⟨name, body, n + 7⟩ => bareSpan name body n

/-- the markers a generated block carries are odd -/
theorem hasMark_toks (k : Nat) (b : Block) : hasMark (2 * k) b.toks = false := by
  have odd (name : Nat) : (2 * name + 1 == 2 * k) = false := by
    simp only [beq_eq_false_iff_ne, ne_eq]; omega
  induction b using Block.shapes with
  | bracedSpan | bareSpan => simp [Block.toks, hasMark, odd]
  | _ => rfl

theorem hasMark_tokensOf (k : Nat) (rest : List Block) : hasMark (2 * k) (tokensOf rest) = false := by
  induction rest with
  | nil => rfl
  | cons b rest ih =>
    rw [tokensOf, List.flatMap_cons, hasMark_append, hasMark_toks, Bool.false_or]
    exact ih

theorem collectBody_block (b : Block) (rest : List Block) :
    collectBody (b.toks.tail ++ tokensOf rest) = (b.toks.tail, tokensOf rest) := by
  have h : collect none (tokensOf rest) = ([], tokensOf rest) := collectBody_tokensOf rest
  have hm := hasMark_tokensOf b.name rest
  induction b using Block.shapes <;> simp [Block.toks, collectBody, collect, hasMark, h, hm]

/-- the split finds every generated block, whatever its braces look like -/
theorem C13_split_every_test (blocks : List Block) (fuel : Nat) (hf : (tokensOf blocks).length ≤ fuel) :
    splitTests fuel (tokensOf blocks) = blocks.map fun b => (b.name, b.toks.tail) := by
  induction blocks generalizing fuel with
  | nil => cases fuel <;> rfl
  | cons b rest ih =>
    have hcons : tokensOf (b :: rest) = Tok.test b.name :: (b.toks.tail ++ tokensOf rest) := rfl
    rw [hcons] at hf ⊢
    cases fuel with
    | zero => simp at hf
    | succ f =>
      simp only [splitTests, collectBody_block, List.map_cons]
      rw [ih f (by simp at hf; omega)]

theorem compileBody_block (b : Block) :
    compileBody b.toks.tail = if b.eff = Outcome.compileErr then none else some b.body := by
  induction b using Block.shapes with
  -- the span is closed by the directive's own marker: `2 * name + 1 = 2 * name + 1` has to be decided
  | bracedSpan | bareSpan =>
    simp [Block.toks, compileBody, stripSpans, balanced, firstStmt, Block.eff, Block.damaged]
  | _ => rfl

theorem eff_body (b : Block) (h : b.eff ≠ Outcome.compileErr) : b.body.outcome = b.eff := by
  unfold Block.eff at h ⊢
  split <;> simp_all

theorem block_spec (b : Block) (st : St) (h : st.halted = false) :
    let r := exec (compileBlock b.name b.toks.tail) ((compileBlock b.name b.toks.tail).length + 1) 0 st
    (b.eff = Outcome.atFail → r.halted = true ∧ r.out = st.out) ∧
    (b.eff ≠ Outcome.atFail → r = restored st b.name (verdict b).2) := by
  unfold compileBlock
  rw [compileBody_block]
  by_cases hc : b.eff = Outcome.compileErr
  · rw [if_pos hc, show (blockCode b.name none).length + 1 = 7 + 6 from rfl, exec_signal _ 7 st h,
      raise_guarded (entered st 9) st.stack 9 st.tries (by decide) rfl rfl]
    exact ⟨fun h' => absurd (hc ▸ h') (by decide),
      fun _ => by rw [verdict, hc]; exact exec_handler b.name none 3 st⟩
  · have hb := eff_body b hc
    rw [if_neg hc, show (blockCode b.name (some b.body)).length + 1 = 8 + 6 from rfl, exec_call _ _ 8 st h]
    refine ⟨fun h' => ?_, fun h' => ?_⟩
    · obtain ⟨hh, ho⟩ := callTest_atFail b.body 5 (entered st 10) (hb.trans h')
      rw [exec, if_pos hh]
      exact ⟨hh, ho⟩
    · by_cases hp : b.eff = Outcome.pass
      · rw [callTest_pass _ _ _ (hb.trans hp)]
        rw [verdict, if_pos hp]
        exact exec_passed b.name b.body 2 st
      · rw [callTest_err b.body 5 (entered st 10) st.stack 10 st.tries (by decide) rfl rfl (hb ▸ hp) (hb ▸ h')]
        rw [verdict, if_neg hp]
        exact exec_handler b.name (some b.body) 4 st

def beforeFail (blocks : List Block) : List Block := blocks.takeWhile fun b => decide (b.eff ≠ Outcome.atFail)

/-- Invariant over ANY sequence of blocks and ANY starting state: the lines printed are the verdicts
    of the blocks before the first `@fail`; the run is stopped iff some block runs `@fail`; and if it
    is not, the value stack, try stack, output stack and active-test count are as at the start. -/
theorem C13_run_invariant (blocks : List Block) (st : St) (h : st.halted = false) :
    let r := runFile st (blocks.map fun b => compileBlock b.name b.toks.tail)
    r.out = st.out ++ (beforeFail blocks).map verdict ∧
    (r.halted = true ↔ ∃ b ∈ blocks, b.eff = Outcome.atFail) ∧
    (r.halted = false → r.stack = st.stack ∧ r.tries = st.tries ∧ r.outStack = st.outStack ∧ r.active = st.active) := by
  induction blocks generalizing st with
  | nil => simp [runFile, beforeFail, h]
  | cons b rest ih =>
    have hs := block_spec b st h
    simp only [List.map_cons, runFile]
    by_cases hf : b.eff = Outcome.atFail
    · obtain ⟨hh, ho⟩ := hs.1 hf
      simp [hh, ho, beforeFail, hf]
    · rw [hs.2 hf]
      simpa [restored, beforeFail, hf, verdict] using ih (restored st b.name (verdict b).2) rfl

theorem runTests_eq (blocks : List Block) :
    runTests blocks = runFile init (blocks.map fun b => compileBlock b.name b.toks.tail) := by
  unfold runTests compileFile
  rw [C13_split_every_test blocks _ (Nat.le_refl _), List.map_map]
  rfl

/-- C13: every generated test file prints exactly the verdicts of the blocks before the first
    `@fail`, each once, in order -/
theorem C13_isolated (blocks : List Block) :
    (runTests blocks).out = (beforeFail blocks).map verdict := by
  have h := (C13_run_invariant blocks init rfl).1
  rw [runTests_eq]
  simpa [init] using h

/-- without an `@fail` every block is reported, and the run ends with all stacks empty again -/
theorem C13_all_reported (blocks : List Block) (hno : ∀ b ∈ blocks, b.eff ≠ Outcome.atFail) :
    (runTests blocks).out = blocks.map verdict ∧ (runTests blocks).halted = false ∧
    (runTests blocks).stack = [] ∧ (runTests blocks).tries = [] ∧ (runTests blocks).outStack = [] := by
  have hall : beforeFail blocks = blocks := by
    simpa [beforeFail] using List.takeWhile_append_of_pos (l₂ := [])
      (p := fun b : Block => decide (b.eff ≠ Outcome.atFail)) fun b hb => by simpa using hno b hb
  obtain ⟨h1, h2, h3⟩ := C13_run_invariant blocks init rfl
  rw [runTests_eq]
  have hnh : (runFile init (blocks.map fun b => compileBlock b.name b.toks.tail)).halted = false := by
    rw [← Bool.not_eq_true, h2]
    exact fun ⟨b, hb, he⟩ => hno b hb he
  exact ⟨by rw [h1, hall]; rfl, hnh, (h3 hnh).1, (h3 hnh).2.1, (h3 hnh).2.2.1⟩

/-- only an `@fail` stops the run -/
theorem C13_only_atFail_stops (blocks : List Block) :
    (runTests blocks).halted = true ↔ ∃ b ∈ blocks, b.eff = Outcome.atFail := by
  rw [runTests_eq]
  exact (C13_run_invariant blocks init rfl).2.1

/-- the per-block invariant, stated on its own: a block that does not run `@fail` gives back the
    value stack, the try stack, the output stack and the active-test count exactly as it found
    them (for ANY such state) and adds exactly its own line -/
theorem C13_block_restores (b : Block) (st : St) (h : st.halted = false) (hf : b.eff ≠ Outcome.atFail) :
    exec (compileBlock b.name b.toks.tail) ((compileBlock b.name b.toks.tail).length + 1) 0 st
      = { stack := st.stack, tries := st.tries, outStack := st.outStack, capturing := false,
          active := st.active, out := st.out ++ [verdict b], halted := false } := by
  rw [(block_spec b st h).2 hf]; rfl

/-! ### non-vacuity, and what the code did before fixes/C13.patch -/

def exBlocks : List Block :=
  [ { name := 1, body := { junk := 0, leak := [], outcome := Outcome.pass }, brace := 0 },
    { name := 2, body := { junk := 3, leak := [7, 0], outcome := Outcome.assertFail }, brace := 0 },
    { name := 3, body := { junk := 0, leak := [], outcome := Outcome.pass }, brace := 1 },
    { name := 4, body := { junk := 1, leak := [4], outcome := Outcome.runtimeErr }, brace := 0 },
    { name := 5, body := { junk := 0, leak := [], outcome := Outcome.compileErr }, brace := 2 },
    { name := 6, body := { junk := 2, leak := [9], outcome := Outcome.pass }, brace := 0 },
    { name := 7, body := { junk := 0, leak := [], outcome := Outcome.atFail }, brace := 0 },
    { name := 8, body := { junk := 0, leak := [], outcome := Outcome.pass }, brace := 0 } ]

example : (runTests exBlocks).out =
    [(1, Verdict.PASS), (2, Verdict.FAIL), (3, Verdict.FAIL), (4, Verdict.FAIL), (5, Verdict.FAIL), (6, Verdict.PASS)] := by
  rw [C13_isolated]; decide
example : (runTests exBlocks).halted = true := by
  rw [C13_only_atFail_stops]; decide
example : ∃ b ∈ exBlocks.take 6, b.eff ≠ Outcome.atFail ∧ b.body.leak ≠ [] := by decide

/-- before the fix: a body with a missing `}` swallows the `@test` that follows it -/
theorem C13_split_old_counterexample :
    (collectBodyOld 0 ([Tok.open, Tok.open, Tok.stmt ⟨0, [], Outcome.pass⟩, Tok.close] ++
        [Tok.test 2, Tok.open, Tok.stmt ⟨0, [], Outcome.pass⟩, Tok.close])).2 = [] := by decide

/-- handleCatch's unwind loop before the fix: no new search after a frame is popped; the handler
    address is the one of the entry chosen before the unwind (`try := c.tryStack[tryIndex]`) -/
def unwindOld : List Val → List Nat → Nat → Nat → Caught
  | [], _, _, _ => Caught.abort
  | Val.marker :: s, ts, n, addr => Caught.to addr s (0 :: (truncate ts n).tail)
  | Val.frame d :: s, ts, n, addr => unwindOld s (if ts.length > d then truncate ts d else ts) n addr
  | _ :: s, ts, n, addr => unwindOld s ts n addr

/-- before the fix: with a stale live entry (handler 5, left by `break` out of a try block) above
    the test's own entry (handler 10), control goes to the stale address 5 — in the main program's
    code, since the body's frame has been popped — instead of the test's own handler -/
theorem C13_stale_try_old_counterexample :
    unwindOld [Val.frame 1, Val.marker] [5, 10] 2 5 = Caught.to 5 [] [0] ∧
    unwind [Val.frame 1, Val.marker] [5, 10] 2 = Caught.to 10 [] [0] := by decide

/-- compileTestBody before the fix: BeginCapture only on the run path, no EndCapture in the handler -/
def blockCodeOld (name : Nat) (b : Body) : List Instr :=
  [Instr.console, Instr.pushTest, Instr.try_ 10, Instr.pushMarker, Instr.beginCapture, Instr.callTest b,
   Instr.endCapture, Instr.dropToMarker, Instr.report name Verdict.PASS 9, Instr.branch 11,
   Instr.report name Verdict.FAIL 11, Instr.tryPop]

/-- before the fix: the (FAIL) line of a test that fails at run time is printed into the capture
    buffer of the body and never reaches the console -/
theorem C13_fail_line_old_counterexample :
    (exec (blockCodeOld 1 ⟨0, [], Outcome.assertFail⟩) 13 0 init).out = [] ∧
    (exec (blockCode 1 (some ⟨0, [], Outcome.assertFail⟩)) 14 0 init).out = [(1, Verdict.FAIL)] := by decide

/-! ### `return` out of an `@capture` block (fixes/C13-4.patch, callframe.go)

Before the fix callFramePop gave back the value and try stacks only, not c.outputStack (see `popFrame`). -/

/-- `n` BeginCapture instructions whose EndCapture is never reached (`return` inside `@capture … { }`) -/
def beginN : Nat → St → St
  | 0, st => st
  | n + 1, st => beginN n (step Instr.beginCapture 0 st).1

/-- one block before the fix, for a body that leaves `caps` @capture blocks open: the skeleton up to
    CallTest, the body (the open captures survive the frame pop / the unwind), the rest of the skeleton -/
def runBlockCapsOld (name : Nat) (caps : Nat) (b : Body) : St :=
  let code := blockCode name (some b)
  let r := callTest b 5 (beginN caps (exec (code.take 5) 6 0 init))
  exec code 14 r.2 r.1

/-- before the fix: the skeleton's EndCapture closes the body's abandoned @capture instead of its own
    BeginCapture, so the test's own (PASS) / (FAIL) line is printed into the skeleton's capture buffer and
    never reaches the console; with no open capture the run is that of `blockCode` and the line is printed.
    The next block starts with `Console false`, which is why later tests are still reported. -/
theorem C13_capture_return_old_counterexample :
    (runBlockCapsOld 1 1 ⟨1, [7], Outcome.pass⟩).out = [] ∧
    (runBlockCapsOld 1 1 ⟨0, [], Outcome.assertFail⟩).out = [] ∧
    (runBlockCapsOld 1 2 ⟨0, [], Outcome.runtimeErr⟩).out = [] ∧
    (runBlockCapsOld 1 1 ⟨1, [7], Outcome.pass⟩).outStack = [false] ∧
    (runBlockCapsOld 1 0 ⟨1, [7], Outcome.pass⟩).out = [(1, Verdict.PASS)] ∧
    (runBlockCapsOld 1 0 ⟨1, [7], Outcome.pass⟩) = exec (blockCode 1 (some ⟨1, [7], Outcome.pass⟩)) 14 0 init ∧
    (exec (blockCode 1 (some ⟨0, [], Outcome.assertFail⟩)) 14 0 init).out = [(1, Verdict.FAIL)] := by decide +kernel

/-! ### `@compile eof=` spans at the split (fixes/C13-3.patch) -/

/-- a directive whose marker is nowhere in the rest of the file does not change where the body ends:
    the body is collected exactly as if the directive were an ordinary token -/
theorem C13_eof_missing_marker_plain (m : Nat) (rest : List Tok) (h : hasMark m rest = false) :
    collectBody (Tok.eofOpen m :: rest) = ((Tok.eofOpen m :: (collectBody rest).1), (collectBody rest).2) := by
  simp [collectBody, collect, h]

/-- outside a span every `@test` is a boundary: a body without an `@compile eof=` directive ends at
    the next `@test`, whatever its braces look like -/
theorem C13_eof_no_span_stops_at_test (pre : List Tok) (n : Nat) (rest : List Tok)
    (hp : ∀ t ∈ pre, (∀ k, t ≠ Tok.test k) ∧ (∀ m, t ≠ Tok.eofOpen m)) :
    collectBody (pre ++ Tok.test n :: rest) = (pre, Tok.test n :: rest) := by
  induction pre with
  | nil => simp [collectBody, collect]
  | cons t pre ih =>
    have ih' := ih (fun t' ht' => hp t' (List.mem_cons_of_mem _ ht'))
    have ht := hp t (List.mem_cons_self)
    unfold collectBody at ih' ⊢
    cases t with
    | test k => exact absurd rfl (ht.1 k)
    | eofOpen m => exact absurd rfl (ht.2 m)
    | _ => simp [collect, ih']

example : hasMark 4 [Tok.stmt ⟨0, [], Outcome.pass⟩, Tok.close, Tok.test 3, Tok.open, Tok.close] = false := by decide

/-- before fixes/C13-3.patch: an `@compile eof=` directive whose marker is missing swallows every test
    after it (with the fix the second test is still there) -/
theorem C13_eof_marker_old_counterexample :
    (collectEofOld none ([Tok.open, Tok.eofOpen 4, Tok.stmt ⟨0, [], Outcome.pass⟩, Tok.close] ++
        [Tok.test 3, Tok.open, Tok.stmt ⟨0, [], Outcome.pass⟩, Tok.close])).2 = [] ∧
    (collectBody ([Tok.open, Tok.eofOpen 4, Tok.stmt ⟨0, [], Outcome.pass⟩, Tok.close] ++
        [Tok.test 3, Tok.open, Tok.stmt ⟨0, [], Outcome.pass⟩, Tok.close])).2
      = [Tok.test 3, Tok.open, Tok.stmt ⟨0, [], Outcome.pass⟩, Tok.close] := by decide

/-- the shapes 3–7: bare statements, a missing marker, an unbalanced span that ends at its marker -/
def exBlocks2 : List Block :=
  [ { name := 1, body := { junk := 0, leak := [], outcome := Outcome.pass }, brace := 3 },
    { name := 2, body := { junk := 0, leak := [], outcome := Outcome.pass }, brace := 4 },
    { name := 3, body := { junk := 1, leak := [7], outcome := Outcome.runtimeErr }, brace := 3 },
    { name := 4, body := { junk := 0, leak := [], outcome := Outcome.pass }, brace := 6 },
    { name := 5, body := { junk := 0, leak := [], outcome := Outcome.pass }, brace := 5 },
    { name := 6, body := { junk := 0, leak := [], outcome := Outcome.assertFail }, brace := 7 },
    { name := 7, body := { junk := 0, leak := [], outcome := Outcome.pass }, brace := 0 } ]

example : (runTests exBlocks2).out =
    [(1, Verdict.PASS), (2, Verdict.FAIL), (3, Verdict.FAIL), (4, Verdict.FAIL), (5, Verdict.PASS), (6, Verdict.FAIL),
     (7, Verdict.PASS)] := by
  rw [C13_isolated]; decide

/-! ### the file scope shared with the clones (fixes/C13-2.patch) -/

theorem any_reference (u : Usage) (n k : Nat) :
    (reference u n).any (fun p => p.1 == k) = u.any (fun p => p.1 == k) := by
  -- `reference` rewrites second components only
  simp only [reference, List.any_map, Function.comp_def, apply_ite Prod.fst, ite_self]

/-- What holds of the file scope `u` while a body is compiled, `old` being the names the scope held
    before the body: an old name is not "not read yet", and no old name has been removed. -/
def ScopeInv (old : Nat → Bool) (u : Usage) : Prop :=
  (∀ p ∈ u, old p.1 = true → p.2 = false) ∧ ∀ n, old n = true → u.any (fun p => p.1 == n) = true

section
variable {old : Nat → Bool} {u : Usage}

theorem ScopeInv.define (h : ScopeInv old u) (n : Nat) : ScopeInv old (define u n) := by
  unfold C13.define
  split
  · exact h
  · rename_i hn
    refine ⟨fun p hp ho => ?_, fun k hk => by rw [List.any_cons, h.2 k hk, Bool.or_true]⟩
    rcases List.mem_cons.1 hp with rfl | hp
    · -- the name entered is new to `u`, which still holds every old name
      exact absurd (h.2 n ho) hn
    · exact h.1 p hp ho

theorem ScopeInv.reference (h : ScopeInv old u) (n : Nat) : ScopeInv old (reference u n) := by
  refine ⟨fun p hp ho => ?_, fun k hk => (any_reference u n k).trans (h.2 k hk)⟩
  obtain ⟨p', hp', rfl⟩ := List.mem_map.1 hp
  by_cases hn : p'.1 = n <;> simp only [hn, if_true, if_false] at ho ⊢
  exact h.1 p' hp' ho

theorem ScopeInv.applyEvs (h : ScopeInv old u) (evs : List ScopeEv) : ScopeInv old (applyEvs u evs) := by
  induction evs generalizing u with
  | nil => exact h
  | cons e evs ih =>
    cases e with
    | decl n => exact ih (h.define n)
    | use n => exact ih (h.reference n)

end

/-- a body that fails to compile cannot make the FILE fail to compile: whatever it declared and
    read before it stopped, the scope it leaves behind has no unread name if it had none before
    (so the unused-variable check at the end of the file cannot take the other tests down with it) -/
theorem C13_failed_body_keeps_file_compiling (u : Usage) (evs : List ScopeEv) (h : fileCompiles u = true) :
    fileCompiles (afterBody u evs true) = true := by
  have inv : ScopeInv (fun n => u.any (fun q => q.1 == n)) u :=
    ⟨fun p hp _ => by simpa using List.all_eq_true.1 h p hp, fun _ hn => hn⟩
  simp only [fileCompiles, afterBody, if_true, List.all_eq_true, List.mem_filter]
  exact fun p ⟨hp1, hp2⟩ => by rw [(inv.applyEvs evs).1 p hp1 hp2]; rfl

/-- the names of the scope and what is known about them before the body are still there afterwards
    (the repair removes only what the failed body added) -/
example : afterBody [(9, false)] [ScopeEv.decl 5, ScopeEv.use 9, ScopeEv.decl 6, ScopeEv.use 6] true = [(9, false)] := by decide
example : afterBody [(9, false)] [ScopeEv.decl 5, ScopeEv.use 5] false = [(5, false), (9, false)] := by decide

/-- before fixes/C13-2.patch: `y := 5` followed by a statement that does not compile, written without
    braces after `@test`, leaves `y` unread in the file scope: the file does not compile, no test runs -/
theorem C13_scope_leak_old_counterexample :
    fileCompiles [] = true ∧ fileCompiles (afterBodyOld [] [ScopeEv.decl 5] true) = false ∧
    fileCompiles (afterBody [] [ScopeEv.decl 5] true) = true := by decide

end EgoVerif.C13
