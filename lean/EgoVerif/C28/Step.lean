import EgoVerif.C28.Lemmas
/-
C28 — one step of the model.  The invariant `WF`, the specification state `abs s` a model state stands for,
and `step_spec`: every operation keeps the invariant, takes `abs s` to `absStep s o`, and appends `evOf s o`
to the eviction log.
-/
namespace EgoVerif.C28

def Good (s : St) (c : Class) (ca : Cache) : Prop :=
  ca.maxSize = s.maxCacheSize ∧ ca.expiration = lifeOf s c ∧ NodupKeys ca.items ∧ ca.items.length ≤ ca.maxSize

/-- the invariant: every record carries the global size limit and the class's configured lifetime,
its keys are distinct and it is not over its limit -/
def WF (s : St) : Prop := ∀ c ca, get s.caches c = some ca → Good s c ca

/-- the reports an operation makes to the eviction listener -/
def evOf (s : St) : Op → List (Class × Key × Val)
  | .delete c k => match look s c k with
    | some it => [(c, k, it.val)]
    | none => []
  | .sweep c => match get s.caches c with
    | none => []
    | some ca => (ca.items.filter (fun p => expired s.now p.2)).map (fun p => (c, p.1, p.2.val))
  | _ => []

/-- the specification state: plain functions, one lifetime per class, one size limit -/
structure Spec where
  now : Time
  limit : Nat
  life : Class → Time
  m : Class → Key → Option Item

def abs (s : St) : Spec := { now := s.now, limit := s.maxCacheSize, life := lifeOf s, m := look s }

/-- what the state after one operation stands for, read off the state before it: the successor `SpecStep`
asks for, as a function (`Add` is accepted iff the key is there or the class has room) -/
def absStep (s : St) : Op → Spec
  | .add c k v =>
    { abs s with
      m := fun c' k' =>
        if c' = c ∧ k' = k then
          (if (look s c k).isSome ∨ size s c < s.maxCacheSize then some ⟨v, s.now + lifeOf s c⟩ else none)
        else look s c' k' }
  | .find c k =>
    { abs s with
      m := fun c' k' =>
        if c' = c ∧ k' = k then (look s c k).map (fun it => { it with expires := s.now + lifeOf s c })
        else look s c' k' }
  | .delete c k => { abs s with m := fun c' k' => if c' = c ∧ k' = k then none else look s c' k' }
  | .purge c | .purgeLocal c => { abs s with m := fun c' k' => if c' = c then none else look s c' k' }
  | .setExpiration c (some d) => { abs s with life := fun c' => if c' = c then d else lifeOf s c' }
  | .setExpiration _ none => abs s
  | .sweep c =>
    { abs s with
      m := fun c' k' =>
        if c' = c then (look s c k').bind (fun it => if it.expires < s.now then none else some it)
        else look s c' k' }
  | .tick => { abs s with now := s.now + 1 }

/-! ### The shapes all operations share: a record is written, a record is dropped -/

theorem Good_congr {s s' : St} {c : Class} {ca : Cache} (hm : s'.maxCacheSize = s.maxCacheSize)
    (hl : lifeOf s' c = lifeOf s c) (h : Good s c ca) : Good s' c ca := by
  unfold Good at *
  rw [hm, hl]; exact h

theorem Good.maxSize_eq {s : St} {c : Class} {ca : Cache} (hg : Good s c ca) : ca.maxSize = s.maxCacheSize := hg.1

theorem Good.expiration_eq {s : St} {c : Class} {ca : Cache} (hg : Good s c ca) : ca.expiration = lifeOf s c := hg.2.1

theorem Good.nodup {s : St} {c : Class} {ca : Cache} (hg : Good s c ca) : NodupKeys ca.items := hg.2.2.1

theorem Good.length_le {s : St} {c : Class} {ca : Cache} (hg : Good s c ca) : ca.items.length ≤ ca.maxSize := hg.2.2.2

theorem Good.items {s : St} {c : Class} {ca : Cache} (hg : Good s c ca) {l : List (Key × Item)}
    (hn : NodupKeys l) (hl : l.length ≤ ca.maxSize) : Good s c { ca with items := l } :=
  ⟨hg.maxSize_eq, hg.expiration_eq, hn, hl⟩

theorem WF_of_put {s s' : St} (h : WF s) (hm : s'.maxCacheSize = s.maxCacheSize) (c : Class) (ca : Cache)
    (hl : ∀ c', c' ≠ c → lifeOf s' c' = lifeOf s c') (hg : Good s' c ca)
    (hcs : s'.caches = put s.caches c ca) : WF s' := by
  intro c' ca' hget
  rw [hcs, get_put] at hget
  by_cases hcc : c' = c
  · rw [if_pos hcc] at hget
    cases hget
    exact hcc ▸ hg
  · rw [if_neg hcc] at hget
    exact Good_congr hm (hl c' hcc) (h c' ca' hget)

theorem WF_purge {s : St} (h : WF s) (c : Class) (notify : Bool) : WF (purge s c notify) := by
  intro c' ca' hget
  rw [purge, get_del] at hget
  split at hget
  · cases hget
  · exact Good_congr rfl rfl (h c' ca' hget)

theorem WF_init (m : Nat) : WF (init m) := fun _ _ h => nomatch h

theorem look_of_get {s : St} {c : Class} {ca : Cache} (h : get s.caches c = some ca) (k : Key) :
    look s c k = get ca.items k := by rw [look, h]

theorem look_of_none {s : St} {c : Class} (h : get s.caches c = none) (k : Key) : look s c k = none := by
  rw [look, h]

theorem look_put (s s' : St) (c : Class) (ca : Cache) (hcs : s'.caches = put s.caches c ca) (c' : Class) (k' : Key) :
    look s' c' k' = if c' = c then get ca.items k' else look s c' k' := by
  by_cases hcc : c' = c <;> simp only [look, hcs, get_put, hcc, if_true, if_false]

theorem look_purge (s : St) (c : Class) (notify : Bool) (c' : Class) (k' : Key) :
    look (purge s c notify) c' k' = if c' = c then none else look s c' k' := by
  by_cases hcc : c' = c <;> simp only [look, purge, get_del, hcc, if_true, if_false]

theorem newCache_eq (s : St) (c : Class) : ∃ r sp, newCache s c =
    { s with caches := put s.caches c (freshCache s c), running := r, spawned := sp } := by
  unfold newCache; split <;> exact ⟨_, _, rfl⟩

/-- the record of class `c` as `Add` and `SetExpiration` see it: the stored one, else the one `newCache` makes -/
def recOf (s : St) (c : Class) : Cache := (get s.caches c).getD (freshCache s c)

theorem look_rec (s : St) (c : Class) (k : Key) : look s c k = get (recOf s c).items k := by
  unfold look recOf; cases get s.caches c <;> rfl

theorem size_rec (s : St) (c : Class) : size s c = (recOf s c).items.length := by
  unfold size recOf; cases get s.caches c <;> rfl

theorem Good_rec {s : St} (h : WF s) (c : Class) : Good s c (recOf s c) := by
  unfold recOf
  cases hget : get s.caches c with
  | none => exact ⟨rfl, rfl, List.nodup_nil, Nat.zero_le _⟩
  | some ca => exact h c ca hget

theorem add_eq (s : St) (c : Class) (k : Key) (v : Val) :
    ∃ r sp, add s c k v = { storeItem s c (recOf s c) k v with running := r, spawned := sp } := by
  unfold add recOf
  cases get s.caches c with
  | some ca => exact ⟨_, _, rfl⟩
  | none =>
    obtain ⟨r, sp, e⟩ := newCache_eq s c
    refine ⟨r, sp, ?_⟩
    rw [e, Option.getD_none]
    by_cases hf : (freshCache s c).maxSize ≤ (del (freshCache s c).items k).length
    · simp only [storeItem, if_pos hf, put_put]
    · simp only [storeItem, if_neg hf, put_put]

theorem setExpiration_eq (s : St) (c : Class) (d : Time) : ∃ r sp, setExpiration s c d =
    { s with caches := put s.caches c { recOf s c with expiration := d }, configured := put s.configured c d,
             running := r, spawned := sp } := by
  unfold setExpiration recOf
  cases get s.caches c with
  | some ca => exact ⟨_, _, rfl⟩
  | none =>
    obtain ⟨r, sp, e⟩ := newCache_eq s c
    exact ⟨r, sp, by simp only [e, put_put, Option.getD_none]⟩

theorem lifeOf_put (s s' : St) (c : Class) (d : Time) (hc : s'.configured = put s.configured c d) (c' : Class) :
    lifeOf s' c' = if c' = c then d else lifeOf s c' := by
  rw [lifeOf, hc, get_put, lifeOf]
  by_cases hcc : c' = c
  · rw [if_pos hcc, if_pos hcc]; rfl
  · rw [if_neg hcc, if_neg hcc]

theorem abs_eq {s s' : St} (hn : s'.now = s.now) (hm : s'.maxCacheSize = s.maxCacheSize)
    {l : Class → Time} (hlife : ∀ c, lifeOf s' c = l c) {m : Class → Key → Option Item}
    (hl : ∀ c k, look s' c k = m c k) : abs s' = { abs s with life := l, m := m } := by
  rw [abs, hn, hm, funext hlife, show look s' = m from funext fun c => funext (hl c)]
  rfl

theorem spec_of_put {s : St} (h : WF s) {c : Class} {ca : Cache} (hg : Good s c ca) (e : List (Class × Key × Val))
    {m : Class → Key → Option Item} (hl : ∀ c' k', (if c' = c then get ca.items k' else look s c' k') = m c' k') :
    WF { s with caches := put s.caches c ca, evicted := e } ∧
    abs { s with caches := put s.caches c ca, evicted := e } = { abs s with m := m } :=
  ⟨WF_of_put h rfl c ca (fun _ _ => rfl) hg rfl,
    abs_eq rfl rfl (fun _ => rfl) fun c' k' => (look_put s _ c ca rfl c' k').trans (hl c' k')⟩

theorem look_upd {s : St} {c : Class} {ca : Cache} (hl : ∀ k, look s c k = get ca.items k) (c' : Class) (k' : Key)
    (P : Prop) [Decidable P] (x : Option Item) :
    (if c' = c then (if P then x else get ca.items k') else look s c' k') =
      if c' = c ∧ P then x else look s c' k' := by
  by_cases hcc : c' = c
  · rw [if_pos hcc, hcc, hl]
    by_cases hp : P <;> simp [hp]
  · simp [hcc]

theorem look_miss {s : St} {c : Class} {k : Key} (hl : look s c k = none) (c' : Class) (k' : Key) :
    look s c' k' = if c' = c ∧ k' = k then none else look s c' k' := by
  by_cases hc : c' = c ∧ k' = k
  · rw [if_pos hc, hc.1, hc.2, hl]
  · rw [if_neg hc]

/-- the capacity test of `storeItem`, read on the record before the key was taken out -/
theorem full_iff {s : St} (h : WF s) (c : Class) (k : Key) :
    (recOf s c).maxSize ≤ (del (recOf s c).items k).length ↔ ¬ ((look s c k).isSome ∨ size s c < s.maxCacheSize) := by
  obtain ⟨h1, _, _, h4⟩ := Good_rec h c
  rw [look_rec, size_rec]
  cases hit : get (recOf s c).items k with
  | none => rw [del_eq_self _ hit, h1]; simp
  | some it =>
    have := length_del_lt (recOf s c).items hit
    simp only [Option.isSome_some, true_or, not_true, iff_false]
    omega

theorem step_spec {s : St} (h : WF s) (o : Op) :
    (WF (step s o) ∧ abs (step s o) = absStep s o) ∧ (step s o).evicted = s.evicted ++ evOf s o := by
  cases o with
  | add c k v =>
    obtain ⟨r, sp, e⟩ := add_eq s c k v
    simp only [step, evOf, List.append_nil]
    rw [e]
    have hg := Good_rec h c
    by_cases hf : (recOf s c).maxSize ≤ (del (recOf s c).items k).length
    · simp only [storeItem, if_pos hf]
      refine ⟨spec_of_put h (hg.items (nodup_del k hg.nodup) (Nat.le_trans (length_del_le _ _) hg.length_le))
        s.evicted fun c' k' => ?_, trivial⟩
      rw [get_del, if_neg ((full_iff h c k).1 hf)]
      exact look_upd (look_rec s c) c' k' _ _
    · simp only [storeItem, if_neg hf]
      refine ⟨spec_of_put h (hg.items (nodup_put k _ hg.nodup) (Nat.succ_le_of_lt (Nat.lt_of_not_le hf)))
        s.evicted fun c' k' => ?_, trivial⟩
      rw [get_put, if_pos (Decidable.not_not.1 (mt (full_iff h c k).2 hf)), hg.expiration_eq]
      exact look_upd (look_rec s c) c' k' _ _
  | find c k =>
    simp only [step, evOf, List.append_nil]
    have miss : look s c k = none → WF s ∧ abs s = absStep s (.find c k) := fun hl =>
      ⟨h, abs_eq (s := s) rfl rfl (fun _ => rfl) fun c' k' => by rw [hl]; exact look_miss hl c' k'⟩
    cases hget : get s.caches c with
    | none => rw [find, hget]; exact ⟨miss (look_of_none hget k), rfl⟩
    | some ca =>
      cases hit : get ca.items k with
      | none => rw [find, hget]; simp only [hit]; exact ⟨miss ((look_of_get hget k).trans hit), trivial⟩
      | some it =>
        have hg := h c ca hget
        rw [find, hget]; simp only [hit]
        refine ⟨spec_of_put h (hg.items (nodup_put k _ hg.nodup)
          (Nat.le_trans (Nat.succ_le_of_lt (length_del_lt ca.items hit)) hg.length_le)) _ fun c' k' => ?_, trivial⟩
        rw [get_put, look_of_get hget, hit, hg.expiration_eq]
        exact look_upd (look_of_get hget) c' k' _ _
  | delete c k =>
    simp only [step, evOf]
    have miss : look s c k = none →
        (WF s ∧ abs s = absStep s (.delete c k)) ∧ s.evicted = s.evicted ++ (match look s c k with
          | some it => [(c, k, it.val)] | none => []) := fun hl =>
      ⟨⟨h, abs_eq (s := s) rfl rfl (fun _ => rfl) (look_miss hl)⟩, by rw [hl]; exact (List.append_nil _).symm⟩
    cases hget : get s.caches c with
    | none => rw [delete, hget]; exact miss (look_of_none hget k)
    | some ca =>
      cases hit : get ca.items k with
      | none => rw [delete, hget]; simp only [hit]; exact miss ((look_of_get hget k).trans hit)
      | some it =>
        have hg := h c ca hget
        rw [delete, hget, look_of_get hget k]; simp only [hit]
        refine ⟨spec_of_put h (hg.items (nodup_del k hg.nodup) (Nat.le_trans (length_del_le _ _) hg.length_le))
          _ fun c' k' => ?_, trivial⟩
        rw [get_del]
        exact look_upd (look_of_get hget) c' k' _ _
  | purge c | purgeLocal c =>
    exact ⟨⟨WF_purge h c _, abs_eq rfl rfl (fun _ => rfl) (look_purge s c _)⟩, (List.append_nil _).symm⟩
  | setExpiration c d =>
    cases d with
    | none => exact ⟨⟨h, rfl⟩, (List.append_nil _).symm⟩
    | some d =>
      obtain ⟨r, sp, e⟩ := setExpiration_eq s c d
      simp only [step, evOf, List.append_nil]
      rw [e]
      -- the record of `c` takes the new lifetime together with `configured`; the others see `lifeOf` unchanged
      have hg := Good_rec h c
      refine ⟨⟨WF_of_put h rfl c { recOf s c with expiration := d }
        (fun c' hcc => Eq.trans (lifeOf_put s _ c d rfl c') (if_neg hcc))
        ⟨hg.1, (Eq.trans (lifeOf_put s _ c d rfl c) (if_pos rfl)).symm, hg.2.2⟩ rfl,
        abs_eq rfl rfl (lifeOf_put s _ c d rfl) fun c' k' => ?_⟩, rfl⟩
      rw [look_put s _ c _ rfl]
      by_cases hcc : c' = c
      · rw [if_pos hcc, hcc]; exact (look_rec s c k').symm
      · rw [if_neg hcc]; rfl
  | sweep c =>
    simp only [step, evOf]
    cases hget : get s.caches c with
    | none =>
      rw [sweep, hget]
      refine ⟨⟨fun c' ca' hg' => Good_congr rfl rfl (h c' ca' hg'), abs_eq rfl rfl (fun _ => rfl) fun c' k' => ?_⟩, (List.append_nil _).symm⟩
      rw [look_of_none hget]
      by_cases hcc : c' = c
      · rw [if_pos hcc, hcc]; exact look_of_none hget k'
      · rw [if_neg hcc]; rfl
    | some ca =>
      have hg := h c ca hget
      rw [sweep, hget]
      refine ⟨spec_of_put h (hg.items (nodup_filter _ hg.nodup)
        (Nat.le_trans (List.length_filter_le _ _) hg.length_le)) _ fun c' k' => ?_, rfl⟩
      rw [look_of_get hget, get_filter hg.nodup]
      congr 2
      funext it
      simp only [expired, Bool.not_eq_true', decide_eq_false_iff_not, ite_not]
  | tick => exact ⟨⟨fun c' ca' hg' => Good_congr rfl rfl (h c' ca' hg'), rfl⟩, (List.append_nil _).symm⟩

theorem WF_step {s : St} (h : WF s) (o : Op) : WF (step s o) := (step_spec h o).1.1

theorem abs_step {s : St} (h : WF s) (o : Op) : abs (step s o) = absStep s o := (step_spec h o).1.2

theorem WF_run {s : St} (h : WF s) (ops : List Op) : WF (run s ops) := by
  induction ops generalizing s with
  | nil => exact h
  | cons o r ih => exact ih (WF_step h o)

theorem look_step {s : St} (h : WF s) (o : Op) (c : Class) (k : Key) : look (step s o) c k = (absStep s o).m c k :=
  congrFun (congrFun (congrArg Spec.m (abs_step h o)) c) k

theorem mem_evOf_sweep {s : St} (h : WF s) (c c' : Class) (k : Key) (v : Val) :
    (c', k, v) ∈ evOf s (.sweep c) ↔ c' = c ∧ ∃ e, look s c k = some ⟨v, e⟩ ∧ e < s.now := by
  rw [evOf]
  cases hget : get s.caches c with
  | none =>
    rw [look_of_none hget]
    exact ⟨fun hm => (nomatch hm), fun ⟨_, _, he, _⟩ => (nomatch he)⟩
  | some ca =>
    have h3 := (h c ca hget).nodup
    simp only [look_of_get hget, List.mem_map, List.mem_filter, ← mem_iff_get h3]
    constructor
    · rintro ⟨⟨k0, it⟩, ⟨hm, hexp⟩, heq⟩
      cases heq
      exact ⟨rfl, it.expires, hm, of_decide_eq_true hexp⟩
    · rintro ⟨rfl, e, hm, hlt⟩
      exact ⟨(k, ⟨v, e⟩), ⟨hm, decide_eq_true hlt⟩, rfl⟩

theorem nodup_evOf {s : St} (h : WF s) (o : Op) : (evOf s o).Nodup := by
  cases o with
  | delete c k => rw [evOf]; cases look s c k <;> simp
  | sweep c =>
    rw [evOf]
    cases hget : get s.caches c with
    | none => exact List.nodup_nil
    | some ca =>
      exact List.pairwise_map.2 ((List.pairwise_map.1 (nodup_filter _ (h c ca hget).nodup)).imp
        fun hne e => hne (congrArg (·.2.1) e))
  | _ => exact List.nodup_nil

end EgoVerif.C28
