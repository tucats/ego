import EgoVerif.C28.Step
/-
C28 — the property theorems: the specification (a keyed map with deadlines), the refinement, and its
consequences for whole histories.  They rest on `Step` (invariant, and `step_spec`: what one operation does)
and through it on `Lemmas` (association lists).
-/
namespace EgoVerif.C28

/-- `n` is the number of keys bound by `f` -/
def CardIs (f : Key → Option Item) (n : Nat) : Prop :=
  ∃ l : List Key, l.Nodup ∧ (∀ k, k ∈ l ↔ (f k).isSome) ∧ l.length = n

/-- one step of the specification; `ev` = the reports made to the eviction listener.
`purge` leaves `life` alone: a configured lifetime survives a purge by definition here. -/
def SpecStep (sp : Spec) (o : Op) (res : Out) (ev : List (Class × Key × Val)) (sp' : Spec) : Prop :=
  match o with
  | .add c k v =>
    res = .none ∧ ev = [] ∧
    ((((sp.m c k).isSome ∨ ∃ n, CardIs (sp.m c) n ∧ n < sp.limit) ∧
        sp' = { sp with m := fun c' k' => if c' = c ∧ k' = k then some ⟨v, sp.now + sp.life c⟩ else sp.m c' k' })
     ∨ ((sp.m c k = none ∧ ∃ n, CardIs (sp.m c) n ∧ sp.limit ≤ n) ∧ sp' = sp))
  | .find c k =>
    res = .val ((sp.m c k).map (·.val)) ∧ ev = [] ∧
    sp' = { sp with m := fun c' k' =>
      if c' = c ∧ k' = k then (sp.m c k).map (fun it => { it with expires := sp.now + sp.life c }) else sp.m c' k' }
  | .delete c k =>
    res = .flag (sp.m c k).isSome ∧
    ev = (match sp.m c k with | some it => [(c, k, it.val)] | none => []) ∧
    sp' = { sp with m := fun c' k' => if c' = c ∧ k' = k then none else sp.m c' k' }
  | .purge c =>
    res = .none ∧ ev = [] ∧ sp' = { sp with m := fun c' k' => if c' = c then none else sp.m c' k' }
  | .purgeLocal c =>
    res = .none ∧ ev = [] ∧ sp' = { sp with m := fun c' k' => if c' = c then none else sp.m c' k' }
  | .setExpiration c (some d) =>
    res = .flag true ∧ ev = [] ∧ sp' = { sp with life := fun c' => if c' = c then d else sp.life c' }
  | .setExpiration _ none => res = .flag false ∧ ev = [] ∧ sp' = sp
  | .sweep c =>
    res = .none ∧ ev.Nodup ∧
    (∀ c' k v, (c', k, v) ∈ ev ↔ c' = c ∧ ∃ e, sp.m c k = some ⟨v, e⟩ ∧ e < sp.now) ∧
    sp' = { sp with m := fun c' k' =>
      if c' = c then (sp.m c k').bind (fun it => if it.expires < sp.now then none else some it) else sp.m c' k' }
  | .tick => res = .none ∧ ev = [] ∧ sp' = { sp with now := sp.now + 1 }

theorem cardIs_size {s : St} (h : WF s) (c : Class) : CardIs (look s c) (size s c) :=
  ⟨keys (recOf s c).items, (Good_rec h c).nodup, fun k => by rw [look_rec, mem_keys],
    by rw [size_rec, keys, List.length_map]⟩

theorem size_le {s : St} (h : WF s) (c : Class) : size s c ≤ s.maxCacheSize := by
  rw [size_rec, ← (Good_rec h c).maxSize_eq]; exact (Good_rec h c).length_le

theorem findOut_eq (s : St) (c : Class) (k : Key) : findOut s c k = (look s c k).map (·.val) := by
  unfold findOut look; cases get s.caches c <;> rfl

theorem deleteOut_eq (s : St) (c : Class) (k : Key) : deleteOut s c k = (look s c k).isSome := by
  unfold deleteOut look; cases get s.caches c <;> rfl

/-- **Refinement, one step.**  From any state satisfying the invariant, every operation of the
model is a step of the specification between the abstracted states, with the same result and
the same reports to the eviction listener. -/
theorem C28_refines {s : St} (h : WF s) (o : Op) :
    (step s o).evicted = s.evicted ++ evOf s o ∧
    SpecStep (abs s) o (out s o) (evOf s o) (abs (step s o)) := by
  refine ⟨(step_spec h o).2, ?_⟩
  rw [abs_step h o]
  cases o with
  | add c k v =>
    refine ⟨rfl, rfl, ?_⟩
    by_cases hacc : (look s c k).isSome ∨ size s c < s.maxCacheSize
    · refine Or.inl ⟨hacc.imp_right fun hlt => ⟨size s c, cardIs_size h c, hlt⟩, ?_⟩
      simp only [absStep, if_pos hacc]; rfl
    · have hnone : look s c k = none := Option.not_isSome_iff_eq_none.1 fun hp => hacc (Or.inl hp)
      refine Or.inr ⟨⟨hnone, size s c, cardIs_size h c, Nat.le_of_not_lt fun hlt => hacc (Or.inr hlt)⟩, ?_⟩
      simp only [absStep, if_neg hacc, ← look_miss hnone]; rfl
  | find c k => exact ⟨congrArg Out.val (findOut_eq s c k), rfl, rfl⟩
  | delete c k => exact ⟨congrArg Out.flag (deleteOut_eq s c k), rfl, rfl⟩
  | setExpiration c d => cases d <;> exact ⟨rfl, rfl, rfl⟩
  | sweep c => exact ⟨rfl, nodup_evOf h _, fun c' k v => mem_evOf_sweep h c c' k v, rfl⟩
  | purge c | purgeLocal c | tick => exact ⟨rfl, rfl, rfl⟩

theorem run_append (s : St) (a b : List Op) : run s (a ++ b) = run (run s a) b := by
  induction a generalizing s with
  | nil => rfl
  | cons o r ih => exact ih (step s o)

def outs (s : St) : List Op → List Out
  | [] => []
  | o :: r => out s o :: outs (step s o) r

inductive SpecRun : Spec → List Op → List Out → List (Class × Key × Val) → Spec → Prop
  | nil (sp : Spec) : SpecRun sp [] [] [] sp
  | cons {sp sp' sp'' : Spec} {o : Op} {res : Out} {ev evs : List (Class × Key × Val)} {ops : List Op}
      {ress : List Out} : SpecStep sp o res ev sp' → SpecRun sp' ops ress evs sp'' →
      SpecRun sp (o :: ops) (res :: ress) (ev ++ evs) sp''

theorem refines_run_from {s : St} (h : WF s) (ops : List Op) :
    ∃ evs, SpecRun (abs s) ops (outs s ops) evs (abs (run s ops)) ∧ (run s ops).evicted = s.evicted ++ evs := by
  induction ops generalizing s with
  | nil => exact ⟨[], SpecRun.nil _, by simp [run]⟩
  | cons o r ih =>
    obtain ⟨evs, hr, he⟩ := ih (WF_step h o)
    obtain ⟨h1, h2⟩ := C28_refines h o
    exact ⟨evOf s o ++ evs, SpecRun.cons h2 hr, by simp [run, he, h1, List.append_assoc]⟩

/-- **Refinement, every history.**  For every size limit and every list of operations, the model's
results and its eviction log are those of a run of the keyed-map-with-deadlines specification, and
the final states correspond. -/
theorem C28_refines_run (max : Nat) (ops : List Op) :
    ∃ evs, SpecRun (abs (init max)) ops (outs (init max) ops) evs (abs (run (init max) ops)) ∧
      (run (init max) ops).evicted = evs := by
  obtain ⟨evs, h1, h2⟩ := refines_run_from (WF_init max) ops
  exact ⟨evs, h1, by simpa [init] using h2⟩

theorem step_max {s : St} (h : WF s) (o : Op) : (step s o).maxCacheSize = s.maxCacheSize :=
  (congrArg Spec.limit (abs_step h o)).trans (by
    cases o with
    | setExpiration c d => cases d <;> rfl
    | _ => rfl)

theorem run_max {s : St} (h : WF s) (ops : List Op) : (run s ops).maxCacheSize = s.maxCacheSize := by
  induction ops generalizing s with
  | nil => rfl
  | cons o r ih => exact (ih (WF_step h o)).trans (step_max h o)

/-- **Bounded.**  After every history every cache holds distinct keys, at most `max` of them
(`max` = MaxCacheSize), and the specification-level cardinality of the class is at most `max`. -/
theorem C28_bounded (max : Nat) (ops : List Op) (c : Class) :
    (∀ ca, get (run (init max) ops).caches c = some ca →
      NodupKeys ca.items ∧ ca.items.length ≤ max ∧ ca.maxSize = max) ∧
    ∃ n, CardIs ((abs (run (init max) ops)).m c) n ∧ n ≤ max := by
  have hwf := WF_run (WF_init max) ops
  have hm : (run (init max) ops).maxCacheSize = max := run_max (WF_init max) ops
  refine ⟨fun ca hget => ?_, size _ c, cardIs_size hwf c, by have := size_le hwf c; omega⟩
  obtain ⟨h1, _, h3, h4⟩ := hwf c ca hget
  exact ⟨h3, by omega, by omega⟩

/-- the operations that overwrite or remove the entry (class `c`, key `k`) -/
def touches (c : Class) (k : Key) : Op → Bool
  | .add c' k' _ => c' == c && k' == k
  | .delete c' k' => c' == c && k' == k
  | .purge c' => c' == c
  | .purgeLocal c' => c' == c
  | _ => false

theorem touches_cases {c : Class} {k : Key} {o : Op} (ht : touches c k o = true) :
    (∃ v, o = .add c k v) ∨ o = .delete c k ∨ o = .purge c ∨ o = .purgeLocal c := by
  cases o with
  | add c' k' v =>
    obtain ⟨h1, h2⟩ := Bool.and_eq_true_iff.1 ht
    exact Or.inl ⟨v, by rw [eq_of_beq h1, eq_of_beq h2]⟩
  | delete c' k' =>
    obtain ⟨h1, h2⟩ := Bool.and_eq_true_iff.1 ht
    exact Or.inr (Or.inl (by rw [eq_of_beq h1, eq_of_beq h2]))
  | purge c' => exact Or.inr (Or.inr (Or.inl (by rw [eq_of_beq ht])))
  | purgeLocal c' => exact Or.inr (Or.inr (Or.inr (by rw [eq_of_beq ht])))
  | _ => cases ht

theorem not_and_of_beq_false {a a' b b' : Nat} (h : (a' == a && b' == b) = false) : ¬ (a = a' ∧ b = b') := by
  rintro ⟨rfl, rfl⟩
  simp at h

theorem look_add_self {s : St} (h : WF s) (c : Class) (k : Key) (v : Val) :
    look (step s (.add c k v)) c k =
      if (look s c k).isSome ∨ size s c < s.maxCacheSize then some ⟨v, s.now + lifeOf s c⟩ else none :=
  (look_step h _ c k).trans (if_pos ⟨rfl, rfl⟩)

theorem look_sweep_self {s : St} (h : WF s) (c : Class) (k : Key) :
    look (step s (.sweep c)) c k = (look s c k).bind (fun it => if it.expires < s.now then none else some it) :=
  (look_step h _ c k).trans (if_pos rfl)

theorem look_step_removed {s : St} (h : WF s) {o : Op} {c : Class} {k : Key}
    (hrem : o = .delete c k ∨ o = .purge c ∨ o = .purgeLocal c) : look (step s o) c k = none := by
  rw [look_step h]
  rcases hrem with rfl | rfl | rfl
  · exact if_pos ⟨rfl, rfl⟩
  · exact if_pos rfl
  · exact if_pos rfl

theorem findOut_step_untouched {s : St} (h : WF s) {o : Op} {c : Class} {k : Key} (ht : touches c k o = false) :
    findOut (step s o) c k = findOut s c k ∨ (o = .sweep c ∧ findOut (step s o) c k = none) := by
  rw [findOut_eq, findOut_eq, look_step h]
  cases o with
  | add c' k' v | delete c' k' => exact Or.inl (congrArg _ (if_neg (not_and_of_beq_false ht)))
  | find c' k' =>
    refine Or.inl ?_
    by_cases hc : c = c' ∧ k = k'
    · rw [hc.1, hc.2]; exact (congrArg _ (if_pos ⟨rfl, rfl⟩)).trans (Option.map_map ..)
    · exact congrArg _ (if_neg hc)
  | purge c' | purgeLocal c' => exact Or.inl (congrArg _ (if_neg (Ne.symm (ne_of_beq_false ht))))
  | sweep c' =>
    by_cases hc : c = c'
    · subst hc
      rw [← look_step h, look_sweep_self h]
      cases look s c k with
      | none => exact Or.inl rfl
      | some it =>
        rw [Option.bind_some]
        by_cases hlt : it.expires < s.now
        · rw [if_pos hlt]; exact Or.inr ⟨rfl, rfl⟩
        · rw [if_neg hlt]; exact Or.inl rfl
    · exact Or.inl (congrArg _ (if_neg hc))
  | setExpiration c' d => cases d <;> exact Or.inl rfl
  | tick => exact Or.inl rfl

theorem findOut_step_some {s : St} (h : WF s) {o : Op} {c : Class} {k : Key} {v : Val}
    (hl : findOut (step s o) c k = some v) :
    o = .add c k v ∨ (touches c k o = false ∧ findOut s c k = some v) := by
  cases ht : touches c k o with
  | false =>
    rcases findOut_step_untouched h ht with e | ⟨_, e⟩
    · exact Or.inr ⟨rfl, e ▸ hl⟩
    · rw [e] at hl; cases hl
  | true =>
    rw [findOut_eq] at hl
    rcases touches_cases ht with ⟨v', rfl⟩ | hrem
    · rw [look_add_self h] at hl
      by_cases hacc : (look s c k).isSome ∨ size s c < s.maxCacheSize
      · rw [if_pos hacc] at hl; cases hl; exact Or.inl rfl
      · rw [if_neg hacc] at hl; cases hl
    · rw [look_step_removed h hrem] at hl; cases hl

theorem find_latest_aux {s : St} (h : WF s) (ops : List Op) (c : Class) (k : Key) (v : Val)
    (hl : findOut (run s ops) c k = some v) :
    (findOut s c k = some v ∧ ∀ o ∈ ops, touches c k o = false) ∨
    (∃ pre post, ops = pre ++ Op.add c k v :: post ∧ ∀ o ∈ post, touches c k o = false) := by
  induction ops generalizing s with
  | nil => exact Or.inl ⟨hl, fun _ ho => nomatch ho⟩
  | cons o r ih =>
    rcases ih (WF_step h o) hl with ⟨h1, hr⟩ | ⟨pre, post, he, hp⟩
    · rcases findOut_step_some h h1 with hadd | ⟨ht, h0⟩
      · exact Or.inr ⟨[], r, by rw [hadd]; rfl, hr⟩
      · exact Or.inl ⟨h0, List.forall_mem_cons.2 ⟨ht, hr⟩⟩
    · exact Or.inr ⟨o :: pre, post, by rw [he]; rfl, hp⟩

/-- **Find returns the latest stored value.**  If, after any history, `Find(c, k)` answers `v`, then
the history contains an `Add(c, k, v)` after which that key was not stored again, deleted, or its
class purged. -/
theorem C28_find_latest (max : Nat) (ops : List Op) (c : Class) (k : Key) (v : Val)
    (hf : findOut (run (init max) ops) c k = some v) :
    ∃ pre post, ops = pre ++ Op.add c k v :: post ∧ ∀ o ∈ post, touches c k o = false := by
  rcases find_latest_aux (WF_init max) ops c k v hf with ⟨h0, _⟩ | hright
  · cases h0
  · exact hright

theorem none_preserved {s : St} (h : WF s) (post : List Op) (c : Class) (k : Key) (hl : findOut s c k = none)
    (hno : ∀ o ∈ post, ∀ v, o ≠ .add c k v) : findOut (run s post) c k = none := by
  cases hs : findOut (run s post) c k with
  | none => rfl
  | some v =>
    rcases find_latest_aux h post c k v hs with ⟨h0, _⟩ | ⟨pre, r, rfl, _⟩
    · rw [hl] at h0; cases h0
    · exact absurd rfl (hno _ (List.mem_append_right _ (List.mem_cons_self ..)) v)

/-- **Never a value after its removal.**  After `Delete(c, k)`, `Purge(c)` or `PurgeLocal(c)`, `Find(c, k)`
misses until the key is stored again — whatever else happens in between. -/
theorem C28_no_value_after_removal (max : Nat) (pre post : List Op) (o : Op) (c : Class) (k : Key)
    (hrem : o = .delete c k ∨ o = .purge c ∨ o = .purgeLocal c)
    (hno : ∀ o' ∈ post, ∀ v, o' ≠ .add c k v) :
    findOut (run (init max) (pre ++ o :: post)) c k = none := by
  rw [run_append]
  refine none_preserved (WF_step (WF_run (WF_init max) pre) o) post c k ?_ hno
  rw [findOut_eq, look_step_removed (WF_run (WF_init max) pre) hrem]; rfl

theorem findOut_run_untouched {s : St} (h : WF s) (post : List Op) (c : Class) (k : Key)
    (hp : ∀ o ∈ post, touches c k o = false ∧ o ≠ .sweep c) : findOut (run s post) c k = findOut s c k := by
  induction post generalizing s with
  | nil => rfl
  | cons o r ih =>
    obtain ⟨h1, h2⟩ := hp o (List.mem_cons_self ..)
    exact (ih (WF_step h o) fun o' ho' => hp o' (List.mem_cons_of_mem _ ho')).trans
      ((findOut_step_untouched h h1).resolve_right fun e => h2 e.1)

/-- **A stored value is found.**  An `Add(c, k, v)` that finds the key present or the class below its
limit is answered by `Find(c, k) = v` for as long as the key is not stored again, deleted, its class
purged, or its class swept (the only operation that removes by expiry). -/
theorem C28_find_present (max : Nat) (pre post : List Op) (c : Class) (k : Key) (v : Val)
    (hacc : (look (run (init max) pre) c k).isSome ∨ size (run (init max) pre) c < max)
    (hp : ∀ o ∈ post, touches c k o = false ∧ o ≠ .sweep c) :
    findOut (run (init max) (pre ++ Op.add c k v :: post)) c k = some v := by
  rw [run_append]
  have hwf := WF_run (WF_init max) pre
  refine (findOut_run_untouched (WF_step hwf _) post c k hp).trans ?_
  rw [findOut_eq, look_add_self hwf, if_pos (by rw [run_max (WF_init max)]; exact hacc)]; rfl

/-- **Reported ⇒ removed, once.**  In any reachable step, the reports are pairwise distinct, at most
one per (class, key); each reported (class, key, value) was stored with that value before the step
and is gone after it, and the step was a `Delete` of that key or a sweep of that class in which the
entry's deadline had passed. -/
theorem C28_evict_once {s : St} (h : WF s) (o : Op) :
    (evOf s o).Nodup ∧
    (∀ c k v v', (c, k, v) ∈ evOf s o → (c, k, v') ∈ evOf s o → v = v') ∧
    ∀ c k v, (c, k, v) ∈ evOf s o →
      (∃ e, look s c k = some ⟨v, e⟩ ∧ (o = .delete c k ∨ (o = .sweep c ∧ e < s.now))) ∧
      look (step s o) c k = none := by
  -- two reports for one (class, key) both name the value stored there, so uniqueness follows from the last part
  refine ⟨nodup_evOf h o, (and_iff_right_of_imp fun key c k v v' h1 h2 => ?_).2 fun c k v hm => ?_⟩
  · obtain ⟨⟨e, he, _⟩, _⟩ := key c k v h1
    obtain ⟨⟨e', he', _⟩, _⟩ := key c k v' h2
    rw [he] at he'
    cases he'; rfl
  cases o with
  | delete c' k' =>
    rw [evOf] at hm
    cases hl : look s c' k' with
    | none => rw [hl] at hm; cases hm
    | some it =>
      rw [hl] at hm
      cases List.mem_singleton.1 hm
      exact ⟨⟨it.expires, hl, Or.inl rfl⟩, look_step_removed h (Or.inl rfl)⟩
  | sweep c' =>
    obtain ⟨rfl, e, he, hlt⟩ := (mem_evOf_sweep h c' c k v).1 hm
    refine ⟨⟨e, he, Or.inr ⟨rfl, hlt⟩⟩, ?_⟩
    rw [look_sweep_self h, he, Option.bind_some, if_pos hlt]
  | _ => cases hm

/-- **Removed by delete/expiry ⇒ reported.**  If an entry is stored before a reachable step and gone
after it, then the step purged its class, or the entry (with its value) is among the reports. -/
theorem C28_evict_complete {s : St} (h : WF s) (o : Op) (c : Class) (k : Key) (it : Item)
    (hl : look s c k = some it) (hgone : look (step s o) c k = none) :
    o = .purge c ∨ o = .purgeLocal c ∨ (c, k, it.val) ∈ evOf s o := by
  cases ht : touches c k o with
  | false =>
    -- only a sweep of the class removes an entry it does not touch, and it reports what it removes
    rcases findOut_step_untouched h ht with e | ⟨rfl, _⟩
    · rw [findOut_eq, findOut_eq, hl, hgone] at e; cases e
    · refine Or.inr (Or.inr ((mem_evOf_sweep h c c k it.val).2 ⟨rfl, it.expires, hl, ?_⟩))
      rw [look_sweep_self h, hl, Option.bind_some] at hgone
      by_cases hlt : it.expires < s.now
      · exact hlt
      · rw [if_neg hlt] at hgone; cases hgone
  | true =>
    rcases touches_cases ht with ⟨v, rfl⟩ | rfl | rfl | rfl
    · rw [look_add_self h, if_pos (Or.inl (by rw [hl]; rfl))] at hgone; cases hgone
    · refine Or.inr (Or.inr ?_)
      rw [evOf, hl]
      exact List.mem_singleton_self _
    · exact Or.inl rfl
    · exact Or.inr (Or.inl rfl)

/-- the lifetime a history configures: only a successful `SetExpiration` changes it — purges do not -/
def lifeStep (f : Class → Time) : Op → Class → Time
  | .setExpiration c (some d) => fun c' => if c' = c then d else f c'
  | _ => f

def lifeTrace (f : Class → Time) : List Op → Class → Time
  | [] => f
  | o :: r => lifeTrace (lifeStep f o) r

theorem lifeOf_step {s : St} (h : WF s) (o : Op) : lifeOf (step s o) = lifeStep (lifeOf s) o :=
  (congrArg Spec.life (abs_step h o)).trans (by
    cases o with
    | setExpiration c d => cases d <;> rfl
    | _ => rfl)

theorem lifeOf_run {s : St} (h : WF s) (ops : List Op) : lifeOf (run s ops) = lifeTrace (lifeOf s) ops := by
  induction ops generalizing s with
  | nil => rfl
  | cons o r ih => exact (ih (WF_step h o)).trans (congrArg (lifeTrace · r) (lifeOf_step h o))

/-- **Lifetime survives purge.**  After every history, an existing cache's expiration is the duration
of the last successful `SetExpiration` of its class in the history (60 s if there was none) — no
matter how often the class was purged and re-created since. -/
theorem C28_lifetime_survives_purge (max : Nat) (ops : List Op) (c : Class) (ca : Cache)
    (hget : get (run (init max) ops).caches c = some ca) :
    ca.expiration = lifeTrace (fun _ => defaultLife) ops c := by
  rw [(WF_run (WF_init max) ops c ca hget).expiration_eq, lifeOf_run (WF_init max)]
  rfl

/-- … and that is the lifetime every `Add` and every `Find` hit stamps on the entry. -/
theorem C28_deadline_uses_configured_lifetime (max : Nat) (ops : List Op) (c : Class) (k : Key) (it : Item) :
    (∀ v, look (step (run (init max) ops) (.add c k v)) c k = some it →
      it.val = v ∧ it.expires = (run (init max) ops).now + lifeTrace (fun _ => defaultLife) ops c) ∧
    (look (step (run (init max) ops) (.find c k)) c k = some it →
      it.expires = (run (init max) ops).now + lifeTrace (fun _ => defaultLife) ops c) := by
  have hwf := WF_run (WF_init max) ops
  have hlife : lifeOf (run (init max) ops) c = lifeTrace (fun _ => defaultLife) ops c :=
    congrFun (lifeOf_run (WF_init max) ops) c
  rw [← hlife]
  constructor
  · intro v hl
    cases (Option.ite_none_right_eq_some.1 ((look_add_self hwf c k v).symm.trans hl)).2
    exact ⟨rfl, rfl⟩
  · intro hl
    rw [look_step hwf] at hl
    obtain ⟨_, _, e⟩ := Option.map_eq_some_iff.1 ((if_pos ⟨rfl, rfl⟩).symm.trans hl)
    rw [← e]

/-- the witness of DESIGN.md §6 C28 (current tree), in the model of the repaired code: 1 h configured, purge, add,
130 s pass (two sweeps of the re-created cache) — the entry is still there -/
example : findOut (Sys.run (Sys.init 2) [.prim (.setExpiration 0 (some 3600)), .prim (.add 0 1 7),
    .prim (.purge 0), .prim (.add 0 1 8), .advance 130]).st 0 1 = some 8 := by decide +kernel

/-- without a configured lifetime the same entry is gone after two scans -/
example : findOut (Sys.run (Sys.init 2) [.prim (.add 0 1 7), .prim (.purge 0), .prim (.add 0 1 8),
    .advance 130]).st 0 1 = none := by decide +kernel

def isTimeOp : Op → Bool
  | .tick => true
  | .sweep _ => true
  | _ => false

theorem wakeList_run (l : List (Class × Time)) (s : St) :
    ∃ ops, (wakeList s l).1 = run s ops ∧ ∀ o ∈ ops, isTimeOp o = true := by
  induction l generalizing s with
  | nil => exact ⟨[], rfl, nofun⟩
  | cons p r ih =>
    obtain ⟨c, t⟩ := p
    rw [wakeList]
    by_cases ht : t ≤ s.now
    · obtain ⟨ops, h1, h2⟩ := ih (step s (.sweep c))
      exact ⟨.sweep c :: ops, by rw [if_pos ht]; exact h1, List.forall_mem_cons.2 ⟨rfl, h2⟩⟩
    · obtain ⟨ops, h1, h2⟩ := ih s
      exact ⟨ops, by rw [if_neg ht]; exact h1, h2⟩

theorem advance_run (d : Nat) (y : Sys) :
    ∃ ops, (Sys.advance d y).st = run y.st ops ∧ ∀ o ∈ ops, isTimeOp o = true := by
  induction d generalizing y with
  | zero => exact ⟨[], rfl, nofun⟩
  | succ n ih =>
    obtain ⟨ops2, h3, h4⟩ := ih y.second
    obtain ⟨ops1, h1, h2⟩ := wakeList_run y.sweepers (step y.st .tick)
    refine ⟨.tick :: (ops1 ++ ops2), ?_, List.forall_mem_cons.2 ⟨rfl, List.forall_mem_append.2 ⟨h2, h4⟩⟩⟩
    rw [Sys.advance, h3, run, run_append]
    exact congrArg (run · ops2) h1

theorem purgeEach_run (cs : List Class) (y : Sys) : ∃ ops, (Sys.purgeEach y cs).st = run y.st ops := by
  induction cs generalizing y with
  | nil => exact ⟨[], rfl⟩
  | cons c r ih =>
    obtain ⟨ops, h⟩ := ih (y.prim (.purge c))
    exact ⟨.purge c :: ops, by simpa [Sys.purgeEach, run, Sys.prim] using h⟩

/-- **The scheduler adds nothing.**  Whatever the sweeper goroutines do while the clock advances, and
whatever `PurgeAll` does, is a sequence of the basic operations (for a time advance: only `tick`s and
sweeps); every state the system with sweepers reaches is the state after some plain history, so what the
theorems above say of the state after every history holds of it. -/
theorem C28_sys_decomposes (max : Nat) (sops : List SOp) :
    (∀ (y : Sys) (d : Nat), ∃ ops, (y.step (.advance d)).st = run y.st ops ∧ ∀ o ∈ ops, isTimeOp o = true) ∧
    ∃ ops, (Sys.run (Sys.init max) sops).st = run (init max) ops := by
  refine ⟨fun y d => advance_run d y, ?_⟩
  have gen : ∀ (sops : List SOp) (y : Sys), ∃ ops, (Sys.run y sops).st = run y.st ops := by
    intro sops
    induction sops with
    | nil => exact fun y => ⟨[], rfl⟩
    | cons o r ih =>
      intro y
      obtain ⟨ops2, h2⟩ := ih (y.step o)
      have h1 : ∃ ops1, (y.step o).st = run y.st ops1 := by
        cases o with
        | prim p => exact ⟨[p], rfl⟩
        | advance d => obtain ⟨ops, h, _⟩ := advance_run d y; exact ⟨ops, h⟩
        | purgeAll => exact purgeEach_run _ y
      obtain ⟨ops1, h1⟩ := h1
      exact ⟨ops1 ++ ops2, by simp only [Sys.run, h2, h1, run_append]⟩
  exact gen sops (Sys.init max)

/-! ### Non-vacuity of the hypotheses used above -/

/-- `C28_find_present`: an accepted `Add` followed by operations that do not touch the key -/
example : findOut (run (init 1) ([Op.add 0 0 5] ++ Op.add 0 0 6 :: [Op.tick, Op.find 0 0, Op.add 0 1 9, Op.sweep 1])) 0 0
    = some 6 :=
  C28_find_present 1 [Op.add 0 0 5] [Op.tick, Op.find 0 0, Op.add 0 1 9, Op.sweep 1] 0 0 6 (by decide) (by decide)

/-- `C28_no_value_after_removal` -/
example : findOut (run (init 2) ([Op.add 0 0 5] ++ Op.purge 0 :: [Op.add 0 1 5, Op.tick])) 0 0 = none :=
  C28_no_value_after_removal 2 [Op.add 0 0 5] [Op.add 0 1 5, Op.tick] (Op.purge 0) 0 0 (by simp)
    (by intro o' ho' v; simp at ho'; rcases ho' with rfl | rfl <;> simp)

/-- `C28_evict_complete` / `C28_evict_once`: a sweep that really evicts -/
example : evOf (run (init 2) [Op.setExpiration 0 (some 0), Op.add 0 0 5, Op.tick]) (Op.sweep 0) = [(0, 0, 5)] := by decide

/-- capacity: the third key is refused, a replacement is not -/
example : (findOut (run (init 2) [Op.add 0 0 1, Op.add 0 1 2, Op.add 0 2 3, Op.add 0 1 9]) 0 2,
           findOut (run (init 2) [Op.add 0 0 1, Op.add 0 1 2, Op.add 0 2 3, Op.add 0 1 9]) 0 1) = (none, some 9) := by decide

/-- NOT PROVED (stated only): while a cache exists some sweeper goroutine of its class is due within
one scan interval, so an untouched entry is gone at most `scan` seconds after its deadline.  The
harness checks this on every generated history (class `expired-entry-outlived-scan`). -/
def C28_sweeper_alive_statement : Prop :=
  ∀ (max : Nat) (sops : List SOp) (c : Class),
    (get (Sys.run (Sys.init max) sops).st.caches c).isSome →
    ∃ t, (c, t) ∈ (Sys.run (Sys.init max) sops).sweepers ∧ t ≤ (Sys.run (Sys.init max) sops).st.now + scan

end EgoVerif.C28
