import EgoVerif.C28.Model
/-
C28 — the model's maps as association lists.  `get` is `List.find?` on the key and `del` a `List.filter`, so
`get` after `del`, `put` and `filter` comes from core's lemmas; then the keys of a list, and what distinct keys
give (`get` finds exactly the members).
-/
namespace EgoVerif.C28
section assoc
variable {α : Type}

theorem get_cons (k' : Nat) (v : α) (r : List (Nat × α)) (k : Nat) :
    get ((k', v) :: r) k = if k' = k then some v else get r k := rfl

theorem get_eq_find (m : List (Nat × α)) (k : Nat) : get m k = (m.find? (·.1 == k)).map (·.2) := by
  induction m with
  | nil => rfl
  | cons p r ih =>
    rw [get, List.find?_cons, ih]
    by_cases h : p.1 = k
    · rw [if_pos h, beq_iff_eq.2 h]; rfl
    · rw [if_neg h, beq_eq_false_iff_ne.2 h]

theorem get_del (m : List (Nat × α)) (k k' : Nat) : get (del m k) k' = if k' = k then none else get m k' := by
  rw [get_eq_find, get_eq_find, del, List.find?_filter]
  by_cases h : k' = k
  · simp [h]
  · rw [if_neg h]
    congr 2; funext a
    by_cases ha : a.1 = k' <;> simp [ha, h]

theorem get_put (m : List (Nat × α)) (k : Nat) (v : α) (k' : Nat) :
    get (put m k v) k' = if k' = k then some v else get m k' := by
  rw [put, get_cons, get_del]
  by_cases h : k' = k
  · simp [h]
  · simp [h, Ne.symm h]

theorem put_put (m : List (Nat × α)) (k : Nat) (a b : α) : put (put m k a) k b = put m k b := by
  simp [put, del, List.filter_filter]

theorem length_del_le (m : List (Nat × α)) (k : Nat) : (del m k).length ≤ m.length :=
  List.length_filter_le _ _

theorem length_del_lt (m : List (Nat × α)) {k : Nat} {v : α} (h : get m k = some v) : (del m k).length < m.length := by
  rw [get_eq_find, Option.map_eq_some_iff] at h
  obtain ⟨a, ha, _⟩ := h
  exact List.length_filter_lt_length_iff_exists.2 ⟨a, List.mem_of_find?_eq_some ha, by simpa using List.find?_some ha⟩

def keys (m : List (Nat × α)) : List Nat := m.map (·.1)

def NodupKeys (m : List (Nat × α)) : Prop := (keys m).Nodup

theorem mem_keys (m : List (Nat × α)) (k : Nat) : k ∈ keys m ↔ (get m k).isSome = true := by
  rw [get_eq_find, Option.isSome_map, List.find?_isSome, keys, List.mem_map]
  simp only [beq_iff_eq]

theorem get_eq_none {m : List (Nat × α)} {k : Nat} (h : k ∉ keys m) : get m k = none :=
  Option.not_isSome_iff_eq_none.1 (mt (mem_keys m k).2 h)

theorem nodup_filter {m : List (Nat × α)} (p : Nat × α → Bool) (h : NodupKeys m) : NodupKeys (m.filter p) :=
  h.sublist (List.filter_sublist.map _)

theorem nodup_del {m : List (Nat × α)} (k : Nat) (h : NodupKeys m) : NodupKeys (del m k) := nodup_filter _ h

theorem not_mem_keys_del (m : List (Nat × α)) (k : Nat) : k ∉ keys (del m k) := by
  rw [mem_keys, get_del, if_pos rfl]; exact Bool.false_ne_true

theorem nodup_put {m : List (Nat × α)} (k : Nat) (v : α) (h : NodupKeys m) : NodupKeys (put m k v) :=
  List.nodup_cons.2 ⟨not_mem_keys_del m k, nodup_del k h⟩

theorem del_eq_self (m : List (Nat × α)) {k : Nat} (h : get m k = none) : del m k = m := by
  rw [get_eq_find, Option.map_eq_none_iff, List.find?_eq_none] at h
  exact List.filter_eq_self.2 fun a ha => by simpa using h a ha

theorem mem_iff_get {m : List (Nat × α)} (h : NodupKeys m) (k : Nat) (v : α) :
    (k, v) ∈ m ↔ get m k = some v := by
  induction m with
  | nil => simp [get]
  | cons x r ih =>
    obtain ⟨k0, v0⟩ := x
    have hx : k0 ∉ keys r := (List.nodup_cons.1 h).1
    rw [List.mem_cons, ih (List.nodup_cons.1 h).2, get_cons]
    by_cases h0 : k0 = k
    · subst h0
      rw [if_pos rfl, get_eq_none hx]
      simp [eq_comm]
    · simp [h0, Ne.symm h0]

theorem get_filter {m : List (Nat × α)} (h : NodupKeys m) (p : Nat × α → Bool) (k : Nat) :
    get (m.filter p) k = (get m k).bind (fun v => if p (k, v) then some v else none) := by
  apply Option.ext; intro v
  simp only [← mem_iff_get (nodup_filter p h), List.mem_filter, mem_iff_get h, Option.bind_eq_some_iff,
    Option.ite_none_right_eq_some, Option.some.injEq]
  exact ⟨fun ⟨e, hp⟩ => ⟨v, e, hp, rfl⟩, fun ⟨a, e, hp, ea⟩ => ea ▸ ⟨e, hp⟩⟩

end assoc

/-- number of entries of class `c` (Go: `len(cache.Items)`, 0 without a record) -/
def size (s : St) (c : Class) : Nat :=
  match get s.caches c with
  | none => 0
  | some ca => ca.items.length

end EgoVerif.C28
