import EgoVerif.C01.Table
/-
C01 — the MiniGo machine under two dialects.  A run depends on the dialect only through the answers to the
requests it issues (`Along`); so dialects that agree, or of which one refines the other, on those requests give
the same run (`run_congr`, `run_refine`).  With the agreement table of Table.lean this is the refinement of Go by
Ego on the common subset, away from the known-divergent request classes (`KnownFree`); witness programs show
that the restriction is needed.
-/
namespace EgoVerif.C01

theorem iter_of_done (D : Dialect) (p : Prog) (s : St) (h : isDone s = true) : ∀ n, iter D p n s = s
  | 0 => rfl
  | n + 1 => by simp [iter, h]

theorem iter_add (D : Dialect) (p : Prog) :
    ∀ (n k : Nat) (s : St), iter D p (n + k) s = iter D p k (iter D p n s)
  | 0, k, s => by rw [Nat.zero_add]; rfl
  | n + 1, k, s => by
    rw [Nat.add_right_comm]
    by_cases hd : isDone s = true
    · simp only [iter, hd, if_true]
      exact (iter_of_done D p s hd k).symm
    · simp only [iter, hd, Bool.false_eq_true, if_false]
      exact iter_add D p n k _

theorem outcome_done {s : St} (h : (outcome s).end ≠ .outOfFuel) : isDone s = true := by
  unfold outcome at h
  unfold isDone
  split <;> simp_all

theorem run_fuel_mono (D : Dialect) (p : Prog) (f f' : Nat)
    (h : (run D p f).end ≠ .outOfFuel) (hle : f ≤ f') : run D p f' = run D p f := by
  obtain ⟨k, rfl⟩ := Nat.exists_eq_add_of_le hle
  unfold run at *
  rw [iter_add, iter_of_done D p _ (outcome_done h)]

/-- every request issued during the first `n` steps of `D`'s run from `s` satisfies `P` -/
def Along (D : Dialect) (p : Prog) (P : Req → Prop) : Nat → St → Prop
  | 0, _ => True
  | n + 1, s =>
    if isDone s then True
    else (match prestep p s with
          | .ask r _ => P r
          | .next _ => True) ∧ Along D p P n (step D p s)

theorem Along.of_done {D : Dialect} {p : Prog} {P : Req → Prop} {n : Nat} {s : St} (hd : isDone s = true) :
    Along D p P (n + 1) s := by
  unfold Along
  rw [if_pos hd]
  trivial

theorem Along.succ_iff {D : Dialect} {p : Prog} {P : Req → Prop} {n : Nat} {s : St} (hd : ¬isDone s = true) :
    Along D p P (n + 1) s ↔ (∀ r k, prestep p s = .ask r k → P r) ∧ Along D p P n (step D p s) := by
  rw [Along, if_neg hd]
  refine and_congr_left' ?_
  cases prestep p s with
  | next s' => exact ⟨fun _ _ _ h => (nomatch h), fun _ => trivial⟩
  | ask r k => exact ⟨fun h _ _ e => by cases e; exact h, fun h => h r k rfl⟩

theorem Along.imp {D : Dialect} {p : Prog} {P Q : Req → Prop}
    (h : ∀ {s r k}, prestep p s = .ask r k → P r → Q r) :
    ∀ (n : Nat) (s : St), Along D p P n s → Along D p Q n s := by
  intro n
  induction n with
  | zero => exact fun _ _ => trivial
  | succ n ih =>
    intro s ha
    by_cases hd : isDone s = true
    · exact .of_done hd
    · rw [Along.succ_iff hd] at ha ⊢
      exact ⟨fun r k hp => h hp (ha.1 r k hp), ih _ ha.2⟩

theorem step_congr {D1 D2 : Dialect} {p : Prog} {s : St}
    (h : ∀ r k, prestep p s = .ask r k → D1.apply r = D2.apply r) : step D2 p s = step D1 p s := by
  unfold step
  cases hp : prestep p s with
  | next s' => rfl
  | ask r k =>
    dsimp only
    rw [h r k hp]

theorem step_refine {D1 D2 : Dialect} {p : Prog} {s : St}
    (h : ∀ r k, prestep p s = .ask r k → Refines D1 D2 r) :
    step D2 p s = step D1 p s ∨ (step D1 p s).ctl = .done .stuck := by
  unfold step
  cases hp : prestep p s with
  | next s' => left; rfl
  | ask r k =>
    rcases h r k hp with h | h
    · right; simp [h]
    · left; simp [h]

theorem iter_follow {D1 D2 : Dialect} {p : Prog} {P : Req → Prop} {Q : St → Prop}
    (hQ : ∀ s, Q s → isDone s = true)
    (hstep : ∀ s, (∀ r k, prestep p s = .ask r k → P r) → step D2 p s = step D1 p s ∨ Q (step D1 p s)) :
    ∀ (n : Nat) (s : St), Along D1 p P n s → iter D2 p n s = iter D1 p n s ∨ Q (iter D1 p n s) := by
  intro n
  induction n with
  | zero => exact fun _ _ => .inl rfl
  | succ n ih =>
    intro s h
    by_cases hd : isDone s = true
    · left; simp [iter, hd]
    · rw [Along.succ_iff hd] at h
      simp only [iter, hd]
      rcases hstep s h.1 with e | e
      · rw [e]; exact ih _ h.2
      · right; rwa [iter_of_done D1 p _ (hQ _ e)]

theorem run_congr (D1 D2 : Dialect) (p : Prog) (f : Nat)
    (h : Along D1 p (fun r => D1.apply r = D2.apply r) f (init p)) : run D1 p f = run D2 p f := by
  unfold run
  rw [(iter_follow (Q := fun _ => False) (fun _ => False.elim) (fun _ h => .inl (step_congr h)) f _ h).resolve_right id]

theorem run_refine (D1 D2 : Dialect) (p : Prog) (f : Nat)
    (h : Along D1 p (Refines D1 D2) f (init p)) (hs : (run D1 p f).end ≠ .stuck) :
    run D2 p f = run D1 p f := by
  unfold run at *
  rcases iter_follow (Q := fun s => s.ctl = .done .stuck) (fun s e => by simp [isDone, e])
    (fun _ => step_refine) f _ h with e | e
  · rw [e]
  · simp [outcome, e] at hs

/-- Go's run of `p` with fuel `f` issues no request of a known-divergent class (decidable by running) -/
def KnownFree (m : Mode) (p : Prog) (f : Nat) : Prop :=
  Along goDialect p (fun r => r.known m = false) f (init p)

/-- general form: a run of Go on a program of the common subset that issues no known-divergent request and does
    not get stuck is reproduced by Ego, in every mode -/
theorem C01_refines_go_general (m : Mode) (p : Prog) (f : Nat) (hp : InCommonSubset p)
    (hk : KnownFree m p f) (hs : (run goDialect p f).end ≠ .stuck) :
    run (egoDialect m) p f = run goDialect p f :=
  -- a program of the common subset issues common requests only; outside the known classes the table applies
  run_refine goDialect (egoDialect m) p f
    (Along.imp (fun hs hr => C01_ego_refines_go m _ (prestep_common hp hs) hr) f (init p) hk) hs

/-- C01 (finished runs), with the known-divergent request classes excluded:
    a program of the common subset that Go runs to completion with output `out` is run to
    completion by Ego with the same output, in every type mode. -/
theorem C01_refines_go_partial (p : Prog) (f : Nat) (out : List Str) (hp : InCommonSubset p)
    (hk : ∀ m, KnownFree m p f) (hr : run goDialect p f = ⟨out, .finished⟩) :
    ∀ m : Mode, run (egoDialect m) p f = ⟨out, .finished⟩ := by
  intro m
  rw [C01_refines_go_general m p f hp (hk m) (by rw [hr]; simp), hr]

/-- C01 (aborting runs), under the same restrictions: where Go aborts (÷0, index out of range, unrecovered panic with message
    `msg`) after printing `out`, Ego aborts in the same way after the same output. -/
theorem C01_refines_go_abort_partial (p : Prog) (f : Nat) (out : List Str) (k : AbortKind) (msg : Str)
    (hp : InCommonSubset p) (hk : ∀ m, KnownFree m p f)
    (hr : run goDialect p f = ⟨out, .aborted k msg⟩) :
    ∀ m : Mode, run (egoDialect m) p f = ⟨out, .aborted k msg⟩ := by
  intro m
  rw [C01_refines_go_general m p f hp (hk m) (by rw [hr]; simp), hr]

/-- and the result does not depend on the fuel once Go's run has ended -/
theorem C01_refines_go_any_fuel (p : Prog) (f f' : Nat) (out : List Str) (hp : InCommonSubset p)
    (hk : ∀ m, KnownFree m p f) (hr : run goDialect p f = ⟨out, .finished⟩) (hle : f ≤ f') :
    ∀ m : Mode, run (egoDialect m) p f' = ⟨out, .finished⟩ := by
  intro m
  have h := C01_refines_go_partial p f out hp hk hr m
  rw [run_fuel_mono (egoDialect m) p f f' (by rw [h]; simp) hle, h]

/-! ### the full statement is false on the current tree: witnesses -/

/-- `func f0(a int) int { Println(a); return a }; func f1() (int, int) { return f0(1), f0(2) };
    func main() { f1() }` -/
def cexRet : Prog :=
  { nodes := [.var 1, .op .println [0], .var 1, .op .ret [2], .seq [1, 3],
              .lit 1, .op (.call 0) [5], .lit 2, .op (.call 0) [7], .op .ret [6, 8], .seq [9],
              .op (.call 1) [], .op .drop [11], .seq [12]],
    funcs := [{ params := [(1, some .int)], results := [(2, .int .int 0)], named := false, body := 4 },
              { params := [], results := [(3, .int .int 0), (4, .int .int 0)], named := false, body := 10 },
              { params := [], results := [], named := false, body := 13 }],
    main := 2 }

/-- `func main() { defer Println("bye"); z := 0; Println(10 / z) }` -/
def cexFault : Prog :=
  { nodes := [.slit [98, 121, 101], .op (.defer .println) [0], .lit 0, .op (.decl 1 none) [2],
              .lit 10, .var 1, .op (.bin .div) [4, 5], .op .println [6], .seq [1, 3, 7]],
    funcs := [{ params := [], results := [], named := false, body := 8 }],
    main := 0 }

/-- finished runs: Go prints 1 then 2, Ego (every mode) prints 2 then 1 -/
theorem C01_refines_go_counterexample :
    InCommonSubset cexRet ∧ run goDialect cexRet 100 = ⟨[[49, 10], [50, 10]], .finished⟩ ∧
    ∀ m : Mode, run (egoDialect m) cexRet 100 = ⟨[[50, 10], [49, 10]], .finished⟩ := by
  refine ⟨by decide +kernel, by decide +kernel, ?_⟩
  intro m; cases m <;> decide +kernel

/-- aborting runs: Go runs the deferred call before dying of ÷0, Ego does not -/
theorem C01_refines_go_abort_counterexample :
    InCommonSubset cexFault ∧ run goDialect cexFault 100 = ⟨[[98, 121, 101, 10]], .aborted .divZero []⟩ ∧
    ∀ m : Mode, run (egoDialect m) cexFault 100 = ⟨[], .aborted .divZero []⟩ := by
  refine ⟨by decide +kernel, by decide +kernel, ?_⟩
  intro m; cases m <;> decide +kernel

/-! ### non-vacuity: the hypotheses of the partial theorems are met by programs with real work -/

/-- `func main() { var x int8 = 127; x++; Println(x); for i := 0; i < 2; i++ { Println(i * 3) } }` -/
def okProg : Prog :=
  { nodes := [.lit 127, .op (.decl 1 (some .int8)) [0], .op (.incdec 1 true) [], .var 1, .op .println [3],
              .lit 0, .op (.decl 2 none) [5], .var 2, .lit 2, .op (.bin .lt) [7, 8], .op (.incdec 2 true) [],
              .var 2, .lit 3, .op (.bin .mul) [11, 12], .op .println [13], .seq [14],
              .loop 1 6 9 10 15 [2], .seq [1, 2, 4, 16]],
    funcs := [{ params := [], results := [], named := false, body := 17 }],
    main := 0 }

/-- executable form of `Along` (used to discharge `KnownFree` for concrete programs) -/
def alongB (D : Dialect) (p : Prog) (P : Req → Bool) : Nat → St → Bool
  | 0, _ => true
  | n + 1, s =>
    if isDone s then true
    else (match prestep p s with
          | .ask r _ => P r
          | .next _ => true) && alongB D p P n (step D p s)

theorem alongB_sound (D : Dialect) (p : Prog) (P : Req → Bool) :
    ∀ (n : Nat) (s : St), alongB D p P n s = true → Along D p (fun r => P r = true) n s := by
  intro n
  induction n with
  | zero => exact fun _ _ => trivial
  | succ n ih =>
    intro s h
    by_cases hd : isDone s = true
    · exact .of_done hd
    · rw [alongB, if_neg hd, Bool.and_eq_true] at h
      refine (Along.succ_iff hd).mpr ⟨fun r k hp => ?_, ih _ h.2⟩
      rw [hp] at h
      exact h.1

theorem knownFree_of_check (m : Mode) (p : Prog) (f : Nat)
    (h : alongB goDialect p (fun r => !r.known m) f (init p) = true) : KnownFree m p f :=
  Along.imp (fun _ hr => by simpa using hr) f (init p) (alongB_sound goDialect p _ f (init p) h)

example : InCommonSubset okProg := by decide +kernel
example : ∀ m, KnownFree m okProg 200 := fun m => knownFree_of_check _ _ _ (by cases m <;> decide +kernel)
example : run goDialect okProg 200 = ⟨[[45, 49, 50, 56, 10], [48, 10], [51, 10]], .finished⟩ := by
  decide +kernel

end EgoVerif.C01
