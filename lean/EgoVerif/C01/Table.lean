import EgoVerif.C01.Run
/-
C01 — the syntactic common subset and the dialect agreement table.
-/
namespace EgoVerif.C01

def Act.common : Act → Bool
  | .bin .xor => false            -- `^` is exponentiation in Ego
  | .opassign .xor _ => false     -- compound operators other than += -= *= /=
  | .un .strOfInt => false        -- string(int) is decimal in Ego
  | _ => true

def Node.common : Node → Bool
  | .op a _ => a.common
  | _ => true

/-- every node of the program table is a construct of the documented common subset -/
def InCommonSubset (p : Prog) : Prop := p.nodes.all Node.common = true

instance (p : Prog) : Decidable (InCommonSubset p) := by unfold InCommonSubset; infer_instance

def Req.common : Req → Bool
  | .bin .xor _ _ => false
  | .un .strOfInt _ => false
  | _ => true

theorem toReq_common {a : Act} (ha : a.common = true) (r : AReq) : (r.toReq a).common = true := by
  -- the operator of the request is the node's own, and `Act.common` excludes `^` and `string(int)`
  cases r with
  | bin x y =>
    cases a with
    | bin op =>
      cases op with
      | xor => cases ha
      | _ => rfl
    | opassign op v =>
      cases op with
      | xor => cases ha
      | _ => rfl
    | _ => rfl
  | un x =>
    cases a with
    | un op =>
      cases op with
      | strOfInt => cases ha
      | _ => rfl
    | _ => rfl
  | _ => rfl

theorem lift_common {x : Pending CReq} {r : Req} {k : Resp → St} (h : x.lift = .ask r k) :
    r.common = true := by
  cases x with
  | next s => cases h
  | ask c k' => cases h; rfl

theorem prestep_common {p : Prog} (hp : InCommonSubset p) {s : St} {r : Req} {k : Resp → St}
    (h : prestep p s = .ask r k) : r.common = true := by
  unfold prestep at h
  split at h
  · split at h
    · next a args hn =>
      have ha : (Node.op a args).common = true := List.all_eq_true.mp hp _ (List.mem_of_getElem? hn)
      split at h
      · cases h
      · cases h
        exact toReq_common ha _
    · cases h
  · exact lift_common h

/-- D₂ answers the request like D₁, unless D₁ is stuck on it ("Go would not compile this") -/
def Refines (D1 D2 : Dialect) (r : Req) : Prop := D1.apply r = .stuck ∨ D2.apply r = D1.apply r

theorem wrap_of_inRange {k : Kind} {c : Int} (h : inRange k c = true) : wrap k c = c := by
  simpa [inRange] using h

/-- Go accepts a constant for kind `k` only if it fits; it is then enough that Ego agrees on constants that fit -/
theorem fits_agree {k : Kind} {c : Int} {g e : Resp} (h : inRange k c = true → e = g) :
    (if inRange k c then g else .stuck) = .stuck ∨ e = (if inRange k c then g else .stuck) := by
  by_cases hr : inRange k c = true
  · right; rw [if_pos hr]; exact h hr
  · left; exact if_neg hr

/-- request classes on which the CURRENT Ego tree is known to answer differently from Go -/
def Req.known (m : Mode) : Req → Bool
  | .core (.quirk _) => true                    -- the four structural quirks
  | .bin _ (.cst _) (.cst _) => true            -- constant-expression operand: typed int by Ego
  | .core (.caseEq (.cst _) _) => true          -- (same family: switch on a constant)
  | .core (.arg (some k) (.cst c)) =>           -- strict mode: literal argument, narrower parameter
    m.isStrict && !(k == .int && inRange .int32 c)
  | .core (.store (.int k _) (.cst _)) =>       -- dynamic mode: `x = <literal>` re-types a non-int x
    m == .dynamic && k != .int
  | _ => false

theorem bin_agree (m : Mode) (op : BinOp) (a b : Val) (hk : Req.known m (.bin op a b) = false) :
    goBin op a b = .stuck ∨ egoBin m op a b = goBin op a b := by
  unfold goBin egoBin
  cases h : sameBin op a b with
  | some r => right; rfl
  | none =>
    -- operands of different sorts: Go accepts only a typed integer with a constant that fits its kind
    cases a with
    | int k x =>
      cases b with
      | cst c =>
        by_cases hr : inRange k c = true
        · by_cases hz : (isDivMod op && c == 0) = true
          · left; simp [hr, hz]
          · right; simp [hr, hz, wrap_of_inRange hr]
        · left; simp [hr]
      | _ => left; rfl
    | cst c =>
      cases b with
      | int k y => exact fits_agree fun hr => by simp [hr, wrap_of_inRange hr]
      | cst d => cases hk
      | _ => left; rfl
    | _ => left; rfl

theorem un_agree (op : UnOp) (a : Val) (hc : Req.common (.un op a) = true) :
    goUn op a = .stuck ∨ egoUn op a = goUn op a := by
  cases op with
  | strOfInt => cases hc
  | neg =>
    cases a with
    | int k x => right; rfl
    | cst c => right; rfl
    | _ => left; rfl
  | not =>
    cases a with
    | bool b => right; rfl
    | _ => left; rfl

theorem incr_agree (i : Bool) (a : Val) : goIncr i a = .stuck ∨ egoIncr i a = goIncr i a := by
  cases a <;> simp [goIncr, egoIncr]

theorem conv_agree (k : Kind) (a : Val) : goConv k a = .stuck ∨ egoConv k a = goConv k a := by
  cases a with
  | int _ x => right; rfl
  | cst c => exact fits_agree fun hr => by rw [egoConv, wrap_of_inRange hr]
  | _ => left; rfl

theorem store_agree (m : Mode) (o n : Val) (hk : Req.known m (.core (.store o n)) = false) :
    goStore o n = .stuck ∨ egoStore m o n = goStore o n := by
  unfold goStore egoStore
  cases o with
  | int k x =>
    cases n with
    | int k' y =>
      by_cases hkk : k = k'
      · right; simp [hkk]
      · left; simp [hkk]
    | cst c =>
      refine fits_agree fun hr => ?_
      cases m
      · -- dynamic mode re-types the variable unless it is an `int`
        have : k = .int := by simpa [Req.known] using hk
        subst this
        simp [wrap_of_inRange hr]
      · simp [wrap_of_inRange hr]
      · simp [hr]
    | _ => left; rfl
  | _ =>
    -- no integer variable: both dialects store a reference-like value into a reference-like variable,
    -- same-sort booleans and strings, and Go accepts nothing else
    cases n <;> first | (left; rfl) | (right; rfl)

theorem declare_agree (m : Mode) (k : Option Kind) (v : Val) :
    goDeclare k v = .stuck ∨ egoDeclare m k v = goDeclare k v := by
  cases k with
  | none =>
    cases v with
    | cst c => exact fits_agree fun hr => by rw [egoDeclare, wrap_of_inRange hr]
    | _ => right; rfl
  | some k =>
    cases v with
    | int k' x =>
      by_cases hk : k = k'
      · right; simp [goDeclare, egoDeclare, hk]
      · left; simp [goDeclare, hk]
    | cst c => exact fits_agree fun hr => by simp [egoDeclare, hr, wrap_of_inRange hr]
    | _ => left; rfl

theorem egoArg_eq (m : Mode) (k : Option Kind) (v : Val) (hk : Req.known m (.core (.arg k v)) = false) :
    egoArg m k v = egoDeclare m k v := by
  cases m with
  | strict =>
    cases k with
    | none => rfl
    | some k =>
      cases v with
      | cst c =>
        simp [Req.known, Mode.isStrict] at hk
        simp [egoArg, hk]
      | _ => rfl
  | _ => rfl

theorem arg_agree (m : Mode) (k : Option Kind) (v : Val)
    (hk : Req.known m (.core (.arg k v)) = false) :
    goDeclare k v = .stuck ∨ egoArg m k v = goDeclare k v := by
  rw [egoArg_eq m k v hk]
  exact declare_agree m k v

/-- THE AGREEMENT TABLE.  For every request of the common subset outside the known-divergent
    classes and for every type mode: either Go is stuck on it (the program would not compile —
    mixed kinds, overflowing constant) or Ego answers exactly like Go. -/
theorem C01_ego_refines_go (m : Mode) (r : Req) (hc : r.common = true) (hk : r.known m = false) :
    Refines goDialect (egoDialect m) r := by
  unfold Refines
  cases r with
  | bin op a b => exact bin_agree m op a b hk
  | un op a => exact un_agree op a hc
  | incr i a => exact incr_agree i a
  | conv k v => exact conv_agree k v
  | core c =>
    cases c with
    | caseEq v l =>
      have : Req.known m (.bin .eq v (.cst l)) = false := by
        cases v <;> simp_all [Req.known]
      exact bin_agree m .eq v (.cst l) this
    | store o n => exact store_agree m o n hk
    | declare k v => exact declare_agree m k v
    | arg k v => exact arg_agree m k v hk
    | quirk q => simp [Req.known] at hk

/-- the same-kind cells of the table, stated directly: no hypothesis other than equal kinds -/
theorem C01_binop_same_kind (m : Mode) (op : BinOp) (k : Kind) (x y : Int) :
    (egoDialect m).binop op (.int k x) (.int k y) = goDialect.binop op (.int k x) (.int k y) := by
  simp [egoDialect, goDialect, egoBin, goBin, sameBin]

theorem C01_unop_incr_same (m : Mode) (k : Kind) (x : Int) (i : Bool) :
    (egoDialect m).unop .neg (.int k x) = goDialect.unop .neg (.int k x) ∧
    (egoDialect m).incr i (.int k x) = goDialect.incr i (.int k x) ∧
    (egoDialect m).store (.int k x) (.int k x) = goDialect.store (.int k x) (.int k x) := by
  refine ⟨rfl, rfl, ?_⟩
  simp [egoDialect, goDialect, egoStore, goStore]

end EgoVerif.C01
