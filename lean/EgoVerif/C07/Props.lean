import EgoVerif.C07.Model
/-
C07 — panic-freedom of the indexing primitives (token cursor, VM value stack + call frames, data.Array) over
every call sequence with every operand (negative, huge, wrapping), by induction over the sequence with a bounds
invariant.  `Except.error` = a Go runtime panic; an out-of-range access reported as an Ego error is an
`Except.ok` result.  The proofs follow the text of the model with the rules of a small Hoare logic for
`Except Panic` (`Ok`); the bounds invariants only ever need the length of what Go's partial operations return.
-/
namespace EgoVerif.C07

def Ok {α : Type} (x : G α) (P : α → Prop) : Prop := ∃ r, x = .ok r ∧ P r

namespace Ok
variable {α β : Type} {P : α → Prop} {Q : β → Prop}

theorem pure {v : α} (h : P v) : Ok (.ok v) P := ⟨v, rfl, h⟩

theorem bind {x : G α} {f : α → G β} (hx : Ok x P) (hf : ∀ a, P a → Ok (f a) Q) : Ok (x >>= f) Q := by
  obtain ⟨a, rfl, ha⟩ := hx
  exact hf a ha

theorem ite {c : Prop} [Decidable c] {x y : G α} (hx : c → Ok x P) (hy : ¬c → Ok y P) :
    Ok (if c then x else y) P := by
  split
  · exact hx ‹_›
  · exact hy ‹_›

theorem mono {x : G α} {P' : α → Prop} (hx : Ok x P) (h : ∀ a, P a → P' a) : Ok x P' :=
  let ⟨r, hr, hp⟩ := hx; ⟨r, hr, h r hp⟩

theorem ex {x : G α} (h : Ok x P) : ∃ r, x = .ok r := let ⟨r, hr, _⟩ := h; ⟨r, hr⟩

theorem ne_error {x : G α} (h : ∃ r, x = .ok r) (p : Panic) : x ≠ .error p := by
  obtain ⟨r, rfl⟩ := h
  nofun

end Ok

/-- `runCursor`, `runStack` and `runArray` all fold a step function in `G`, collecting the outputs: each
    satisfies `nil` and `cons` by `rfl`. -/
theorem run_ok {σ ι ο : Type} {step : σ → ι → G (σ × ο)} {run : σ → List ι → G (σ × List ο)} {I : σ → Prop}
    (nil : ∀ s, run s [] = .ok (s, []))
    (cons : ∀ s i is, run s (i :: is) = do
      let r ← step s i
      let r' ← run r.1 is
      .ok (r'.1, r.2 :: r'.2))
    (hstep : ∀ s i, I s → Ok (step s i) fun r => I r.1) :
    ∀ is s, I s → Ok (run s is) fun r => I r.1
  | [], s, h => nil s ▸ .pure h
  | i :: is, s, h => cons s i is ▸
    (hstep s i h).bind fun r hr => (run_ok nil cons hstep is r.1 hr).bind fun _ hr' => .pure hr'

theorem idx_ok {α : Type} (l : List α) (i : Int) (h : 0 ≤ i ∧ i < l.length) : Ok (idx l i) fun _ => True := by
  have : i.toNat < l.length := by omega
  simp only [idx, h.1, if_true, List.getElem?_eq_getElem this]
  exact .pure trivial

theorem setIdx_ok {α : Type} (l : List α) (i : Int) (v : α) (h : 0 ≤ i ∧ i < l.length) :
    Ok (setIdx l i v) fun l' => l'.length = l.length :=
  .ite (fun _ => .pure (List.length_set ..)) (absurd h)

theorem slc_ok {α : Type} (l : List α) (lo hi : Int) (h : 0 ≤ lo ∧ lo ≤ hi ∧ hi ≤ l.length) :
    Ok (slc l lo hi) fun r => (r.length : Int) = hi - lo := by
  refine .ite (fun _ => .pure ?_) (absurd h)
  rw [List.length_drop, List.length_take, Nat.min_eq_left (Int.toNat_le.mpr h.2.2),
    Int.natCast_sub (Int.toNat_le_toNat h.2.1), Int.toNat_of_nonneg h.1, Int.toNat_of_nonneg (Int.le_trans h.1 h.2.1)]

/-! ### token cursor -/

def CInv (c : Cur) : Prop := 0 ≤ c.p ∧ c.p ≤ c.len

theorem CInv.of {toks : List Tok} {p : Int} (h : 0 ≤ p ∧ p ≤ toks.length) : CInv ⟨toks, p⟩ := h

/-- GetTokens clamps both ends of the range this way -/
theorem clamp_bounds {lo hi : Int} (x : Int) (h : lo ≤ hi) :
    lo ≤ (if x < lo then lo else if x > hi then hi else x) ∧
      (if x < lo then lo else if x > hi then hi else x) ≤ hi := by
  omega

theorem peekAt_ok (c : Cur) (k : Int) : Ok (peekAt c k) fun _ => True :=
  .ite (fun _ => .pure trivial) fun h =>
    have : c.len = (c.toks.length : Int) := rfl
    idx_ok _ _ (by omega)

theorem setMark_inv (c : Cur) (k : Int) : CInv (setMark c k) := by
  have : c.len = (c.toks.length : Int) := rfl
  unfold setMark
  split
  · exact .of (by omega)
  · split <;> exact .of (by omega)

/-- Advance clamps the wrapped sum exactly as Set clamps its operand -/
theorem advance_inv (c : Cur) (k : Int) : CInv (advance c k) := setMark_inv c (add64 c.p k)

theorem cstep_total (c : Cur) (op : COp) (h : CInv c) : Ok (cstep c op) fun r => CInv r.1 := by
  have hlen : c.len = (c.toks.length : Int) := rfl
  have ⟨hp0, hp1⟩ := h
  cases op with
  | next =>
    exact .ite (fun _ => .pure h) fun _ => (idx_ok c.toks c.p (by omega)).bind fun _ _ => .pure (.of (by omega))
  | peek k => exact (peekAt_ok c k).bind fun _ _ => .pure h
  | atEnd | mark => exact .pure h
  | advance k => exact .pure (advance_inv c k)
  | isNext t | anyNext ts =>
    exact (peekAt_ok c 1).bind fun _ _ => .ite (fun _ => .pure (advance_inv c 1)) fun _ => .pure h
  | eos => exact .ite (fun _ => .pure h) fun _ => (peekAt_ok c 1).bind fun _ _ => .pure h
  | line | col | rem =>
    exact .ite (fun _ => .pure h) fun _ => (idx_ok c.toks c.p (by omega)).bind fun _ _ => .pure h
  | set k => exact .pure (setMark_inv c k)
  | reset => exact .pure (.of (by omega))
  | delete a b =>
    refine .ite (fun _ => .pure h) fun hg => .ite (fun hc => absurd hc (by omega)) fun _ => ?_
    refine (slc_ok c.toks 0 a (by omega)).bind fun pre hpre => ?_
    refine (slc_ok c.toks b c.len (by omega)).bind fun post hpost => .pure (.of ?_)
    rw [List.length_append]
    omega
  | insert k ts =>
    refine .ite (fun _ => .pure h) fun hg => .ite (fun _ => .pure h) fun _ => ?_
    refine (slc_ok c.toks 0 k (by omega)).bind fun pre hpre => ?_
    refine (slc_ok c.toks k c.len (by omega)).bind fun post hpost => .pure (.of ?_)
    rw [List.length_append, List.length_append]
    omega
  | text a b => exact .ite (fun _ => .pure h) fun _ => (slc_ok c.toks _ _ (by omega)).bind fun _ _ => .pure h
  | toks a b =>
    have h1 := clamp_bounds a (Int.natCast_nonneg c.toks.length)
    exact (slc_ok c.toks _ _ ⟨h1.1, clamp_bounds b h1.2⟩).bind fun _ _ => .pure h

theorem runCursor_ok (ops : List COp) (c : Cur) (h : CInv c) : Ok (runCursor c ops) fun r => CInv r.1 :=
  run_ok (fun _ => rfl) (fun _ _ _ => rfl) cstep_total ops c h

/-- Every call sequence of the cursor primitives, over every token list, with every operand,
    ends without a Go panic. -/
theorem C07_cursor_total (toks : List Tok) (calls : List COp) :
    ∃ r, runCursor ⟨toks, 0⟩ calls = .ok r :=
  (runCursor_ok calls _ (.of (by omega))).ex

theorem C07_cursor_no_panic (toks : List Tok) (calls : List COp) (p : Panic) :
    runCursor ⟨toks, 0⟩ calls ≠ .error p :=
  Ok.ne_error (C07_cursor_total toks calls) p

/-! ### VM value stack and call frames -/

def SInv (s : Stk) : Prop := 0 ≤ s.sp ∧ s.sp ≤ s.stack.length

theorem SInv.of {st : List Val} {sp fp : Int} {r : Val} {rs : Bool} (h : 0 ≤ sp ∧ sp ≤ st.length) :
    SInv ⟨st, sp, fp, r, rs⟩ := h

theorem push_total (s : Stk) (v : Val) (h : SInv s) : Ok (push s v) SInv := by
  have ⟨h0, h1⟩ := h
  -- the stack grows by 50 exactly when `sp` has reached its length
  have hst : s.sp < ((if s.sp ≥ s.stack.length then s.stack ++ List.replicate 50 Val.nil else s.stack).length : Int) := by
    split
    · rw [List.length_append, List.length_replicate]; omega
    · omega
  exact (setIdx_ok _ s.sp v ⟨h0, hst⟩).bind fun st' hst' => .pure (.of (by omega))

theorem pop_total (s : Stk) (h : SInv s) : Ok (pop s) fun r => SInv r.1 := by
  have ⟨h0, h1⟩ := h
  exact .ite (fun _ => .pure h) fun _ => (idx_ok s.stack (s.sp - 1) (by omega)).bind fun _ _ =>
    (setIdx_ok s.stack (s.sp - 1) .nil (by omega)).bind fun st hst => .pure (.of (by omega))

theorem framePush_total (s : Stk) (h : SInv s) : Ok (framePush s) SInv :=
  (push_total s (.frame s.fp) h).bind fun _ h1 => .pure h1

/-- `SInv` does not mention `fp`, `result`, `resultSet`: restoring them keeps it. -/
theorem framePop_total (s : Stk) (h : SInv s) : Ok (framePop s) fun r => SInv r.1 := by
  have ⟨h0, h1⟩ := h
  have htop : 1 ≤ s.fp → Ok (topSlice s) fun _ => True := fun _ =>
    .ite (fun _ => (slc_ok s.stack s.fp s.sp (by omega)).mono fun _ _ => trivial) fun _ => .pure trivial
  refine .ite (fun _ => .pure h) fun hg => (htop (by omega)).bind fun top _ => ?_
  refine (pop_total { s with sp := s.fp } (.of (by omega))).bind ?_
  intro ⟨s', o⟩ hs'
  replace hs' : 0 ≤ s'.sp ∧ s'.sp ≤ s'.stack.length := hs'
  cases o with
  | none => exact .pure hs'
  | some v =>
    cases v with
    | frame f =>
      refine .ite (fun _ => ?_) fun _ => .ite (fun _ => ?_) fun _ => .pure hs'
      · refine (slc_ok s'.stack 0 s'.sp (by omega)).bind fun pre hpre => .pure (.of ?_)
        simp only [List.length_append]
        omega
      · exact (push_total { s' with fp := f } s'.result hs').bind fun _ h4 => .pure h4
    | _ => exact .pure hs'

theorem scanBelow_total (st : List Val) : ∀ n : Nat, n ≤ st.length → Ok (scanBelow st n) fun _ => True
  | 0, _ => .pure trivial
  | n + 1, hn => (idx_ok st n (by omega)).bind fun _ _ =>
    .ite (fun _ => .pure trivial) fun _ => scanBelow_total st n (by omega)

theorem dropN_total : ∀ (n : Nat) (s : Stk), SInv s → Ok (dropN s n) fun r => SInv r.1
  | 0, _, h => .pure h
  | n + 1, s, h => (pop_total s h).bind fun r hr =>
    match r, hr with
    | (_, none), hr => .pure hr
    | (s', some _), hr => dropN_total n s' hr

theorem checkStart_lt (s : Stk) (k : Int) : checkStart s k < s.stack.length := by
  simp only [checkStart]
  omega

theorem sstep_total (s : Stk) (op : SOp) (h : SInv s) : Ok (sstep s op) fun r => SInv r.1 := by
  cases op with
  | push v => exact (push_total s v h).bind fun _ h1 => .pure h1
  | pop =>
    refine (pop_total s h).bind ?_
    intro ⟨s', o⟩ hs'
    cases o <;> exact .pure hs'
  | framePush => exact (framePush_total s h).bind fun _ h1 => .pure h1
  | framePop => exact framePop_total s h
  | read k =>
    have ⟨_, _⟩ := h
    exact .ite (fun _ => .pure h) fun _ =>
      (idx_ok s.stack (s.sp - 1 - readIdx k) (by omega)).bind fun v _ =>
        (push_total s v h).bind fun _ h1 => .pure h1
  | check k =>
    have ⟨_, _⟩ := h
    have := checkStart_lt s k
    refine .ite (fun _ => .pure h) fun _ =>
      (scanBelow_total s.stack (checkStart s k + 1).toNat (by omega)).bind fun _ _ =>
        .ite (fun _ => .pure h) fun _ =>
          (idx_ok s.stack (s.sp - (k + 1)) (by omega)).bind fun _ _ =>
            .ite (fun _ => .pure h) fun _ => .pure h
  | drop n => exact dropN_total n.toNat s h
  | dup =>
    refine (pop_total s h).bind ?_
    intro ⟨s', o⟩ hs'
    cases o with
    | none => exact .pure hs'
    | some v =>
      exact (push_total s' v hs').bind fun s1 h1 => (push_total s1 v h1).bind fun _ h2 => .pure h2
  | swap =>
    refine (pop_total s h).bind ?_
    intro ⟨s1, o1⟩ h1
    cases o1 with
    | none => exact .pure h1
    | some v1 =>
      refine (pop_total s1 h1).bind ?_
      intro ⟨s2, o2⟩ h2
      cases o2 with
      | none => exact .pure h2
      | some v2 =>
        exact (push_total s2 v1 h2).bind fun s3 h3 => (push_total s3 v2 h3).bind fun _ h4 => .pure h4
  | setResult v => exact .pure h

theorem runStack_ok (ops : List SOp) (s : Stk) (h : SInv s) : Ok (runStack s ops) fun r => SInv r.1 :=
  run_ok (fun _ => rfl) (fun _ _ _ => rfl) sstep_total ops s h

/-- Every sequence of the modelled stack / call-frame operations from a fresh context, with
    every operand and every pushed value (including forged frames), ends without a Go panic:
    underflow and a bad frame are error values. -/
theorem C07_stack_total (calls : List SOp) : ∃ r, runStack Stk.init calls = .ok r :=
  (runStack_ok calls _ (.of (by decide))).ex

theorem C07_stack_no_panic (calls : List SOp) (p : Panic) : runStack Stk.init calls ≠ .error p :=
  Ok.ne_error (C07_stack_total calls) p

/-! ### why the guards of fixes/C07.patch are needed: the unguarded operations do panic -/

/-- ReadStack with operand MinInt64 on a one-element stack indexes out of range (`-idx` wraps). -/
theorem C07_stack_unfixed_counterexample :
    isPanic (readUnfixed { Stk.init with stack := [.int 1], sp := 1 } (-9223372036854775808)) = true := by
  decide

/-- StackCheck with a negative count on an empty 16-slot stack indexes slot 99. -/
theorem C07_stackcheck_unfixed_counterexample : isPanic (checkUnfixed Stk.init (-100)) = true := by
  decide

/-- after a callFramePop that failed with fp beyond the stack, the old code leaves sp = fp, and the
    next push (which grows the stack by 50 only) indexes past the end. -/
theorem C07_framepop_unfixed_counterexample :
    isPanic (push (framePopUnfixedFail { Stk.init with stack := [.nil, .nil], sp := 2, fp := 202 }) (.int 1)) = true := by
  decide

/-! ### data.Array -/

/-- a []byte array keeps its elements in `bytes`; `data` stays empty (NewArray, and every operation) -/
def AInv (a : Arr) : Prop := a.isByte = true → a.data = []

theorem AInv.data {a : Arr} (hb : ¬a.isByte = true) (d : List Int) : AInv { a with data := d } :=
  fun hx => absurd hx hb

theorem setSize_total (a : Arr) (n : Int) (hn : 0 ≤ n) (h : AInv a) : Ok (setSize a n) fun r => AInv r.1 :=
  .ite
    (fun _ => .ite (fun _ => (slc_ok a.bytes 0 n (by omega)).bind fun _ _ => .pure h)
      fun _ => .ite (fun hc => absurd hc (by omega)) fun _ => .pure h)
    fun hb => .ite (fun _ => (slc_ok a.data 0 n (by omega)).bind fun _ _ => .pure (.data hb _))
      fun _ => .ite (fun hc => absurd hc (by omega)) fun _ => .pure (.data hb _)

theorem astep_total (a : Arr) (op : AOp) (h : AInv a) : Ok (astep a op) fun r => AInv r.1 := by
  cases op with
  | get i =>
    refine .ite (fun _ => ?_) fun _ => ?_ <;>
      exact .ite (fun _ => .pure h) fun _ => (idx_ok _ i (by omega)).bind fun _ _ => .pure h
  | set i v | setAlways i v =>
    exact .ite (fun _ => .pure h) fun _ => .ite
      (fun _ => .ite (fun _ => .pure h) fun _ => (setIdx_ok a.bytes i v (by omega)).bind fun _ _ => .pure h)
      fun hb => .ite (fun _ => .pure h) fun _ =>
        (setIdx_ok a.data i v (by omega)).bind fun _ _ => .pure (.data hb _)
  | append v => exact .ite (fun _ => .pure h) fun hb => .pure (.data hb _)
  | getSlice x y =>
    refine .ite (fun _ => .pure h) fun hg => .ite (fun hb => ?_) fun hb => ?_
    · have : a.size = a.bytes.length := if_pos hb
      exact (slc_ok a.bytes x y (by omega)).bind fun _ _ => .pure h
    · have : a.size = a.data.length := if_neg hb
      exact (slc_ok a.data x y (by omega)).bind fun _ _ => .pure h
  | getSliceAsArray x y =>
    exact .ite
      (fun _ => .ite (fun _ => .pure h) fun _ => (slc_ok a.bytes x y (by omega)).bind fun _ _ => .pure h)
      fun _ => .ite (fun _ => .pure h) fun _ => .ite (fun _ => .pure h) fun _ =>
        (slc_ok a.data x y (by omega)).bind fun _ _ => .pure h
  | setSize n0 => exact setSize_total a _ (by unfold clamp0; omega) h
  | delete i =>
    refine .ite (fun _ => .pure h) fun hg => .ite (fun _ => .pure h) fun _ => .ite (fun hb => ?_) fun hb => ?_
    · -- the bounds are those of `data`, which is empty for a []byte array
      rw [h hb] at hg
      exact absurd hg (by simp only [List.length_nil]; omega)
    · exact (slc_ok a.data 0 i (by omega)).bind fun _ _ =>
        (slc_ok a.data (i + 1) a.data.length (by omega)).bind fun _ _ => .pure (.data hb _)
  | len | setReadonly b => exact .pure h

theorem runArray_ok (ops : List AOp) (a : Arr) (h : AInv a) : Ok (runArray a ops) fun r => AInv r.1 :=
  run_ok (fun _ => rfl) (fun _ _ _ => rfl) astep_total ops a h

/-- Every sequence of Get/Set/SetAlways/Append/GetSlice/GetSliceAsArray/SetSize/Delete/SetReadonly
    on an array of either storage kind, with every index, ends without a Go panic: an
    out-of-range access is an error value (`errBounds`). -/
theorem C07_array_total (isByte : Bool) (n : Nat) (calls : List AOp) :
    ∃ r, runArray (Arr.new isByte n) calls = .ok r :=
  (runArray_ok calls _ (by cases isByte <;> simp [AInv, Arr.new])).ex

theorem C07_array_no_panic (isByte : Bool) (n : Nat) (calls : List AOp) (p : Panic) :
    runArray (Arr.new isByte n) calls ≠ .error p :=
  Ok.ne_error (C07_array_total isByte n calls) p

/-- an out-of-range Get is reported as the bounds error, not as a Go panic -/
theorem C07_array_get_out_of_range (a : Arr) (i : Int) (h : i < 0 ∨ i ≥ a.size) :
    ∃ a', astep a (.get i) = .ok (a', .errBounds) := by
  unfold Arr.size at h
  by_cases hb : a.isByte = true
  · rw [if_pos hb] at h; exact ⟨a, (if_pos hb).trans (if_pos h)⟩
  · rw [if_neg hb] at h; exact ⟨a, (if_neg hb).trans (if_pos h)⟩

/-! ### non-vacuity: the models compute, and out-of-range accesses really are error values -/

example : (runCursor ⟨[⟨2, 1, 1⟩, ⟨1, 1, 2⟩], 0⟩ [.next, .peek 1, .advance 5, .mark]).toOption.map (·.1.p) = some 2 := by decide
example : (cstep ⟨[⟨2, 1, 1⟩], 1⟩ (.peek 9223372036854775807)).toOption.map (fun r => r.1.p) = some 1 := by decide
example : (sstep Stk.init .pop).toOption.map (·.2) = some SOut.underflow := by decide
example : (runStack Stk.init [.push (.int 1), .framePush, .push (.int 2), .push (.int 3), .framePop]).toOption.map (·.1.sp) = some 3 := by decide
example : (astep (Arr.new true 3) (.getSlice 2 1)).toOption.map (·.2) = some AOut.errBounds := by decide

end EgoVerif.C07
