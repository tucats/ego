import EgoVerif.C07.Chan
/-
C07 — Ego channels never let a Go panic of the native channel escape, for every schedule of Send / Receive /
Close / Len / Cap / IsOpen / IsEmpty calls made by concurrent goroutines (each call completes at once or parks;
Close wakes the parked ones).  Two things carry the proof, each shown necessary by a counterexample: the wrapper
flag `isOpen` always equals `!closed` of the native channel (so Close never closes twice), and Send's deferred
recover, the only thing between a sender parked on a full channel and the `send on closed channel` panic when
another goroutine closes the channel.
-/
namespace EgoVerif.C07

/-- the wrapper's flag mirrors the native channel -/
def ChInv (c : Chan) : Prop := c.isOpen = !c.ch.closed

instance (c : Chan) : Decidable (ChInv c) := by unfold ChInv; infer_instance

/-- what a resumed actor returns when the deferred recover works -/
def resumed : GoEv → CRes
  | .sent => .sent
  | .got v => .val v
  | .gotClosed => .notOpen
  | .sendPanics => .notOpen

theorem resume_recov (e : GoEv) : resume true e = .ok (resumed e) := by
  cases e <;> rfl

theorem resumeAll_recov (evs : List (Nat × GoEv)) :
    resumeAll true evs = .ok (evs.map fun p => (p.1, resumed p.2)) := by
  induction evs with
  | nil => rfl
  | cons hd tl ih =>
    obtain ⟨w, e⟩ := hd
    simp [resumeAll, resume_recov, ih]

theorem ChInv_new (size : Int) : ChInv (Chan.new size) := rfl

theorem ChInv.not_closed {c : Chan} (h : ChInv c) (ho : c.isOpen = true) : c.ch.closed = false := by
  simpa [ChInv, ho] using h.symm

theorem goRecv_closed (g : GoChan) (who : Nat) : (goRecv g who).1.closed = g.closed := by
  unfold goRecv
  split
  · split <;> rfl
  · split
    · rfl
    · split <;> rfl

theorem goSend_open (g : GoChan) (who : Nat) (v : Int) (hc : g.closed = false) :
    ∃ g' evs, goSend g who v = .ok (g', evs) ∧ g'.closed = false := by
  unfold goSend
  rw [if_neg (hc ▸ Bool.false_ne_true)]
  split
  · exact ⟨_, _, rfl, hc⟩
  · split <;> exact ⟨_, _, rfl, hc⟩

theorem chStep_close (c : Chan) (who : Nat) (h : ChInv c) (ho : c.isOpen = true) :
    chStep true c who .close = .ok
      ({ c with ch := { c.ch with closed := true, sendq := [], recvq := [] }, isOpen := false },
        (who, .closed true false) :: (c.ch.recvq.map (fun r => (r, CRes.notOpen))
          ++ c.ch.sendq.map (fun s => (s.1, CRes.notOpen)))) := by
  simp [chStep, ho, goClose, h.not_closed ho, resumeAll_recov, resumed, Function.comp_def]

/-- one call: no panic, and the invariant is kept -/
theorem C07_chan_step_total (c : Chan) (who : Nat) (op : ChOp) (h : ChInv c) :
    ∃ c' out, chStep true c who op = .ok (c', out) ∧ ChInv c' := by
  cases op with
  | send v =>
    by_cases ho : c.isOpen = true
    · obtain ⟨g', evs, hs, hc'⟩ := goSend_open c.ch who v (h.not_closed ho)
      exact ⟨{ c with ch := g' }, evs.map (fun p => (p.1, resumed p.2)),
        by simp [chStep, ho, hs, resumeAll_recov], by simp [ChInv, ho, hc']⟩
    · exact ⟨c, [(who, .notOpen)], by simp [chStep, ho], h⟩
  | recv =>
    by_cases hg : (!c.isOpen && c.ch.buf.length == 0) = true
    · exact ⟨c, [(who, .notOpen)], by simp [chStep, hg], h⟩
    · exact ⟨{ c with ch := (goRecv c.ch who).1 }, (goRecv c.ch who).2.map (fun p => (p.1, resumed p.2)),
        by simp [chStep, hg, resumeAll_recov], h.trans (congrArg (!·) (goRecv_closed c.ch who).symm)⟩
  | close =>
    by_cases ho : c.isOpen = true
    · exact ⟨_, _, chStep_close c who h ho, rfl⟩
    · exact ⟨c, [(who, .closed false true)], by simp [chStep, ho], h⟩
  | len | cap | isOpen | isEmpty => exact ⟨c, _, rfl, h⟩

theorem chRun_total : ∀ (ops : List ChOp) (c : Chan) (k : Nat), ChInv c →
    ∃ r, chRun true c k ops = .ok r ∧ ChInv r.1
  | [], c, _, h => ⟨(c, []), rfl, h⟩
  | op :: rest, c, k, h =>
    let ⟨c', out, hs, h'⟩ := C07_chan_step_total c k op h
    let ⟨r, hr, hi⟩ := chRun_total rest c' (k + 1) h'
    ⟨(r.1, out :: r.2), by simp [chRun, hs, hr], hi⟩

/-- EVERY schedule on a channel of EVERY size (also ≤ 0) runs to its end: no Go panic leaves
    Send, Receive or Close — every completion is a `CRes` (a value, nil or an Ego error) -/
theorem C07_chan_no_panic (size : Int) (ops : List ChOp) :
    ∃ r, chRun true (Chan.new size) 0 ops = .ok r :=
  let ⟨r, h, _⟩ := chRun_total ops (Chan.new size) 0 (ChInv_new size)
  ⟨r, h⟩

/-- every sender parked at the moment of Close completes with ErrChannelNotOpen, every parked
    receiver too, and the closer learns that it closed the channel -/
theorem C07_chan_close_wakes (c : Chan) (who : Nat) (h : ChInv c) (ho : c.isOpen = true) :
    ∃ c', chStep true c who .close = .ok (c',
      (who, .closed true false) :: (c.ch.recvq.map (fun r => (r, CRes.notOpen))
        ++ c.ch.sendq.map (fun s => (s.1, CRes.notOpen)))) ∧ c'.isOpen = false ∧ c'.ch.sendq = [] ∧ c'.ch.recvq = [] :=
  ⟨_, chStep_close c who h ho, rfl, rfl, rfl⟩

/-- without a working recover in Send's deferred function, the sender parked on a full channel
    takes the whole process down when another goroutine closes the channel (the seeded class) -/
theorem C07_chan_norecover_counterexample :
    chRun false (Chan.new 1) 0 [.send 1, .send 2, .close] = .error .sendOnClosed := by rfl

/-- the same schedule with the recover: the parked sender gets ErrChannelNotOpen -/
example : (chRun true (Chan.new 1) 0 [.send 1, .send 2, .close]).toOption.map (·.2)
    = some [[(0, .sent)], [], [(2, .closed true false), (1, .notOpen)]] := by decide

/-- the invariant is needed: a wrapper that believes a closed native channel is open panics in Close -/
example : chStep true { Chan.new 1 with ch := { (Chan.new 1).ch with closed := true } } 0 .close
    = .error .closeOfClosed := by rfl

/-- non-trivial instance of the hypotheses of `C07_chan_close_wakes`: two parked senders -/
example : ∃ c, ChInv c ∧ c.isOpen = true ∧ c.ch.sendq.length = 2 ∧
    (chRun true (Chan.new 1) 0 [.send 1, .send 2, .send 3]).toOption.map (·.1) = some c := by
  refine ⟨{ Chan.new 1 with ch := { (Chan.new 1).ch with buf := [1], sendq := [(1, 2), (2, 3)] } }, ?_, ?_, ?_, ?_⟩ <;> decide

/-- FIFO hand-over: a receive on a full channel with a parked sender moves the sender's value in -/
example : (chRun true (Chan.new 1) 0 [.send 1, .send 2, .recv, .recv, .recv, .close]).toOption.map (·.2)
    = some [[(0, .sent)], [], [(2, .val 1), (1, .sent)], [(3, .val 2)], [], [(5, .closed true false), (4, .notOpen)]] := by decide

end EgoVerif.C07
