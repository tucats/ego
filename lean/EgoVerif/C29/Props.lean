import EgoVerif.C29.Model
/-
C29 — cluster cache invalidation is bounded and complete; a received flush is never re-broadcast.

All theorems quantify over every membership table (clusters of ANY size), every process configuration
(`cluster : Nat → Option Nat`), and every sequence of steps (purges on arbitrary nodes, deliveries in any order,
losses, membership changes, injected foreign requests).

The system theorems are inductions over `run` that see `step` only through one equation per kind of step; the one for
a delivery has what router and handler do (`routeFlush_snd`) worked out, and what a purge puts in flight is read
through `mem_purgeNode_sends`.
-/
namespace EgoVerif.C29

/-! ## specification vocabulary (independent of the model's filter chain) -/

/-- `p` is an active peer of node `self` (whose ClusterName is `k`) in table `t` -/
def IsActivePeer (self k : Nat) (t : List Row) (p : Nat) : Prop :=
  ∃ r ∈ t, r.id = p ∧ r.name = k ∧ r.active = true ∧ p ≠ self

/-- the number of peers of `self` known to the table: all rows but its own -/
def peerCount (self : Nat) (t : List Row) : Nat := (t.filter (fun r => r.id != self)).length

theorem mem_listActiveMembers {self k : Nat} {t : List Row} {r : Row} :
    r ∈ listActiveMembers self k t ↔ r ∈ t ∧ r.name = k ∧ r.active = true ∧ r.id ≠ self := by
  simp only [listActiveMembers, listMembers, List.mem_filter, Bool.and_eq_true, bne_iff_ne, beq_iff_eq, ne_eq,
    and_assoc]

theorem listActiveMembers_sublist (self k : Nat) (t : List Row) : (listActiveMembers self k t).Sublist t :=
  List.filter_sublist.trans List.filter_sublist

theorem listActiveMembers_length_le (self k : Nat) (t : List Row) :
    (listActiveMembers self k t).length ≤ peerCount self t :=
  calc (listActiveMembers self k t).length
      = (listMembers k t).countP (fun m => m.active && m.id != self) := List.countP_eq_length_filter.symm
    _ ≤ (listMembers k t).countP (fun m => m.id != self) :=
        List.countP_mono_left fun _ _ h => (Bool.and_eq_true _ _ ▸ h).2
    _ ≤ t.countP (fun m => m.id != self) := List.filter_sublist.countP_le
    _ = peerCount self t := List.countP_eq_length_filter

theorem peerCount_le_length (self : Nat) (t : List Row) : peerCount self t ≤ t.length :=
  List.length_filter_le _ _

theorem peerCount_lt_of_mem {self : Nat} {t : List Row} (h : self ∈ t.map Row.id) :
    peerCount self t < t.length := by
  obtain ⟨r, hr, rfl⟩ := List.mem_map.1 h
  exact List.length_filter_lt_length_iff_exists.2 ⟨r, hr, by simp⟩

theorem peerCount_eq_ids (self : Nat) (t : List Row) :
    peerCount self t = ((t.map Row.id).filter (· != self)).length := by
  rw [List.filter_map, List.length_map]
  rfl

theorem purgeNode_sends (self : Nat) (cl : Option Nat) (db hook on notify : Bool) (t : List Row) (c : Int)
    (pid : Option Nat) :
    (purgeNode self cl db hook on notify t c pid).2.2 = [] ∨
    ∃ k, cl = some k ∧ (purgeNode self cl db hook on notify t c pid).2.2 =
      (listActiveMembers self k t).map (fun p => sendCacheFlush self k p c originHopCount pid) := by
  simp only [purgeNode]
  cases (cachePurge on notify hook).2
  · exact .inl rfl
  · cases cl with
    | none => exact .inl rfl
    | some k =>
      cases db
      · exact .inl rfl
      · exact .inr ⟨k, rfl, rfl⟩

theorem mem_purgeNode_sends {self : Nat} {cl : Option Nat} {db hook on notify : Bool} {t : List Row} {c : Int}
    {pid : Option Nat} {m : Msg} (h : m ∈ (purgeNode self cl db hook on notify t c pid).2.2) :
    ∃ k r, cl = some k ∧ r ∈ listActiveMembers self k t ∧ m = sendCacheFlush self k r c originHopCount pid := by
  rcases purgeNode_sends self cl db hook on notify t c pid with h0 | ⟨k, hk, hs⟩
  · rw [h0] at h
    cases h
  · rw [hs] at h
    obtain ⟨r, hr, rfl⟩ := List.mem_map.1 h
    exact ⟨k, r, hk, hr, rfl⟩

/-- **C29_bounded (one purge).** Whatever the configuration, the requests sent for one purge number at most
    the peers of that node. -/
theorem C29_purge_bounded (self : Nat) (cl : Option Nat) (db hook on notify : Bool) (t : List Row) (c : Int)
    (pid : Option Nat) :
    (purgeNode self cl db hook on notify t c pid).2.2.length ≤ peerCount self t := by
  rcases purgeNode_sends self cl db hook on notify t c pid with h | ⟨k, -, h⟩ <;> rw [h]
  · exact Nat.zero_le _
  · rw [List.length_map]
    exact listActiveMembers_length_le self k t

/-- On a clustered node with its database open, the hook registered and the caches on, the requests of one purge
    are exactly those addressed to an active peer that carry the purged cache, hop count 1 and the sender's identity
    and token. -/
theorem C29_purge_targets_exact (self k : Nat) (t : List Row) (c : Int) (pid : Option Nat) (m : Msg) :
    m ∈ (purgeNode self (some k) true true true true t c pid).2.2 ↔
      IsActivePeer self k t m.dest ∧
        m = { dest := m.dest, cache := c, sender := self, hops := 1, tok := some k, wf := true,
              accept := true, pid := pid } := by
  show m ∈ (listActiveMembers self k t).map (fun p => sendCacheFlush self k p c originHopCount pid) ↔ _
  simp only [List.mem_map, mem_listActiveMembers, IsActivePeer]
  constructor
  · rintro ⟨r, ⟨hr, hn, ha, hi⟩, rfl⟩
    exact ⟨⟨r, hr, rfl, hn, ha, hi⟩, rfl⟩
  · rintro ⟨⟨r, hr, hid, hn, ha, hi⟩, hm⟩
    refine ⟨r, ⟨hr, hn, ha, hid ▸ hi⟩, ?_⟩
    rw [hm, ← hid]
    rfl

/-- no request is addressed to the sender itself -/
theorem C29_never_to_self (self : Nat) (cl : Option Nat) (db hook on notify : Bool) (t : List Row) (c : Int)
    (pid : Option Nat) (m : Msg) (h : m ∈ (purgeNode self cl db hook on notify t c pid).2.2) : m.dest ≠ self := by
  obtain ⟨k, r, -, hr, rfl⟩ := mem_purgeNode_sends h
  exact (mem_listActiveMembers.1 hr).2.2.2

theorem length_filter_dest (l : List Row) (f : Row → Msg) (hf : ∀ r, (f r).dest = r.id) (p : Nat) :
    ((l.map f).filter (fun m => m.dest == p)).length = (l.map Row.id).count p := by
  rw [← List.countP_eq_length_filter, List.countP_map, List.count_eq_countP, List.countP_map]
  exact List.countP_congr fun r _ => by simp [hf]

/-- with a primary key on node_id, a peer receives at most ONE request per purge -/
theorem C29_at_most_once (self : Nat) (cl : Option Nat) (db hook on notify : Bool) (t : List Row) (c : Int)
    (pid : Option Nat) (hnd : (t.map Row.id).Nodup) (p : Nat) :
    ((purgeNode self cl db hook on notify t c pid).2.2.filter (fun m => m.dest == p)).length ≤ 1 := by
  rcases purgeNode_sends self cl db hook on notify t c pid with h | ⟨k, -, h⟩ <;> rw [h]
  · exact Nat.zero_le _
  · rw [length_filter_dest _ _ (fun _ => rfl)]
    exact List.nodup_iff_count.1 (((listActiveMembers_sublist self k t).map Row.id).nodup hnd) p

/-- FlushCacheHandler acts on `m`: the token is that of this node's cluster, the body decodes, the hop count is
    within the limit -/
def handled (cl : Option Nat) (m : Msg) : Bool :=
  validateClusterToken cl m.tok && m.wf && decide (m.hops ≤ maxFlushHops)

theorem handled_iff {cl : Option Nat} {m : Msg} :
    handled cl m = true ↔ validateClusterToken cl m.tok = true ∧ m.wf = true ∧ m.hops ≤ maxFlushHops := by
  simp only [handled, Bool.and_eq_true, decide_eq_true_eq, and_assoc]

section
variable (self : Nat) (cl : Option Nat) (db hook on : Bool) (t : List Row) (m : Msg)

theorem purgeNode_local (c : Int) (pid : Option Nat) :
    purgeNode self cl db hook on false t c pid = (on, false, []) := by
  cases on <;> rfl

theorem flushHandler_snd :
    (flushHandler self cl db hook on t m).2 = (handled cl m && on, false, []) := by
  rw [flushHandler, purgeNode_local, handled]
  cases validateClusterToken cl m.tok
  · rfl
  · cases m.wf
    · rfl
    · by_cases h : m.hops > maxFlushHops
      · simp [h, Int.not_le.2 h]
      · simp [h, Int.not_lt.1 h]

theorem routeFlush_snd :
    (routeFlush self cl db hook on t m).2 = (m.accept && handled cl m && on, false, []) := by
  rw [routeFlush]
  cases m.accept
  · rfl
  · exact flushHandler_snd self cl db hook on t m

theorem flushHandler_purged_iff :
    (flushHandler self cl db hook true t m).2.1 = true ↔
      (validateClusterToken cl m.tok = true ∧ m.wf = true ∧ m.hops ≤ maxFlushHops) := by
  rw [flushHandler_snd, Bool.and_true, handled_iff]

theorem routeFlush_purged_iff :
    (routeFlush self cl db hook true t m).2.1 = true ↔
      (m.accept = true ∧ validateClusterToken cl m.tok = true ∧ m.wf = true ∧ m.hops ≤ maxFlushHops) := by
  rw [routeFlush_snd, Bool.and_true, Bool.and_eq_true, handled_iff]

end

/-- **C29_no_rebroadcast (per node).** Whatever request arrives — any token, body, hop count, cache — and
    whatever the configuration, FlushCacheHandler fires no hook and sends no request. -/
theorem C29_no_rebroadcast (self : Nat) (cl : Option Nat) (db hook on : Bool) (t : List Row) (m : Msg) :
    (flushHandler self cl db hook on t m).2.2.1 = false ∧ (flushHandler self cl db hook on t m).2.2.2 = [] := by
  rw [flushHandler_snd]
  exact ⟨rfl, rfl⟩

/-- the same through the router: refusing at the media check sends nothing either -/
theorem C29_no_rebroadcast_routed (self : Nat) (cl : Option Nat) (db hook on : Bool) (t : List Row) (m : Msg) :
    (routeFlush self cl db hook on t m).2.2.1 = false ∧ (routeFlush self cl db hook on t m).2.2.2 = [] := by
  rw [routeFlush_snd]
  exact ⟨rfl, rfl⟩

/-- a request without an admitted Accept header never reaches the handler: nothing is discarded -/
theorem C29_no_accept_refused (self : Nat) (cl : Option Nat) (db hook on : Bool) (t : List Row) (m : Msg)
    (h : m.accept = false) :
    (routeFlush self cl db hook on t m).1 = .notAcceptable ∧ (routeFlush self cl db hook on t m).2.1 = false := by
  simp [routeFlush, h]

/-- a request over the hop limit makes the handler discard nothing -/
theorem C29_hop_limit (self : Nat) (cl : Option Nat) (db hook on : Bool) (t : List Row) (m : Msg)
    (h : m.hops > maxFlushHops) : (flushHandler self cl db hook on t m).2.1 = false := by
  rw [flushHandler_snd, handled, decide_eq_false (Int.not_le.2 h), Bool.and_false, Bool.false_and]

/-! ## the N-node system: one equation per kind of step -/

theorem step_purge (s : State) (n : Nat) (c : Int) :
    step s (.purge n c) =
      { s with
        net := s.net ++ (nodePurge s n true c (some s.purges)).2.2
        filled := setFilled s.filled n c false
        sent := s.sent + (nodePurge s n true c (some s.purges)).2.2.length
        purges := s.purges + 1
        hist := { pid := s.purges, origin := n, cache := c, table := s.table } :: s.hist
        log := .discard n c (some s.purges) :: s.log } := rfl

theorem step_deliver_none {s : State} {i : Nat} (h : s.net[i]? = none) : step s (.deliver i) = s := by
  simp only [step, h]

theorem step_deliver {s : State} {i : Nat} {m : Msg} (h : s.net[i]? = some m) :
    step s (.deliver i) =
      { s with
        net := s.net.eraseIdx i
        filled := if m.accept && handled (s.cluster m.dest) m then setFilled s.filled m.dest m.cache false
          else s.filled
        log := if m.accept && handled (s.cluster m.dest) m then .discard m.dest m.cache m.pid :: s.log
          else .refused m.pid m.dest
            (routeFlush m.dest (s.cluster m.dest) true (s.cluster m.dest).isSome true s.table m).1 :: s.log } := by
  simp only [step, h, routeFlush_snd, Bool.and_true, List.append_nil, List.length_nil, Nat.add_zero]

theorem step_drop_none {s : State} {i : Nat} (h : s.net[i]? = none) : step s (.drop i) = s := by
  simp only [step, h]

theorem step_drop {s : State} {i : Nat} {m : Msg} (h : s.net[i]? = some m) :
    step s (.drop i) = { s with net := s.net.eraseIdx i, log := .dropped m.pid m.dest :: s.log } := by
  simp only [step, h]

def Step.isTransport : Step → Bool
  | .deliver _ => true
  | .drop _ => true
  | _ => false

theorem step_transport (s : State) {st : Step} (h : st.isTransport = true) :
    (step s st).net.Sublist s.net ∧ s.log <:+ (step s st).log ∧
      (step s st).hist = s.hist ∧ (step s st).purges = s.purges ∧ (step s st).sent = s.sent := by
  cases st with
  | deliver i =>
    cases hi : s.net[i]? with
    | none =>
      rw [step_deliver_none hi]
      exact ⟨.refl _, List.suffix_refl _, rfl, rfl, rfl⟩
    | some m =>
      rw [step_deliver hi]
      refine ⟨List.eraseIdx_sublist .., ?_, rfl, rfl, rfl⟩
      split <;> exact List.suffix_cons ..
  | drop i =>
    cases hi : s.net[i]? with
    | none =>
      rw [step_drop_none hi]
      exact ⟨.refl _, List.suffix_refl _, rfl, rfl, rfl⟩
    | some m =>
      rw [step_drop hi]
      exact ⟨List.eraseIdx_sublist .., List.suffix_cons .., rfl, rfl, rfl⟩
  | _ => cases h

theorem step_of_not_purge (s : State) {st : Step} (h : st.isPurge = false) :
    (step s st).hist = s.hist ∧ (step s st).purges = s.purges ∧ (step s st).sent = s.sent := by
  cases st with
  | purge n c => cases h
  | deliver i | drop i => exact (step_transport s rfl).2.2
  | fill _ _ | setActive _ _ | inject _ => exact ⟨rfl, rfl, rfl⟩

theorem mem_hist_step {s : State} (st : Step) {rec : PurgeRec} (h : rec ∈ s.hist) : rec ∈ (step s st).hist := by
  cases st with
  | purge n c => exact List.mem_cons_of_mem _ h
  | _ => rwa [(step_of_not_purge s rfl).1]

theorem step_cluster (s : State) (st : Step) : (step s st).cluster = s.cluster := by
  cases st with
  | deliver i | drop i => rw [step]; split <;> rfl
  | _ => rfl

theorem step_table_ids (s : State) (st : Step) : (step s st).table.map Row.id = s.table.map Row.id := by
  cases st with
  | deliver i | drop i => rw [step]; split <;> rfl
  | setActive id b =>
    rw [step, List.map_map]
    exact List.map_congr_left fun r _ => by simp only [Function.comp]; split <;> rfl
  | _ => rfl

theorem run_invariant {P : State → Prop} (hstep : ∀ s st, P s → P (step s st)) {s : State} (h : P s)
    (steps : List Step) : P (run s steps) := by
  induction steps generalizing s with
  | nil => exact h
  | cons st rest ih => exact ih (hstep s st h)

theorem run_cluster (s : State) (steps : List Step) : (run s steps).cluster = s.cluster :=
  run_invariant (P := fun s' => s'.cluster = s.cluster) (fun s' st h => (step_cluster s' st).trans h) rfl steps

theorem run_table_ids (s : State) (steps : List Step) : (run s steps).table.map Row.id = s.table.map Row.id :=
  run_invariant (P := fun s' => s'.table.map Row.id = s.table.map Row.id)
    (fun s' st h => (step_table_ids s' st).trans h) rfl steps

theorem run_table_length (s : State) (steps : List Step) : (run s steps).table.length = s.table.length := by
  simpa only [List.length_map] using congrArg List.length (run_table_ids s steps)

theorem run_append (s : State) (a b : List Step) : run s (a ++ b) = run (run s a) b := by
  induction a generalizing s with
  | nil => rfl
  | cons st rest ih => exact ih _

theorem hist_mono (s : State) (steps : List Step) (rec : PurgeRec) (h : rec ∈ s.hist) :
    rec ∈ (run s steps).hist :=
  run_invariant (P := fun s => rec ∈ s.hist) (fun _ st h => mem_hist_step st h) h steps

/-- **C29_no_rebroadcast (system).** A delivery never sends: the count of sent requests is unchanged and the
    requests in flight only shrink (by exactly one when the index is valid). -/
theorem C29_deliver_never_sends (s : State) (i : Nat) :
    (step s (.deliver i)).sent = s.sent ∧
    (∀ m ∈ (step s (.deliver i)).net, m ∈ s.net) ∧
    (i < s.net.length → (step s (.deliver i)).net.length + 1 = s.net.length) := by
  have ⟨hn, _, _, _, hs⟩ := step_transport s (st := .deliver i) rfl
  refine ⟨hs, fun _ hm => hn.subset hm, fun hi => ?_⟩
  rw [step_deliver (List.getElem?_eq_getElem hi)]
  show (s.net.eraseIdx i).length + 1 = s.net.length
  rw [List.length_eraseIdx, if_pos hi]
  omega

/-- only a purge step ever sends -/
theorem C29_only_purge_sends (s : State) (st : Step) (h : st.isPurge = false) : (step s st).sent = s.sent :=
  (step_of_not_purge s h).2.2

/-- **C29_bounded (system, one purge).** A purge step sends at most `peerCount` requests. -/
theorem C29_purge_step_bounded (s : State) (n : Nat) (c : Int) :
    (step s (.purge n c)).sent ≤ s.sent + peerCount n s.table :=
  Nat.add_le_add_left (C29_purge_bounded ..) _

theorem peerCount_step (n : Nat) (s : State) (st : Step) : peerCount n (step s st).table = peerCount n s.table := by
  rw [peerCount_eq_ids, peerCount_eq_ids, step_table_ids]

/-- `peerCount` is read in the initial table: no step changes the ids. -/
theorem run_sent_le (B : Nat) (s : State) (steps : List Step)
    (h : ∀ n c, Step.purge n c ∈ steps → peerCount n s.table ≤ B) :
    (run s steps).sent ≤ s.sent + purgeCount steps * B := by
  induction steps generalizing s with
  | nil => exact Nat.le_add_right _ _
  | cons st rest ih =>
    refine Nat.le_trans (ih (step s st) fun n c hm => ?_) ?_
    · rw [peerCount_step]
      exact h n c (List.mem_cons_of_mem _ hm)
    · cases st with
      | purge n c =>
        have h1 := C29_purge_step_bounded s n c
        have h2 := h n c List.mem_cons_self
        show _ ≤ _ + (purgeCount rest + 1) * B
        rw [Nat.add_mul]
        omega
      | _ => exact Nat.le_of_eq (congrArg (· + _) (C29_only_purge_sends s _ rfl))

/-- **C29_bounded (total).** Over ANY step sequence the requests sent are at most purges × table size. -/
theorem C29_total_bounded (s : State) (steps : List Step) :
    (run s steps).sent ≤ s.sent + purgeCount steps * s.table.length :=
  run_sent_le _ s steps fun n _ _ => peerCount_le_length n s.table

/-- every purging node of the sequence has its own row in the table (true after cluster.Initialize: upsertMember) -/
def PurgersHaveRows (t : List Row) (steps : List Step) : Prop :=
  ∀ n c, Step.purge n c ∈ steps → n ∈ t.map Row.id

/-- **C29_bounded (total, sharp).** In an N-row cluster, `k` purges send at most `k × (N-1)` requests, whatever
    else happens in between. -/
theorem C29_total_bounded_peers (s : State) (steps : List Step) (h : PurgersHaveRows s.table steps) :
    (run s steps).sent ≤ s.sent + purgeCount steps * (s.table.length - 1) :=
  run_sent_le _ s steps fun n c hm => Nat.le_sub_one_of_lt (peerCount_lt_of_mem (h n c hm))

/-- Once purges stop, deliveries and losses can only drain the network: nothing is sent and the number of requests
    in flight never grows. -/
theorem C29_quiescent (s : State) (steps : List Step) (h : ∀ st ∈ steps, st.isTransport = true) :
    (run s steps).sent = s.sent ∧ (run s steps).net.length ≤ s.net.length := by
  induction steps generalizing s with
  | nil => exact ⟨rfl, Nat.le_refl _⟩
  | cons st rest ih =>
    have ⟨ih1, ih2⟩ := ih (step s st) fun x hx => h x (List.mem_cons_of_mem _ hx)
    have ⟨hn, _, _, _, hs⟩ := step_transport s (h st List.mem_cons_self)
    exact ⟨ih1.trans hs, Nat.le_trans ih2 hn.length_le⟩

/-! ## completeness -/

/-- every row was written by its own node from its own ClusterName (cluster.Initialize → upsertMember), so the
    process with node id `r.id` runs with ClusterName `r.name` -/
def Consistent (cluster : Nat → Option Nat) (t : List Row) : Prop :=
  ∀ r ∈ t, cluster r.id = some r.name

/-- a request of purge `rec` for peer `p` that `p`'s router admits and `p`'s handler acts on -/
def Good (cluster : Nat → Option Nat) (rec : PurgeRec) (p : Nat) (m : Msg) : Prop :=
  m.dest = p ∧ m.cache = rec.cache ∧ m.pid = some rec.pid ∧ (m.accept && handled (cluster p) m) = true

/-- peer `p` has been taken care of for purge `rec`: its request is still in flight, was lost, or made `p`
    discard the cache -/
def Served (s : State) (rec : PurgeRec) (p : Nat) : Prop :=
  (∃ m ∈ s.net, Good s.cluster rec p m) ∨ Ev.dropped (some rec.pid) p ∈ s.log ∨
    Ev.discard p rec.cache (some rec.pid) ∈ s.log

def Inv (s : State) : Prop :=
  ∀ rec ∈ s.hist, ∀ k, s.cluster rec.origin = some k → ∀ p, IsActivePeer rec.origin k rec.table p →
    Served s rec p

theorem mem_eraseIdx_of_ne {l : List Msg} {i : Nat} {m m' : Msg} (hi : l[i]? = some m) (hm : m' ∈ l)
    (hne : m' ≠ m) : m' ∈ l.eraseIdx i := by
  rw [List.mem_eraseIdx_iff_getElem?]
  obtain ⟨j, hj⟩ := List.mem_iff_getElem?.1 hm
  refine ⟨j, ?_, hj⟩
  rintro rfl
  exact hne (Option.some.inj (hi ▸ hj)).symm

theorem log_step {s : State} (st : Step) {e : Ev} (h : e ∈ s.log) : e ∈ (step s st).log := by
  cases st with
  | purge n c => exact List.mem_cons_of_mem _ h
  | deliver i | drop i => exact (step_transport s rfl).2.1.subset h
  | fill _ _ | setActive _ _ | inject _ => exact h

theorem mem_net_step {s : State} (st : Step) {m : Msg} (h : m ∈ s.net) :
    m ∈ (step s st).net ∨ Ev.dropped m.pid m.dest ∈ (step s st).log ∨
      Ev.discard m.dest m.cache m.pid ∈ (step s st).log ∨ (m.accept && handled (s.cluster m.dest) m) = false := by
  cases st with
  | purge _ _ | inject _ => exact .inl (List.mem_append_left _ h)
  | deliver i =>
    cases hi : s.net[i]? with
    | none => exact .inl (by rwa [step_deliver_none hi])
    | some m' =>
      rw [step_deliver hi]
      by_cases hm : m = m'
      · subst hm
        cases hadm : m.accept && handled (s.cluster m.dest) m with
        | false => exact .inr (.inr (.inr rfl))
        | true => exact .inr (.inr (.inl List.mem_cons_self))
      · exact .inl (mem_eraseIdx_of_ne hi h hm)
  | drop i =>
    cases hi : s.net[i]? with
    | none => exact .inl (by rwa [step_drop_none hi])
    | some m' =>
      rw [step_drop hi]
      by_cases hm : m = m'
      · exact .inr (.inl (hm ▸ List.mem_cons_self))
      · exact .inl (mem_eraseIdx_of_ne hi h hm)
  | fill _ _ | setActive _ _ => exact .inl h

theorem served_step {s : State} {rec : PurgeRec} {p : Nat} (h : Served s rec p) (st : Step) :
    Served (step s st) rec p := by
  rcases h with ⟨m, hm, hg⟩ | h | h
  · obtain ⟨rfl, hcache, hpid, hadm⟩ := hg
    rcases mem_net_step st hm with h | h | h | h
    · exact .inl ⟨m, h, step_cluster s st ▸ ⟨rfl, hcache, hpid, hadm⟩⟩
    · exact .inr (.inl (hpid ▸ h))
    · exact .inr (.inr (hcache ▸ hpid ▸ h))
    · rw [hadm] at h
      cases h
  · exact .inr (.inl (log_step st h))
  · exact .inr (.inr (log_step st h))

theorem consistent_step (s : State) (st : Step) (h : Consistent s.cluster s.table) :
    Consistent (step s st).cluster (step s st).table := by
  rw [step_cluster]
  cases st with
  | deliver i | drop i => rw [step]; split <;> exact h
  | setActive id b =>
    intro r hr
    obtain ⟨q, hq, rfl⟩ := List.mem_map.1 hr
    have := h q hq
    split <;> exact this
  | _ => exact h

theorem inv_step (s : State) (st : Step) (hc : Consistent s.cluster s.table) (h : Inv s) : Inv (step s st) := by
  intro rec hrec k hk p hp
  rw [step_cluster] at hk
  cases st with
  | purge n c =>
    rcases List.mem_cons.1 hrec with rfl | hrec
    · -- the new purge: its request for `p` is in flight, and `p` runs with the sender's ClusterName (`hc`)
      obtain ⟨r, hr, rfl, hname, hact, hne⟩ := hp
      have hm : sendCacheFlush n k r c originHopCount (some s.purges) ∈
          (nodePurge s n true c (some s.purges)).2.2 := by
        rw [nodePurge, hk]
        exact List.mem_map_of_mem (mem_listActiveMembers.2 ⟨hr, hname, hact, hne⟩)
      refine .inl ⟨_, List.mem_append_right _ hm, rfl, rfl, rfl, ?_⟩
      show handled (s.cluster r.id) _ = true
      rw [hc r hr, hname]
      exact handled_iff.2 ⟨beq_self_eq_true k, rfl, (by decide : originHopCount ≤ maxFlushHops)⟩
    · exact served_step (h rec hrec k hk p hp) _
  | _ =>
    rw [(step_of_not_purge s rfl).1] at hrec
    exact served_step (h rec hrec k hk p hp) _

theorem inv_run (s : State) (steps : List Step) (hc : Consistent s.cluster s.table) (h : Inv s) :
    Inv (run s steps) :=
  (run_invariant (P := fun s => Consistent s.cluster s.table ∧ Inv s)
    (fun s st h => ⟨consistent_step s st h.1, inv_step s st h.1 h.2⟩) ⟨hc, h⟩ steps).2

/-- Only the request addressed to `p` matters: `p` discarded the cache unless that request is still in flight
    or was lost. -/
theorem complete_for_peer (cluster : Nat → Option Nat) (t : List Row) (hc : Consistent cluster t)
    (steps : List Step) (rec : PurgeRec) (hrec : rec ∈ (run (init cluster t) steps).hist)
    (k : Nat) (hk : cluster rec.origin = some k) (p : Nat) (hp : IsActivePeer rec.origin k rec.table p)
    (hflight : ∀ m ∈ (run (init cluster t) steps).net, m.dest = p → m.pid ≠ some rec.pid)
    (hlost : Ev.dropped (some rec.pid) p ∉ (run (init cluster t) steps).log) :
    Ev.discard p rec.cache (some rec.pid) ∈ (run (init cluster t) steps).log := by
  have hinv : Inv (run (init cluster t) steps) := inv_run (init cluster t) steps hc fun _ hrec => nomatch hrec
  rcases hinv rec hrec k ((run_cluster ..).symm ▸ hk) p hp with ⟨m, hm, hg⟩ | hd | hd
  · exact absurd hg.2.2.1 (hflight m hm hg.1)
  · exact absurd hd hlost
  · exact hd

/-- **C29_complete.** Start any cluster (any table consistent with the processes' configuration, nothing in
    flight) and run ANY step sequence. For every purge that was originated on a clustered node and every peer
    that was active in the table that purge read: if none of the purge's requests is still in flight and none was
    lost, then that peer discarded that cache because of that purge. -/
theorem C29_complete (cluster : Nat → Option Nat) (t : List Row) (hc : Consistent cluster t)
    (steps : List Step) (rec : PurgeRec) (hrec : rec ∈ (run (init cluster t) steps).hist)
    (k : Nat) (hk : cluster rec.origin = some k) (p : Nat) (hp : IsActivePeer rec.origin k rec.table p)
    (hflight : ∀ m ∈ (run (init cluster t) steps).net, m.pid ≠ some rec.pid)
    (hlost : ∀ d, Ev.dropped (some rec.pid) d ∉ (run (init cluster t) steps).log) :
    Ev.discard p rec.cache (some rec.pid) ∈ (run (init cluster t) steps).log :=
  complete_for_peer cluster t hc steps rec hrec k hk p hp (fun m hm _ => hflight m hm) (hlost p)

/-- **C29_complete, trace form.** For the purge `purge n c` that happens after `pre` and before `post` (any
    sequences): every peer active in the table at that moment ends up with the discard event, unless one of the
    requests of that purge is still in flight or was lost. -/
theorem C29_complete_trace (cluster : Nat → Option Nat) (t : List Row) (hc : Consistent cluster t)
    (pre post : List Step) (n : Nat) (c : Int) (k : Nat) (hk : cluster n = some k) (p : Nat) :
    let s1 := run (init cluster t) pre
    let s := run (init cluster t) (pre ++ Step.purge n c :: post)
    IsActivePeer n k s1.table p →
    (∀ m ∈ s.net, m.pid ≠ some s1.purges) → (∀ d, Ev.dropped (some s1.purges) d ∉ s.log) →
    Ev.discard p c (some s1.purges) ∈ s.log := by
  intro s1 s hp hflight hlost
  have hrec : ({ pid := s1.purges, origin := n, cache := c, table := s1.table } : PurgeRec) ∈ s.hist := by
    show _ ∈ (run (init cluster t) (pre ++ Step.purge n c :: post)).hist
    rw [run_append, run, step_purge]
    exact hist_mono _ _ _ List.mem_cons_self
  exact C29_complete cluster t hc _ _ hrec k hk p hp hflight hlost

/-- when a delivered request is acted on, the destination's cache is empty afterwards -/
theorem C29_deliver_discards (s : State) (i : Nat) (m : Msg) (hi : s.net[i]? = some m)
    (hacpt : m.accept = true) (htok : validateClusterToken (s.cluster m.dest) m.tok = true) (hwf : m.wf = true)
    (hh : m.hops ≤ maxFlushHops) :
    (step s (.deliver i)).filled m.dest m.cache = false := by
  rw [step_deliver hi]
  dsimp only
  rw [if_pos (by rw [hacpt, handled_iff.2 ⟨htok, hwf, hh⟩]; rfl), setFilled, if_pos ⟨rfl, rfl⟩]

/-- a purge empties the origin's own cache -/
theorem C29_purge_discards_local (s : State) (n : Nat) (c : Int) :
    (step s (.purge n c)).filled n c = false := by
  rw [step_purge]
  exact if_pos ⟨rfl, rfl⟩

/-! ## where a request in flight comes from: hop counts and ghost tags -/

theorem source_of_mem_step_net {s : State} {st : Step} {m : Msg} (h : m ∈ (step s st).net) :
    m ∈ s.net ∨ m.pid = none ∨
      ∃ n c k r, st = .purge n c ∧ m = sendCacheFlush n k r c originHopCount (some s.purges) := by
  cases st with
  | purge n c =>
    rw [step_purge] at h
    rcases List.mem_append.1 h with h | h
    · exact .inl h
    · obtain ⟨k, r, -, -, rfl⟩ := mem_purgeNode_sends h
      exact .inr (.inr ⟨n, c, k, r, rfl, rfl⟩)
  | deliver i | drop i => exact .inl ((step_transport s rfl).1.subset h)
  | fill _ _ | setActive _ _ => exact .inl h
  | inject m0 =>
    rcases List.mem_append.1 h with h | h
    · exact .inl h
    · exact .inr (.inl (List.mem_singleton.1 h ▸ rfl))

def HopsOne (s : State) : Prop := ∀ m ∈ s.net, m.pid.isSome = true → m.hops = 1

theorem hopsOne_step (s : State) (st : Step) (h : HopsOne s) : HopsOne (step s st) := by
  intro m hm hp
  rcases source_of_mem_step_net hm with hm | hm | ⟨n, c, k, r, -, rfl⟩
  · exact h m hm hp
  · rw [hm] at hp
    cases hp
  · rfl

/-- **C29_hops_one.** In every reachable state every request produced by the protocol carries hop count 1:
    the `maxFlushHops` circuit breaker never trips on it. -/
theorem C29_hops_one (cluster : Nat → Option Nat) (t : List Row) (steps : List Step) :
    ∀ m ∈ (run (init cluster t) steps).net, m.pid.isSome = true → m.hops = 1 ∧ m.hops ≤ maxFlushHops := by
  intro m hm hp
  have h1 := run_invariant hopsOne_step (fun _ hm => (List.not_mem_nil hm).elim) steps m hm hp
  exact ⟨h1, by rw [h1]; decide⟩

/-- purge numbers are fresh and distinct, and every tagged request in flight was produced by the recorded purge
    with that number (same cache, sent by its origin) -/
def TagsOK (s : State) : Prop :=
  (∀ rec ∈ s.hist, rec.pid < s.purges) ∧ (s.hist.map PurgeRec.pid).Nodup ∧
  (∀ m ∈ s.net, ∀ q, m.pid = some q → ∃ rec ∈ s.hist, rec.pid = q ∧ m.cache = rec.cache ∧ m.sender = rec.origin)

theorem tagsOK_step (s : State) (st : Step) (h : TagsOK s) : TagsOK (step s st) := by
  obtain ⟨h1, h2, h3⟩ := h
  have h12 : (∀ rec ∈ (step s st).hist, rec.pid < (step s st).purges) ∧
      ((step s st).hist.map PurgeRec.pid).Nodup := by
    cases st with
    | purge n c =>
      -- the new record takes the number `s.purges`, above every number in use
      refine ⟨List.forall_mem_cons.2 ⟨Nat.lt_succ_self _, fun rec hrec => Nat.lt_succ_of_lt (h1 rec hrec)⟩,
        List.nodup_cons.2 ⟨fun hmem => ?_, h2⟩⟩
      obtain ⟨rec, hrec, hp⟩ := List.mem_map.1 hmem
      exact Nat.lt_irrefl _ (hp ▸ h1 rec hrec)
    | _ =>
      rw [(step_of_not_purge s rfl).1, (step_of_not_purge s rfl).2.1]
      exact ⟨h1, h2⟩
  refine ⟨h12.1, h12.2, fun m hm q hq => ?_⟩
  rcases source_of_mem_step_net hm with hm | hm | ⟨n, c, k, r, rfl, rfl⟩
  · obtain ⟨rec, hrec, hr⟩ := h3 m hm q hq
    exact ⟨rec, mem_hist_step _ hrec, hr⟩
  · rw [hm] at hq
    cases hq
  · exact ⟨⟨s.purges, n, c, s.table⟩, List.mem_cons_self, Option.some.inj hq, rfl, rfl⟩

/-- **C29_tags_faithful.** In every reachable state, purge numbers are distinct and every request tagged `q`
    was sent by the origin of purge `q` for the cache of purge `q`. -/
theorem C29_tags_faithful (cluster : Nat → Option Nat) (t : List Row) (steps : List Step) :
    TagsOK (run (init cluster t) steps) :=
  run_invariant tagsOK_step (s := init cluster t)
    ⟨fun _ hr => (List.not_mem_nil hr).elim, List.nodup_nil, fun _ hm => (List.not_mem_nil hm).elim⟩ steps

/-! ## non-vacuity: concrete clusters meeting the hypotheses, and the contrast with the pre-fix handler -/

/-- four nodes of cluster 7 (node 2 evicted), one node of another cluster in the same database, node 5 standalone -/
def exCluster : Nat → Option Nat := fun i => if i < 4 then some 7 else if i = 9 then some 8 else none
def exTable : List Row :=
  [⟨0, 7, true⟩, ⟨1, 7, true⟩, ⟨2, 7, false⟩, ⟨3, 7, true⟩, ⟨9, 8, true⟩]

example : Consistent exCluster exTable := by
  unfold Consistent
  decide

example : IsActivePeer 0 7 exTable 1 ∧ IsActivePeer 0 7 exTable 3 ∧ ¬ IsActivePeer 0 7 exTable 2 ∧
    ¬ IsActivePeer 0 7 exTable 9 ∧ ¬ IsActivePeer 0 7 exTable 0 := by
  unfold IsActivePeer
  decide

example : PurgersHaveRows exTable [.purge 0 5, .deliver 0, .purge 3 2] := by
  intro n c h
  simp only [List.mem_cons, List.not_mem_nil, or_false] at h
  rcases h with h | h | h
  · cases h; decide
  · cases h
  · cases h; decide

/-- purge on node 0, both requests delivered (in reverse order): 2 requests for 2 active peers out of 4 known
    peers, both peers emptied the cache, nothing left in flight, nothing lost — the hypotheses of `C29_complete`
    are met and so is its conclusion. -/
example :
    let s := run (init exCluster exTable) [.fill 1 5, .fill 3 5, .fill 2 5, .purge 0 5, .deliver 1, .deliver 0]
    s.sent = 2 ∧ s.net = [] ∧ peerCount 0 exTable = 4 ∧
    Ev.discard 1 5 (some 0) ∈ s.log ∧ Ev.discard 3 5 (some 0) ∈ s.log ∧
    (∀ d ∈ [0, 1, 2, 3, 9], Ev.dropped (some 0) d ∉ s.log) ∧
    s.filled 1 5 = false ∧ s.filled 3 5 = false ∧ s.filled 2 5 = true := by
  decide

/-- a lost request is recorded as lost, and the peer keeps its stale cache: the hypothesis "nothing lost" of
    `C29_complete` cannot be dropped -/
example :
    let s := run (init exCluster exTable) [.fill 1 5, .purge 0 5, .drop 0, .deliver 0]
    s.net = [] ∧ Ev.dropped (some 0) 1 ∈ s.log ∧ Ev.discard 1 5 (some 0) ∉ s.log ∧ s.filled 1 5 = true := by
  decide

/-- requests from outside: wrong cluster token → 401, hop count 5 → ignored, hop count 4 and 0 → applied -/
example :
    (flushHandler 1 (some 7) true true true exTable ⟨1, 5, 0, 1, some 8, true, true, none⟩).1 = .unauthorized ∧
    (flushHandler 1 (some 7) true true true exTable ⟨1, 5, 0, 5, some 7, true, true, none⟩).1 = .hopLimit ∧
    (flushHandler 1 (some 7) true true true exTable ⟨1, 5, 0, 4, some 7, true, true, none⟩).1 = .purged ∧
    (flushHandler 1 (some 7) true true true exTable ⟨1, 5, 0, 0, some 7, true, true, none⟩).1 = .purged ∧
    (flushHandler 1 (some 7) true true true exTable ⟨1, 5, 0, 1, some 7, false, true, none⟩).1 = .badRequest ∧
    (flushHandler 5 none true true true exTable ⟨5, 5, 0, 1, some 7, true, true, none⟩).1 = .unauthorized ∧
    (routeFlush 1 (some 7) true true true exTable ⟨1, 5, 0, 1, some 7, true, false, none⟩).1 = .notAcceptable := by
  decide

/-- The sender WITHOUT fixes/C29.patch: SendCacheFlush sets no Accept header, so every request it produces is
    refused by the receiving router. Only used to show what the patch repairs. -/
def stepUnpatched (s : State) : Step → State
  | .purge n c =>
    let s' := step s (.purge n c)
    { s' with net := s.net ++ ((s'.net.drop s.net.length).map fun m => { m with accept := false }) }
  | st => step s st

def runUnpatched (s : State) : List Step → State
  | [] => s
  | st :: rest => runUnpatched (stepUnpatched s st) rest

/-- **Counterexample for the code as shipped.** Two active peers hold cache 5; node 0 purges it; both requests
    are delivered (nothing in flight, nothing lost) — and both peers still hold the stale cache: each request
    was answered 400 by the router. With the patch (`run`) the same schedule empties both. -/
theorem C29_unpatched_incomplete_counterexample :
    let sched := [Step.fill 1 5, .fill 3 5, .purge 0 5, .deliver 0, .deliver 0]
    let u := runUnpatched (init exCluster exTable) sched
    let s := run (init exCluster exTable) sched
    u.net = [] ∧ u.sent = 2 ∧ (∀ d ∈ [0, 1, 2, 3, 9], Ev.dropped (some 0) d ∉ u.log) ∧
    Ev.refused (some 0) 1 .notAcceptable ∈ u.log ∧ Ev.refused (some 0) 3 .notAcceptable ∈ u.log ∧
    Ev.discard 1 5 (some 0) ∉ u.log ∧ u.filled 1 5 = true ∧ u.filled 3 5 = true ∧
    s.net = [] ∧ Ev.discard 1 5 (some 0) ∈ s.log ∧ s.filled 1 5 = false ∧ s.filled 3 5 = false := by
  decide

/-- The handler as it was before CLUSTER-1: it applied a received flush with caches.Purge (notify = true).
    Only used to show what the theorems rule out. -/
def stepPreFix (s : State) : Step → State
  | .deliver i =>
    match s.net[i]? with
    | none => s
    | some m =>
      let r := nodePurge s m.dest true m.cache m.pid
      { s with net := s.net.eraseIdx i ++ r.2.2, sent := s.sent + r.2.2.length }
  | st => step s st

def runPreFix (s : State) : List Step → State
  | [] => s
  | st :: rest => runPreFix (stepPreFix s st) rest

/-- ONE purge in the 3-active-node cluster, then 12 deliveries: the pre-fix handler has sent 26 requests and 14
    are in flight (the storm), while the current handler sent 2 and is quiet — `C29_total_bounded_peers` gives
    the bound 1 × (5 - 1) for the latter. -/
theorem C29_prefix_storm_example :
    let sched := Step.purge 0 5 :: List.replicate 12 (Step.deliver 0)
    (runPreFix (init exCluster exTable) sched).sent = 26 ∧
    (runPreFix (init exCluster exTable) sched).net.length = 14 ∧
    (run (init exCluster exTable) sched).sent = 2 ∧
    (run (init exCluster exTable) sched).net.length = 0 := by
  decide

/-! ## per-peer timeouts: a slow or failing peer never affects delivery to the others -/

theorem sendResult_received (b : PeerBeh) : (sendResult b).received = true ↔ b ≠ .unreachable := by
  cases b with
  | answers st lat => simp only [sendResult]; split <;> simp
  | hangsUp => simp [sendResult]
  | unreachable => simp [sendResult]

theorem sendResult_took_le (b : PeerBeh) : (sendResult b).tookMs ≤ clientTimeoutMs := by
  cases b with
  | answers st lat =>
    rw [sendResult]
    split
    · exact Nat.le_refl _
    · exact Nat.not_lt.1 ‹_›
  | hangsUp => exact Nat.zero_le _
  | unreachable => exact Nat.zero_le _

section
variable (self k : Nat) (beh : Nat → PeerBeh) (c : Int) (pid : Option Nat) (l : List Row)

theorem broadcastLoop_eq_map :
    broadcastLoop self k beh c pid l =
      l.map (fun p => (sendCacheFlush self k p c originHopCount pid, sendResult (beh p.id))) := by
  induction l with
  | nil => rfl
  | cons p l ih => rw [broadcastLoop, ih, List.map_cons]

theorem receivedOf_broadcastLoop :
    receivedOf (broadcastLoop self k beh c pid l) =
      (l.filter (fun p => (sendResult (beh p.id)).received)).map
        (fun p => sendCacheFlush self k p c originHopCount pid) := by
  rw [receivedOf, broadcastLoop_eq_map, List.filter_map, List.map_map]
  rfl

theorem elapsed_loop_le :
    elapsedMs (broadcastLoop self k beh c pid l) ≤ clientTimeoutMs * l.length := by
  induction l with
  | nil => exact Nat.le_refl _
  | cons q l ih =>
    have h := sendResult_took_le (beh q.id)
    unfold elapsedMs at ih ⊢
    simp only [broadcastLoop, List.map_cons, List.sum_cons, List.length_cons, Nat.mul_succ]
    omega

end

/-- **The requests issued do not depend on what any peer does** (answer, error status, hang-up, dead port, answer
    later than the client timeout): they are those of `broadcastCacheFlush`, the function the N-node composition
    uses. A request that is not received or not answered is a `drop` step there. -/
theorem C29_send_outcomes_isolated (self : Nat) (cl : Option Nat) (db : Bool) (t : List Row) (beh : Nat → PeerBeh)
    (c : Int) (pid : Option Nat) :
    (broadcastWith self cl db t beh c pid).map (·.1) = broadcastCacheFlush self cl db t c pid := by
  cases cl with
  | none => rfl
  | some k =>
    cases db
    · rfl
    · show (broadcastLoop self k beh c pid _).map (·.1) = _
      rw [broadcastLoop_eq_map, List.map_map]
      rfl

theorem purgeNodeWith_map_fst (self : Nat) (cl : Option Nat) (db hook on notify : Bool) (t : List Row)
    (beh : Nat → PeerBeh) (c : Int) (pid : Option Nat) :
    (purgeNodeWith self cl db hook on notify t beh c pid).1 = (purgeNode self cl db hook on notify t c pid).1 ∧
    (purgeNodeWith self cl db hook on notify t beh c pid).2.1 = (purgeNode self cl db hook on notify t c pid).2.1 ∧
    (purgeNodeWith self cl db hook on notify t beh c pid).2.2.map (·.1) =
      (purgeNode self cl db hook on notify t c pid).2.2 := by
  refine ⟨rfl, rfl, ?_⟩
  simp only [purgeNodeWith, purgeNode]
  cases (cachePurge on notify hook).2
  · rfl
  · exact C29_send_outcomes_isolated ..

/-- **C29_slow_peer_isolated.** With a primary key on node_id: an active peer whose endpoint receives requests at all
    (it may answer, answer an error, hang up, or answer after the client timeout) receives EXACTLY ONE request for a
    purge — whatever every other peer does, in particular however long the peers before it in join order hold
    their requests. (`beh` is universally quantified: nothing is assumed about the others.) -/
theorem C29_slow_peer_isolated (self k : Nat) (t : List Row) (beh : Nat → PeerBeh) (c : Int) (pid : Option Nat)
    (hnd : (t.map Row.id).Nodup) (p : Nat) (hp : IsActivePeer self k t p)
    (hrec : (sendResult (beh p)).received = true) :
    ((receivedOf (purgeNodeWith self (some k) true true true true t beh c pid).2.2).filter
      (fun m => m.dest == p)).length = 1 := by
  obtain ⟨r, hr, rfl, hn, ha, hi⟩ := hp
  show ((receivedOf (broadcastLoop self k beh c pid (listActiveMembers self k t))).filter _).length = 1
  rw [receivedOf_broadcastLoop, length_filter_dest _ _ (fun _ => rfl)]
  -- the receiving active members are a sublist of the table, so their ids are distinct; `r` is one of them
  rw [List.Nodup.count (((List.filter_sublist.trans (listActiveMembers_sublist self k t)).map Row.id).nodup hnd),
    if_pos]
  exact List.mem_map_of_mem (List.mem_filter.2 ⟨mem_listActiveMembers.2 ⟨hr, hn, ha, hi⟩, hrec⟩)

/-- the price of per-peer timeouts: the broadcast goroutine is busy for at most 5 s per peer -/
theorem C29_broadcast_time_bounded (self : Nat) (cl : Option Nat) (db : Bool) (t : List Row) (beh : Nat → PeerBeh)
    (c : Int) (pid : Option Nat) :
    elapsedMs (broadcastWith self cl db t beh c pid) ≤ clientTimeoutMs * peerCount self t := by
  cases cl with
  | none => exact Nat.zero_le _
  | some k =>
    cases db
    · exact Nat.zero_le _
    · exact Nat.le_trans (elapsed_loop_le ..) (Nat.mul_le_mul_left _ (listActiveMembers_length_le self k t))

/-- non-vacuity: node 0 purges; peer 1 (first in join order) holds its request for 9 s, peer 2 answers 500, peer 3 is a
    dead port, peers 4 and 5 are healthy: 1, 2, 4, 5 each receive exactly one request, 3 none; 5 s are spent. -/
example :
    let t : List Row := [⟨1, 7, true⟩, ⟨2, 7, true⟩, ⟨0, 7, true⟩, ⟨3, 7, true⟩, ⟨4, 7, true⟩, ⟨5, 7, true⟩]
    let beh : Nat → PeerBeh := fun i =>
      if i = 1 then .answers 200 9000 else if i = 2 then .answers 500 3 else if i = 3 then .unreachable
      else .answers 200 1
    let r := (purgeNodeWith 0 (some 7) true true true true t beh 5 none).2.2
    (receivedOf r).map (·.dest) = [1, 2, 4, 5] ∧ elapsedMs r = 5005 ∧
      IsActivePeer 0 7 t 4 ∧ (sendResult (beh 4)).received = true ∧ (t.map Row.id).Nodup := by
  refine ⟨by decide, by decide, ⟨⟨4, 7, true⟩, by decide, rfl, rfl, rfl, by decide⟩, by decide, by decide⟩

/-! ## overlapping purges of one cache: every purge is announced on its own -/

theorem receivedOf_append (a b : List (Msg × SendResult)) : receivedOf (a ++ b) = receivedOf a ++ receivedOf b := by
  simp only [receivedOf, List.filter_append, List.map_append]

theorem purgeNodeWith_pid {self : Nat} {cl : Option Nat} {db hook on notify : Bool} {t : List Row}
    {beh : Nat → PeerBeh} {c : Int} {pid : Option Nat} {m : Msg}
    (hm : m ∈ receivedOf (purgeNodeWith self cl db hook on notify t beh c pid).2.2) : m.pid = pid := by
  have hm' : m ∈ (purgeNodeWith self cl db hook on notify t beh c pid).2.2.map (·.1) :=
    (List.filter_sublist.map _).subset hm
  rw [(purgeNodeWith_map_fst ..).2.2] at hm'
  obtain ⟨k, r, -, -, rfl⟩ := mem_purgeNode_sends hm'
  rfl

section
variable (self k : Nat) (t : List Row) (beh : Nat → PeerBeh) (c : Int) (hnd : (t.map Row.id).Nodup) (p : Nat)
  (hp : IsActivePeer self k t p) (hrec : (sendResult (beh p)).received = true)
include hnd hp hrec

theorem purge_count_dest_pid (pid0 q : Nat) :
    ((receivedOf (purgeNodeWith self (some k) true true true true t beh c (some pid0)).2.2).filter
      (fun m => m.dest == p && m.pid == some q)).length = [pid0].count q := by
  rw [List.count_singleton]
  split
  next h =>
    cases eq_of_beq h
    rw [← C29_slow_peer_isolated self k t beh c (some pid0) hnd p hp hrec]
    refine congrArg _ (List.filter_congr fun m hm => ?_)
    rw [purgeNodeWith_pid hm, beq_self_eq_true, Bool.and_true]
  next h =>
    refine List.length_eq_zero_iff.2 (List.filter_eq_nil_iff.2 fun m hm => ?_)
    rw [purgeNodeWith_pid hm]
    simpa using fun _ => h

theorem burst_count_dest_pid (q n : Nat) : ∀ pid0,
    ((receivedOf (purgeBurstWith self (some k) true true true t beh c pid0 n)).filter
      (fun m => m.dest == p && m.pid == some q)).length = (List.range' pid0 n).count q := by
  induction n with
  | zero => exact fun _ => rfl
  | succ n ih =>
    intro pid0
    rw [purgeBurstWith, receivedOf_append, List.filter_append, List.length_append, ih,
      purge_count_dest_pid self k t beh c hnd p hp hrec]
    exact List.count_append.symm

end

/-- **C29_burst_every_peer_counts.** `n` purges of one cache on a node, however they overlap with the broadcasts still
    in progress (the model keeps nothing between purges): an active peer whose endpoint receives requests at all
    receives exactly `n` of them — whatever the other peers do, in particular while one of them sits on its request. -/
theorem C29_burst_every_peer_counts (self k : Nat) (t : List Row) (beh : Nat → PeerBeh) (c : Int)
    (hnd : (t.map Row.id).Nodup) (p : Nat) (hp : IsActivePeer self k t p)
    (hrec : (sendResult (beh p)).received = true) (n : Nat) : ∀ pid0,
    ((receivedOf (purgeBurstWith self (some k) true true true t beh c pid0 n)).filter
      (fun m => m.dest == p)).length = n := by
  induction n with
  | zero => exact fun _ => rfl
  | succ n ih =>
    intro pid0
    rw [purgeBurstWith, receivedOf_append, List.filter_append, List.length_append, ih (pid0 + 1),
      C29_slow_peer_isolated self k t beh c (some pid0) hnd p hp hrec, Nat.add_comm]

/-- **C29_overlapping_purges_each_announced.** Every single purge of the burst (the `j`-th, numbered `pid0 + j`) is
    announced to every active peer whose endpoint receives requests by EXACTLY ONE request of its own: a later purge
    is never left to a broadcast that an earlier purge started (whose requests may already have been delivered, and
    the peer's cache reloaded since). -/
theorem C29_overlapping_purges_each_announced (self k : Nat) (t : List Row) (beh : Nat → PeerBeh) (c : Int)
    (hnd : (t.map Row.id).Nodup) (p : Nat) (hp : IsActivePeer self k t p)
    (hrec : (sendResult (beh p)).received = true) (n : Nat) : ∀ pid0 j, j < n →
    ((receivedOf (purgeBurstWith self (some k) true true true t beh c pid0 n)).filter
      (fun m => m.dest == p && m.pid == some (pid0 + j))).length = 1 := by
  intro pid0 j hj
  rw [burst_count_dest_pid self k t beh c hnd p hp hrec, List.Nodup.count (List.nodup_range' ..)]
  exact if_pos (List.mem_range'_1.2 ⟨Nat.le_add_right _ _, Nat.add_lt_add_left hj _⟩)

/-- the hook fires once per purge of the burst -/
theorem C29_burst_fires_each (n : Nat) : purgeBurstFired true true n = n := rfl

/-- non-vacuity (the scenario of the harness corpus): node 0, peers 1 (fast), 2 (sits on its request, answers within the
    limit), 3 (fast); three purges of cache 5 while 2 holds the first: 1, 2 and 3 each receive three requests, one per
    purge number. -/
example :
    let t : List Row := [⟨0, 7, true⟩, ⟨1, 7, true⟩, ⟨2, 7, true⟩, ⟨3, 7, true⟩]
    let beh : Nat → PeerBeh := fun i => if i = 2 then .answers 200 1 else .answers 200 0
    let r := receivedOf (purgeBurstWith 0 (some 7) true true true t beh 5 10 3)
    r.map (fun m => (m.dest, m.pid)) =
        [(1, some 10), (2, some 10), (3, some 10), (1, some 11), (2, some 11), (3, some 11),
         (1, some 12), (2, some 12), (3, some 12)] ∧
      IsActivePeer 0 7 t 1 ∧ (sendResult (beh 1)).received = true ∧ (t.map Row.id).Nodup := by
  refine ⟨by decide, ⟨⟨1, 7, true⟩, by decide, rfl, rfl, rfl, by decide⟩, by decide, by decide⟩

end EgoVerif.C29
