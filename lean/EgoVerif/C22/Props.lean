import EgoVerif.C22.Model
/-
C22 — JWT bearer tokens are verified and revocable.  The theorems are about `World.fixed = true` (the code with
fixes/C22.patch), except `C22_unpatched_counterexample`; all quantify over the library verdict `W.lib`, the
start-up JWKS document, the configuration and the whole history (cache evictions and replacements of the
provider's document included).  The state `St` is run side by side with two ghosts that are functions of the
history alone: the revoked-now predicate (`rvStep`) and the provider's publication record (`Prov`).  `Inv` relates
the three, every operation keeps it (`step_inv`), and one call of ValidateJWT from a state that satisfies it is
described by `CallOK` (`present_ok`); the `C22_*` theorems read their conclusions off `answer_ok`.
-/
namespace EgoVerif.C22

theorem lookupK_delK {α : Type} (l : List (Nat × α)) (k x : Nat) :
    lookupK (delK l k) x = if x = k then none else lookupK l x := by
  induction l with
  | nil => exact (ite_self none).symm
  | cons p l ih =>
    by_cases hk : k = p.1
    · rw [delK, if_pos hk, ih, lookupK]
      by_cases hx : x = k
      · rw [if_pos hx, if_pos hx]
      · rw [if_neg hx, if_neg hx, if_neg (hk ▸ hx)]
    · rw [delK, if_neg hk, lookupK, lookupK, ih]
      by_cases hx : x = p.1
      · rw [if_pos hx, if_pos hx, if_neg (hx ▸ Ne.symm hk)]
      · rw [if_neg hx, if_neg hx]

theorem lookupK_delK_some {α : Type} {l : List (Nat × α)} {k x : Nat} {v : α}
    (h : lookupK (delK l k) x = some v) : lookupK l x = some v := by
  rw [lookupK_delK] at h
  split at h
  · cases h
  · exact h

theorem AlgFam.rsa_or_ecdsa {a : AlgFam} (h : a ≠ .other) : a = .rsa ∨ a = .ecdsa := by
  cases a with
  | rsa => exact .inl rfl
  | ecdsa => exact .inr rfl
  | other => exact absurd rfl h

theorem mem_usable {ks : List Jwk} {e : PubKey} (h : e ∈ usable ks) :
    ∃ j ∈ ks, j.useOK = true ∧ j.ktyOK = true ∧ e = ⟨j.kid, j.id⟩ := by
  induction ks with
  | nil => cases h
  | cons a ks ih =>
    simp only [usable] at h
    split at h
    · next hu =>
      cases h with
      | head => exact ⟨a, List.mem_cons_self, (Bool.and_eq_true _ _ ▸ hu).1, (Bool.and_eq_true _ _ ▸ hu).2, rfl⟩
      | tail _ h => exact (ih h).imp fun j hj => ⟨List.mem_cons_of_mem _ hj.1, hj.2⟩
    · exact (ih h).imp fun j hj => ⟨List.mem_cons_of_mem _ hj.1, hj.2⟩

theorem findKeyByID_some {l : List PubKey} {kid k : Nat} (h : findKeyByID l kid = some k) :
    ∃ e ∈ l, e.kid = kid ∧ e.id = k := by
  induction l with
  | nil => cases h
  | cons a l ih =>
    simp only [findKeyByID] at h
    split at h
    · next hk => exact ⟨a, List.mem_cons_self, hk, Option.some.inj h⟩
    · obtain ⟨e, he, r⟩ := ih h
      exact ⟨e, List.mem_cons_of_mem _ he, r⟩

theorem selectKey_published {ks : List Jwk} {alg : AlgFam} {kid k : Nat}
    (h : selectKey (usable ks) alg kid = some k) :
    alg ≠ .other ∧ ∃ j, j ∈ ks ∧ j.useOK = true ∧ j.ktyOK = true ∧ j.id = k ∧ (kid ≠ 0 → j.kid = kid) := by
  unfold selectKey at h
  split at h
  · cases h
  next ha =>
  refine ⟨ha, ?_⟩
  have he : ∃ e ∈ usable ks, e.id = k ∧ (kid ≠ 0 → e.kid = kid) := by
    split at h
    · obtain ⟨e, he, h3, h4⟩ := findKeyByID_some h
      exact ⟨e, he, h4, fun _ => h3⟩
    · next hk =>
      split at h
      · cases h
      · next e es hu => exact ⟨e, hu ▸ List.mem_cons_self, Option.some.inj h, fun h0 => absurd h0 hk⟩
  obtain ⟨e, he, h1, h2⟩ := he
  obtain ⟨j, hj, hu, ht, rfl⟩ := mem_usable he
  exact ⟨j, hj, hu, ht, h1, h2⟩

theorem publishes_of_mem {doc : List Jwk} {e : PubKey} (h : e ∈ usable doc) :
    publishes doc e.kid e.id = true :=
  List.any_eq_true.mpr ⟨e, h, by simp⟩

/-- `q` knows at least as recent a publication of every key as `p` -/
def Prov.le (p q : Prov) : Prop :=
  ∀ kid id τ, p.last kid id = some τ → ∃ τ', q.last kid id = some τ' ∧ τ ≤ τ'

theorem Prov.le_refl (p : Prov) : p.le p := fun _ _ τ h => ⟨τ, h, Nat.le_refl _⟩

structure Prov.WF (p : Prov) : Prop where
  lastLe : ∀ kid id τ, p.last kid id = some τ → τ ≤ p.now
  cur : ∀ kid id, publishes p.doc kid id = true → p.last kid id = some p.now

theorem Prov.mark_spec {p : Prov} (h : ∀ kid id τ, p.last kid id = some τ → τ ≤ p.now) :
    p.mark.WF ∧ p.le p.mark := by
  refine ⟨⟨fun kid id τ hl => ?_, fun kid id hp => if_pos hp⟩, fun kid id τ hl => ?_⟩
  · simp only [Prov.mark] at hl
    split at hl
    · cases hl; exact Nat.le_refl _
    · exact h kid id τ hl
  · simp only [Prov.mark]
    split
    · exact ⟨p.now, rfl, h kid id τ hl⟩
    · exact ⟨τ, hl, Nat.le_refl _⟩

theorem Prov.init_wf (t0 : Nat) (jwks : List Jwk) : (Prov.init t0 jwks).WF :=
  (Prov.mark_spec (by intro _ _ _ h; cases h)).1

/-- only `advance` and `setKeys` touch the record, and both end in `mark` -/
theorem Prov.step_spec {p : Prov} (h : p.WF) (o : Op) : (p.step o).WF ∧ p.le (p.step o) := by
  cases o with
  | advance dt =>
    exact Prov.mark_spec (p := { p with now := p.now + dt })
      fun kid id τ hl => Nat.le_trans (h.lastLe kid id τ hl) (Nat.le_add_right _ _)
  | setKeys doc => exact Prov.mark_spec (p := { p with doc := doc, rotated := true }) h.lastLe
  | _ => exact ⟨h, p.le_refl⟩

theorem Prov.step_now (p : Prov) (o : Op) : (p.step o).now = clkStep p.now o := by
  cases o <;> rfl

theorem Prov.step_doc (p : Prov) (o : Op) :
    (p.step o).doc = match o with | .setKeys d => d | _ => p.doc := by
  cases o <;> rfl

theorem Prov.run_now (ops : List Op) : ∀ p : Prov, (Prov.run p ops).now = clock p.now ops := by
  induction ops with
  | nil => intro p; rfl
  | cons o os ih => intro p; simp only [Prov.run, clock]; rw [ih, Prov.step_now]

theorem Prov.run_wf (ops : List Op) : ∀ {p : Prov}, p.WF → (Prov.run p ops).WF := by
  induction ops with
  | nil => intro p h; exact h
  | cons o os ih => intro p h; exact ih (Prov.step_spec h o).1

theorem Prov.run_append (a b : List Op) : ∀ p : Prov, Prov.run p (a ++ b) = Prov.run (Prov.run p a) b := by
  induction a with
  | nil => intro p; rfl
  | cons o os ih => intro p; exact ih _

theorem clock_append (a b : List Op) : ∀ t : Nat, clock t (a ++ b) = clock (clock t a) b := by
  induction a with
  | nil => intro t; rfl
  | cons o os ih => intro t; exact ih _

theorem clock_mono (ops : List Op) : ∀ t : Nat, t ≤ clock t ops := by
  induction ops with
  | nil => intro t; exact Nat.le_refl _
  | cons o os ih =>
    intro t
    refine Nat.le_trans ?_ (ih _)
    cases o with
    | advance dt => exact Nat.le_add_right _ _
    | _ => exact Nat.le_refl _

theorem Prov.run_rotated (ops : List Op) : ∀ p : Prov, noRotation ops = true →
    (Prov.run p ops).rotated = p.rotated := by
  induction ops with
  | nil => intro p _; rfl
  | cons o os ih =>
    intro p h
    cases o with
    | setKeys d => cases h
    | _ => exact ih _ h

theorem Prov.run_last_unchanged (kid id : Nat) (ops : List Op) : ∀ p : Prov,
    publishes p.doc kid id = false → (∀ d, Op.setKeys d ∈ ops → publishes d kid id = false) →
    (Prov.run p ops).last kid id = p.last kid id := by
  induction ops with
  | nil => intro p _ _; rfl
  | cons o os ih =>
    intro p hp hd
    have hd' : ∀ d, Op.setKeys d ∈ os → publishes d kid id = false :=
      fun d h => hd d (List.mem_cons_of_mem _ h)
    cases o with
    | setKeys d =>
      have hdd := hd d List.mem_cons_self
      exact (ih (p.step (.setKeys d)) hdd hd').trans (if_neg (by rw [hdd]; exact Bool.false_ne_true))
    | advance dt =>
      exact (ih (p.step (.advance dt)) hp hd').trans (if_neg (by rw [hp]; exact Bool.false_ne_true))
    | _ => exact ih p hp hd'

/-- **The verifying key was published, and recently enough**, relative to the instant `v` at which the
    token's signature was checked: the signature verifies under key `id`; the provider's document published
    `id` (under the kid the header names, if it names one) at an instant `τ`; and for a token WITH a kid,
    `τ` is not before `v` or less than one JWKS TTL before `v`. -/
def KeyWas (W : World) (p : Prov) (t : Tok) (v : Nat) : Prop :=
  (t.alg = .rsa ∨ t.alg = .ecdsa) ∧
  ∃ kid id τ, t.sigBy = some id ∧ (t.kid ≠ 0 → kid = t.kid) ∧ p.last kid id = some τ ∧
    (t.kid ≠ 0 → v ≤ τ ∨ v < τ + W.jwksTTL)

theorem KeyWas.mono {W : World} {p q : Prov} {t : Tok} {v : Nat} (h : KeyWas W p t v) (hle : p.le q) :
    KeyWas W q t v := by
  obtain ⟨ha, kid, id, τ, h1, h2, h3, h4⟩ := h
  obtain ⟨τ', h5, h6⟩ := hle kid id τ h3
  refine ⟨ha, kid, id, τ', h1, h2, h5, fun hk => ?_⟩
  have := h4 hk
  omega

/-! ## the JWKS cache: jwks.go -/

/-- what the JWKS cache holds was published by the provider at the time of the fetch or later -/
structure JInv (s : St) (p : Prov) : Prop where
  hnow : s.now = p.now
  hdoc : s.pub = p.doc
  jc : ∀ e, e ∈ s.jc → ∃ τ, p.last e.kid e.id = some τ ∧ s.jcAt ≤ τ

/-- the parts of the state the key lookup never touches -/
structure Frame (s s' : St) : Prop where
  now : s'.now = s.now
  cache : s'.cache = s.cache
  revoked : s'.revoked = s.revoked
  blCache : s'.blCache = s.blCache
  pub : s'.pub = s.pub

theorem Frame.refl (s : St) : Frame s s := ⟨rfl, rfl, rfl, rfl, rfl⟩

def FixJ (W : World) (s : St) : Prop := s.pub = W.jwks ∧ s.jc = usable W.jwks

/-- `r` is the outcome of a key lookup made in state `s`; `v` is what the lookup answers while the provider still
    serves its start-up document -/
structure KeyStep {α : Type} (W : World) (p : Prov) (s : St) (r : St × α) (v : α) : Prop where
  frame : Frame s r.1
  jinv : JInv r.1 p
  fix : FixJ W s → FixJ W r.1 ∧ r.2 = v

section
variable {W : World} {p : Prov} {s : St}

theorem JInv.jc_mono {q : Prov} (h : JInv s p) (hle : p.le q) :
    ∀ e, e ∈ s.jc → ∃ τ, q.last e.kid e.id = some τ ∧ s.jcAt ≤ τ := fun e he =>
  have ⟨_, h1, h2⟩ := h.jc e he
  have ⟨τ', h3, h4⟩ := hle _ _ _ h1
  ⟨τ', h3, Nat.le_trans h2 h4⟩

theorem KeyStep.id {α : Type} {a v : α} (hj : JInv s p)
    (hv : FixJ W s → a = v) : KeyStep W p s (s, a) v :=
  ⟨Frame.refl s, hj, fun hf => ⟨hf, hv hf⟩⟩

theorem refreshJWKS_eq (s : St) :
    refreshJWKS s =
      if usable s.pub = [] then (s, false) else ({ s with jc := usable s.pub, jcAt := s.now }, true) := by
  unfold refreshJWKS
  split <;> simp [*]

theorem refreshJWKS_ok (hw : p.WF) (hj : JInv s p) :
    Frame s (refreshJWKS s).1 ∧ JInv (refreshJWKS s).1 p ∧ (FixJ W s → FixJ W (refreshJWKS s).1) ∧
    if (refreshJWKS s).2 = true then ∀ e ∈ (refreshJWKS s).1.jc, p.last e.kid e.id = some p.now
    else usable s.pub = [] := by
  rw [refreshJWKS_eq]
  by_cases hu : usable s.pub = []
  · rw [if_pos hu]
    exact ⟨Frame.refl s, hj, id, hu⟩
  · rw [if_neg hu]
    have hnow : ∀ e ∈ usable s.pub, p.last e.kid e.id = some p.now :=
      fun e he => hw.cur _ _ (hj.hdoc ▸ publishes_of_mem he)
    exact ⟨⟨rfl, rfl, rfl, rfl, rfl⟩, ⟨hj.hnow, hj.hdoc, fun e he => ⟨p.now, hnow e he, Nat.le_of_eq hj.hnow⟩⟩,
      fun hf => ⟨hf.1, congrArg usable hf.1⟩, hnow⟩

theorem lookupAfterRefresh_ok (hw : p.WF) (hj : JInv s p) (kid : Nat) :
    KeyStep W p s (lookupAfterRefresh s kid) (findKeyByID (usable W.jwks) kid) ∧
    ∀ k, (lookupAfterRefresh s kid).2 = some k → p.last kid k = some p.now := by
  obtain ⟨fr, ji, fx, h⟩ := refreshJWKS_ok (W := W) hw hj
  simp only [lookupAfterRefresh]
  split
  · next h2 =>
    rw [if_pos h2] at h
    refine ⟨⟨fr, ji, fun hf => ⟨fx hf, congrArg (findKeyByID · kid) (fx hf).2⟩⟩, fun k hk => ?_⟩
    obtain ⟨e, he, h3, h4⟩ := findKeyByID_some hk
    exact h3 ▸ h4 ▸ h e he
  · next h2 =>
    rw [if_neg h2] at h
    exact ⟨⟨fr, ji, fun hf => ⟨fx hf, by rw [← hf.1, h]; rfl⟩⟩, fun k hk => nomatch hk⟩

theorem fresh_bound {now fetched ttl τ : Nat} (h : now - fetched < ttl) (hτ : fetched ≤ τ) :
    now ≤ τ ∨ now < τ + ttl := by
  omega

theorem keyByID_ok (hw : p.WF) (hj : JInv s p) (kid : Nat) :
    KeyStep W p s (keyByID W s kid) (findKeyByID (usable W.jwks) kid) ∧
    ∀ k, (keyByID W s kid).2 = some k →
      ∃ τ, p.last kid k = some τ ∧ (s.now ≤ τ ∨ s.now < τ + W.jwksTTL) := by
  unfold keyByID
  split
  · next hfresh =>
    split
    · next k hfind =>
      refine ⟨KeyStep.id hj fun hf => by rw [← hf.2, hfind], fun k' hk' => ?_⟩
      cases hk'
      obtain ⟨e, he, h3, h4⟩ := findKeyByID_some hfind
      obtain ⟨τ, h5, h6⟩ := hj.jc e he
      simp only [jcFresh, Bool.and_eq_true, decide_eq_true_eq] at hfresh
      exact ⟨τ, h3 ▸ h4 ▸ h5, fresh_bound hfresh.2 h6⟩
    · next hfind =>
      split
      · exact ⟨KeyStep.id hj fun hf => by rw [← hf.2, hfind], fun k hk => nomatch hk⟩
      · -- `missLast` is read by none of `JInv`, `Frame`, `FixJ`: their fields at `{ s with missLast := _ }` are
        -- those at `s`, up to unfolding the projections
        obtain ⟨l, lk⟩ := lookupAfterRefresh_ok (W := W) (s := { s with missLast := some s.now }) hw
          ⟨hj.hnow, hj.hdoc, hj.jc⟩ kid
        exact ⟨⟨⟨l.frame.now, l.frame.cache, l.frame.revoked, l.frame.blCache, l.frame.pub⟩, l.jinv, l.fix⟩,
          fun k hk => ⟨p.now, lk k hk, Or.inl (Nat.le_of_eq hj.hnow)⟩⟩
  · obtain ⟨l, lk⟩ := lookupAfterRefresh_ok (W := W) hw hj kid
    exact ⟨l, fun k hk => ⟨p.now, lk k hk, Or.inl (Nat.le_of_eq hj.hnow)⟩⟩

theorem selectKeyS_nokid {alg : AlgFam} (ha : alg ≠ .other) :
    ∃ s1, (s1 = s ∨ s1 = (refreshJWKS s).1) ∧ selectKeyS W s alg 0 = (s1, s1.jc.head?.map PubKey.id) := by
  refine ⟨if s.jc.isEmpty then (refreshJWKS s).1 else s, by split <;> simp, ?_⟩
  simp only [selectKeyS, if_neg ha, ne_eq, not_true_eq_false, if_false]
  split
  · next h => rw [h]; rfl
  · next h => rw [h]; rfl

theorem selectKey_nokid {keys : List PubKey} {alg : AlgFam} (ha : alg ≠ .other) :
    selectKey keys alg 0 = keys.head?.map PubKey.id := by
  simp only [selectKey, if_neg ha, ne_eq, not_true_eq_false, if_false]
  split <;> rfl

theorem selectKeyS_ok (hw : p.WF) (hj : JInv s p) (alg : AlgFam) (kid : Nat) :
    KeyStep W p s (selectKeyS W s alg kid) (selectKey (usable W.jwks) alg kid) ∧
    ∀ k, (selectKeyS W s alg kid).2 = some k →
      alg ≠ .other ∧ ∃ kid' τ, (kid ≠ 0 → kid' = kid) ∧ p.last kid' k = some τ ∧
        (kid ≠ 0 → s.now ≤ τ ∨ s.now < τ + W.jwksTTL) := by
  by_cases ha : alg = .other
  · subst ha
    exact ⟨KeyStep.id hj fun _ => rfl, fun k hk => nomatch hk⟩
  by_cases hk : kid = 0
  · subst hk
    obtain ⟨s1, hs, he⟩ := selectKeyS_nokid (W := W) (s := s) ha
    rw [he, selectKey_nokid ha]
    have ⟨hfr, hj1, hfx⟩ : Frame s s1 ∧ JInv s1 p ∧ (FixJ W s → FixJ W s1) := by
      rcases hs with rfl | rfl
      · exact ⟨Frame.refl _, hj, id⟩
      · have ⟨a, b, c, _⟩ := refreshJWKS_ok (W := W) hw hj
        exact ⟨a, b, c⟩
    refine ⟨⟨hfr, hj1, fun hf => ⟨hfx hf, by rw [(hfx hf).2]⟩⟩, fun k hk' => ?_⟩
    obtain ⟨e, he, rfl⟩ := Option.map_eq_some_iff.mp hk'
    obtain ⟨τ, h5, _⟩ := hj1.jc e (List.mem_of_mem_head? he)
    exact ⟨ha, e.kid, τ, nofun, h5, nofun⟩
  · simp only [selectKeyS, selectKey, if_neg ha, ne_eq, hk, not_false_eq_true, if_true]
    obtain ⟨l, lk⟩ := keyByID_ok (W := W) hw hj kid
    exact ⟨l, fun k hk' => have ⟨τ, h1, h2⟩ := lk k hk'; ⟨ha, kid, τ, fun _ => rfl, h1, fun _ => h2⟩⟩

theorem libRun_ok (hw : p.WF) (hj : JInv s p) (t : Tok) :
    KeyStep W p s (libRun W s t) (libAccepts W t s.now) ∧
    ((libRun W s t).2 = true → t.parseOK = true ∧ claimsOK W.cfg t s.now = true ∧ KeyWas W p t s.now) := by
  simp only [libRun, libAccepts, sigOK]
  cases hp : t.parseOK with
  | false => exact ⟨KeyStep.id hj fun _ => rfl, fun h => nomatch h⟩
  | true =>
    obtain ⟨sel, selk⟩ := selectKeyS_ok (W := W) hw hj t.alg t.kid
    refine ⟨⟨sel.frame, sel.jinv, fun hf => ⟨(sel.fix hf).1, by rw [(sel.fix hf).2]; rfl⟩⟩, fun hacc => ?_⟩
    simp only [Bool.not_true, Bool.false_eq_true, if_false, Bool.and_eq_true] at hacc
    obtain ⟨hs, hc⟩ := hacc
    refine ⟨rfl, hc, ?_⟩
    split at hs
    · next k hk =>
      obtain ⟨ha, kid', τ, h1, h2, h3⟩ := selk k hk
      exact ⟨AlgFam.rsa_or_ecdsa ha, kid', k, τ, by simpa using hs, h1, h2, h3⟩
    · cases hs

end

/-- under a provider that never changed its document, the stateful key selection is the pure one -/
theorem selectKeyS_fixed {W : World} {p : Prov} {s : St} (hw : p.WF) (hj : JInv s p) (hf : FixJ W s)
    (alg : AlgFam) (kid : Nat) : (selectKeyS W s alg kid).2 = selectKey (usable W.jwks) alg kid :=
  ((selectKeyS_ok (W := W) hw hj alg kid).1.fix hf).2

theorem libAccepts_iff {W : World} {t : Tok} {now : Nat} :
    libAccepts W t now = true ↔ t.parseOK = true ∧ sigOK W t = true ∧ claimsOK W.cfg t now = true := by
  simp only [libAccepts, Bool.and_eq_true, and_assoc]

theorem claimsOK_iff {c : Cfg} {t : Tok} {now : Nat} :
    claimsOK c t now = true ↔
      now < t.exp ∧ t.nbf ≤ now ∧ (!c.audRequired || t.audOK) = true ∧ (!c.issRequired || t.issOK) = true := by
  simp only [claimsOK, Bool.and_eq_true, decide_eq_true_eq, and_assoc]

theorem orNot_imp {a b : Bool} (h : (!a || b) = true) : a = true → b = true := by
  cases a <;> cases b <;> simp at h ⊢

/-- what must be true of a JWT cache entry -/
structure GoodEntry (W : World) (p : Prov) (now tid : Nat) (e : Entry) : Prop where
  parsed : (W.lib tid).parseOK = true
  aud : (!W.cfg.audRequired || (W.lib tid).audOK) = true
  iss : (!W.cfg.issRequired || (W.lib tid).issOK) = true
  nbf : (W.lib tid).nbf ≤ now
  user : userOf W.cfg (W.lib tid) = some e.user
  exp : e.exp = (W.lib tid).exp
  jti : e.jti = (W.lib tid).jti
  /-- the signature was checked at some instant `v` of the past against a key published recently enough THEN -/
  key : ∃ v, v ≤ now ∧ KeyWas W p (W.lib tid) v
  /-- … and while the provider has not changed its document, against the key the specification selects -/
  keyF : p.rotated = false → sigOK W (W.lib tid) = true

/-- the conclusion of the property, for histories in which the provider may change its document -/
structure Accepted (W : World) (t : Tok) (p : Prov) (rv : Nat → Bool) : Prop where
  parsed : t.parseOK = true
  /-- RS*/ES*, and the signature verifies under a key that the provider's document published for signatures
      (under the kid the header names) at an instant of this history; that instant is not more than one
      JWKS TTL before the instant `v ≤ now` at which the signature was checked (tokens with a kid) -/
  key : ∃ v, v ≤ p.now ∧ KeyWas W p t v
  iss : W.cfg.issRequired = true → t.issOK = true
  aud : W.cfg.audRequired = true → t.audOK = true
  notExpired : p.now < t.exp
  notBefore : t.nbf ≤ p.now
  notRevoked : t.jti ≠ 0 → rv t.jti = false

/-- `rv` is the ghost "revoked now" predicate of the history so far, `p` the provider's publication record -/
structure Inv (W : World) (s : St) (rv : Nat → Bool) (p : Prov) : Prop where
  store : ∀ j, s.revoked.contains j = rv j
  blc : ∀ j a, lookupK s.blCache j = some a → a = rv j
  wf : p.WF
  j : JInv s p
  fix : p.rotated = false → FixJ W s
  cache : ∀ tid e, lookupK s.cache tid = some e → GoodEntry W p s.now tid e

section
variable {W : World} {s : St} {rv : Nat → Bool} {p : Prov}

theorem GoodEntry.mono {q : Prov} {now now' tid : Nat} {e : Entry} (g : GoodEntry W p now tid e)
    (hle : p.le q) (hn : now ≤ now') (hr : q.rotated = false → p.rotated = false) : GoodEntry W q now' tid e := by
  obtain ⟨v, hv, hk⟩ := g.key
  exact ⟨g.parsed, g.aud, g.iss, Nat.le_trans g.nbf hn, g.user, g.exp, g.jti, ⟨v, Nat.le_trans hv hn, hk.mono hle⟩,
    fun h => g.keyF (hr h)⟩

theorem GoodEntry.libAccepts {now tid : Nat} {e : Entry} (g : GoodEntry W p now tid e)
    (hr : p.rotated = false) (hexp : now < (W.lib tid).exp) : libAccepts W (W.lib tid) now = true :=
  libAccepts_iff.mpr ⟨g.parsed, g.keyF hr, claimsOK_iff.mpr ⟨hexp, g.nbf, g.aud, g.iss⟩⟩

theorem GoodEntry.accepted {now tid : Nat} {e : Entry}
    (g : GoodEntry W p now tid e) (hn : now = p.now) (hexp : now < (W.lib tid).exp)
    (hr : (W.lib tid).jti ≠ 0 → rv (W.lib tid).jti = false) : Accepted W (W.lib tid) p rv := by
  subst hn
  exact ⟨g.parsed, g.key, orNot_imp g.iss, orNot_imp g.aud, hexp, g.nbf, hr⟩

theorem inv_init (W : World) (t0 : Nat) : Inv W (init t0 W.jwks) (fun _ => false) (Prov.init t0 W.jwks) :=
  have wf := Prov.init_wf t0 W.jwks
  ⟨fun _ => rfl, fun _ _ h => (nomatch h), wf,
    ⟨rfl, rfl, fun e he => ⟨t0, wf.cur e.kid e.id (publishes_of_mem he), Nat.le_refl _⟩⟩,
    fun _ => ⟨rfl, rfl⟩, fun _ _ h => nomatch h⟩

theorem Inv.reframe {s' : St} (h : Inv W s rv p) (hfr : Frame s s')
    (hj : JInv s' p) (hfx : p.rotated = false → FixJ W s') : Inv W s' rv p := by
  refine ⟨fun j => ?_, fun j a hl => ?_, h.wf, hj, hfx, fun tid e hl => ?_⟩
  · rw [hfr.revoked]; exact h.store j
  · rw [hfr.blCache] at hl; exact h.blc j a hl
  · rw [hfr.cache] at hl; rw [hfr.now]; exact h.cache tid e hl

theorem Inv.setBl {rv' : Nat → Bool} (h : Inv W s rv p) {rev : List Nat}
    {bl : List (Nat × Bool)} (hs : ∀ j, rev.contains j = rv' j) (hb : ∀ j a, lookupK bl j = some a → a = rv' j) :
    Inv W { s with revoked := rev, blCache := bl } rv' p :=
  ⟨hs, hb, h.wf, ⟨h.j.hnow, h.j.hdoc, h.j.jc⟩, h.fix, h.cache⟩

theorem Inv.setCache (h : Inv W s rv p) {c : List (Nat × Entry)}
    (hc : ∀ tid e, lookupK c tid = some e → GoodEntry W p s.now tid e) : Inv W { s with cache := c } rv p :=
  ⟨h.store, h.blc, h.wf, ⟨h.j.hnow, h.j.hdoc, h.j.jc⟩, h.fix, hc⟩

theorem Inv.delCache (h : Inv W s rv p) (tid : Nat) :
    Inv W { s with cache := delK s.cache tid } rv p :=
  h.setCache fun x e hx => h.cache x e (lookupK_delK_some hx)

theorem Inv.addCache (h : Inv W s rv p) (tid : Nat) (e : Entry)
    (g : GoodEntry W p s.now tid e) : Inv W { s with cache := (tid, e) :: delK s.cache tid } rv p := by
  refine h.setCache fun x e' hx => ?_
  simp only [lookupK] at hx
  split at hx
  · next hxt => cases hx; exact hxt ▸ g
  · exact h.cache x e' (lookupK_delK_some hx)

/-- the blacklist lookup of ValidateJWT, made only if `c` (a jti is there; on the miss path: the patch is in) -/
def blCheck (s : St) (c : Bool) (j : Nat) : St × Bool := if c then isIDBlacklisted s j else (s, false)

theorem blCheck_spec (h : Inv W s rv p) (c : Bool) (j : Nat) :
    ∃ bl, blCheck s c j = ({ s with blCache := bl }, c && rv j) ∧ Inv W { s with blCache := bl } rv p := by
  cases c with
  | false => exact ⟨s.blCache, rfl, h⟩
  | true =>
    simp only [blCheck, if_true, isIDBlacklisted, Bool.true_and]
    split
    · next a hl => exact ⟨s.blCache, by rw [h.blc j a hl], h⟩
    · refine ⟨_, by rw [h.store j], h.setBl h.store fun x a hx => ?_⟩
      simp only [lookupK] at hx
      split at hx
      · next hxj => cases hx; rw [hxj]
      · exact h.blc x a hx

/-! ## ValidateJWT -/

theorem validateCore_user {tid : Nat} {u : User} (hne : ¬ (W.lib tid).exp < s.now)
    (hu : userOf W.cfg (W.lib tid) = some u) :
    validateCore W s tid true =
      match blCheck s (W.fixed && decide ((W.lib tid).jti ≠ 0)) (W.lib tid).jti with
      | (s', b) =>
        if b = true then (s', .revoked)
        else ({ s' with cache := (tid, ⟨u, (W.lib tid).exp, (W.lib tid).jti⟩) :: delK s'.cache tid }, .ok u) := by
  simp [validateCore, blCheck, hne, hu]

theorem present_hit {tid : Nat} {e : Entry} (hc : lookupK s.cache tid = some e)
    (hexp : s.now < e.exp) :
    present W s tid =
      match blCheck s (decide (e.jti ≠ 0)) e.jti with
      | (s', b) => if b = true then ({ s' with cache := delK s'.cache tid }, .revoked) else (s', .ok e.user) := by
  simp only [present, hc, hexp, if_true, blCheck]
  by_cases hj : e.jti = 0
  · simp only [hj, ne_eq, not_true_eq_false, if_false, decide_false, Bool.false_eq_true]
  · simp only [ne_eq, hj, not_false_eq_true, if_true, decide_true]

theorem spec_invalid {t : Tok} {now : Nat} (hl : libAccepts W t now = false) :
    spec W t now rv = .invalid := by
  simp [spec, hl]

theorem spec_noclaim {t : Tok} {now : Nat} (hl : libAccepts W t now = true)
    (hu : userOf W.cfg t = none) : spec W t now rv = .noclaim := by
  simp [spec, hl, hu]

theorem spec_user {t : Tok} {now : Nat} {u : User} (hl : libAccepts W t now = true)
    (hu : userOf W.cfg t = some u) :
    spec W t now rv = if (decide (t.jti ≠ 0) && rv t.jti) = true then .revoked else .ok u := by
  simp [spec, hl, hu]

/-- what one call of ValidateJWT for token `tid`, made at instant `now` with result cache `cache`, guarantees -/
structure CallOK (W : World) (now : Nat) (cache : List (Nat × Entry)) (rv : Nat → Bool) (p : Prov) (tid : Nat)
    (r : St × Res) : Prop where
  inv : Inv W r.1 rv p
  /-- the provider never changed its document: the answer is the specification's -/
  spec : p.rotated = false → r.2 = spec W (W.lib tid) now rv
  /-- … and without a result-cache entry the signature was checked in this very call -/
  acc : ∀ u, r.2 = .ok u → Accepted W (W.lib tid) p rv ∧ (lookupK cache tid = none → KeyWas W p (W.lib tid) p.now)
  /-- other tokens' result-cache entries are not created here -/
  other : ∀ x, x ≠ tid → lookupK cache x = none → lookupK r.1.cache x = none

theorem validateCore_ok (hf : W.fixed = true) (h : Inv W s rv p)
    (tid : Nat) (la : Bool)
    (hacc : la = true → (W.lib tid).parseOK = true ∧ claimsOK W.cfg (W.lib tid) s.now = true ∧
      KeyWas W p (W.lib tid) s.now)
    (hfix : p.rotated = false → la = libAccepts W (W.lib tid) s.now) :
    CallOK W s.now s.cache rv p tid (validateCore W s tid la) := by
  cases la with
  | false =>
    simp only [validateCore, Bool.not_false, if_true]
    exact ⟨h, fun hr => (spec_invalid (hfix hr).symm).symm, fun u hu => (nomatch hu), fun x _ hx => hx⟩
  | true =>
    obtain ⟨hp, hc, hk⟩ := hacc rfl
    obtain ⟨hexp, hnbf, haud, hiss⟩ := claimsOK_iff.mp hc
    have hne : ¬ (W.lib tid).exp < s.now := by omega
    cases hu : userOf W.cfg (W.lib tid) with
    | none =>
      simp only [validateCore, Bool.not_true, Bool.false_eq_true, if_false, hne, hu]
      exact ⟨h, fun hr => (spec_noclaim (hfix hr).symm hu).symm, fun u hu => (nomatch hu), fun x _ hx => hx⟩
    | some u =>
      rw [validateCore_user hne hu, hf, Bool.true_and]
      obtain ⟨bl, hb, b2⟩ := blCheck_spec h (decide ((W.lib tid).jti ≠ 0)) (W.lib tid).jti
      rw [hb]
      dsimp only
      have g : GoodEntry W p s.now tid ⟨u, (W.lib tid).exp, (W.lib tid).jti⟩ :=
        ⟨hp, haud, hiss, hnbf, hu, rfl, rfl, ⟨s.now, Nat.le_refl _, hk⟩,
          fun hr => (libAccepts_iff.mp (hfix hr).symm).2.1⟩
      split
      · next hrv =>
        refine ⟨b2, fun hr => ?_, fun u hu => (nomatch hu), fun x _ hx => hx⟩
        rw [spec_user (hfix hr).symm hu, if_pos hrv]
      · next hrv =>
        refine ⟨b2.addCache tid _ g, fun hr => ?_, fun u' _ => ⟨?_, fun _ => h.j.hnow ▸ hk⟩, fun x hx hc' => ?_⟩
        · rw [spec_user (hfix hr).symm hu, if_neg hrv]
        · exact g.accepted h.j.hnow hexp fun hj0 => by simpa [hj0] using hrv
        · rw [lookupK, if_neg hx, lookupK_delK, if_neg hx]
          exact hc'

theorem validate_ok (hf : W.fixed = true) (h : Inv W s rv p)
    (tid : Nat) : CallOK W s.now s.cache rv p tid (validate W s tid) := by
  obtain ⟨l, lacc⟩ := libRun_ok (W := W) h.wf h.j (W.lib tid)
  have h1 : Inv W (libRun W s (W.lib tid)).1 rv p := h.reframe l.frame l.jinv fun hr => (l.fix (h.fix hr)).1
  have c := validateCore_ok hf h1 tid (libRun W s (W.lib tid)).2 (l.frame.now ▸ lacc)
    fun hr => l.frame.now ▸ (l.fix (h.fix hr)).2
  rw [l.frame.now, l.frame.cache] at c
  exact c

theorem present_ok (hf : W.fixed = true) (h : Inv W s rv p)
    (tid : Nat) : CallOK W s.now s.cache rv p tid (present W s tid) := by
  cases hc : lookupK s.cache tid with
  | none => simp only [present, hc]; exact validate_ok hf h tid
  | some e =>
    have g := h.cache tid e hc
    by_cases hexp : s.now < e.exp
    · -- live entry: no re-verification, only the blacklist is asked again
      rw [present_hit hc hexp]
      have hexp' : s.now < (W.lib tid).exp := g.exp ▸ hexp
      obtain ⟨bl, hb, b2⟩ := blCheck_spec h (decide (e.jti ≠ 0)) e.jti
      rw [hb]
      dsimp only
      split
      · next hrv =>
        refine ⟨b2.delCache tid, fun hr => ?_, fun u hu => (nomatch hu), fun x hx hcx => ?_⟩
        · rw [spec_user (g.libAccepts hr hexp') g.user, ← g.jti, if_pos hrv]
        · rw [lookupK_delK, if_neg hx]
          exact hcx
      · next hrv =>
        refine ⟨b2, fun hr => ?_, fun u hu => ⟨?_, fun hn => nomatch hc ▸ hn⟩, fun x _ hx => hx⟩
        · rw [spec_user (g.libAccepts hr hexp') g.user, ← g.jti, if_neg hrv]
        · exact g.accepted h.j.hnow hexp' fun hj0 => by rw [← g.jti] at hj0 ⊢; simpa [hj0] using hrv
    · simp only [present, hc, hexp, if_false]
      have c := validate_ok hf (h.delCache tid) tid
      exact ⟨c.inv, c.spec, fun u hu => ⟨(c.acc u hu).1, fun hn => nomatch hc ▸ hn⟩,
        fun x hx hcx => c.other x hx (by rw [lookupK_delK, if_neg hx]; exact hcx)⟩

theorem contains_cons_ite (l : List Nat) (k j : Nat) :
    (k :: l).contains j = if j = k then true else l.contains j := by
  rw [List.contains_cons]
  split <;> simp [*]

theorem contains_filter_ne (l : List Nat) (k j : Nat) :
    (l.filter (· ≠ k)).contains j = if j = k then false else l.contains j := by
  split <;> simp [*]

/-- revoking what is revoked, or un-revoking what is not, changes neither the store nor the ghost -/
theorem update_same {rv : Nat → Bool} {k : Nat} {b : Bool} (h : rv k = b) :
    (fun x => if x = k then b else rv x) = rv := by
  funext x
  split
  · next hx => rw [hx, h]
  · rfl

theorem step_inv (hf : W.fixed = true) (h : Inv W s rv p) (o : Op) :
    Inv W (step W s o).1 (rvStep rv o) (p.step o) := by
  cases o with
  | present tid => exact (present_ok hf h tid).inv
  | revoke k =>
    simp only [step]
    split
    · next hk =>
      rw [show rvStep rv (.revoke k) = rv from update_same (h.store k ▸ hk)]
      exact h
    · exact h.setBl (fun j => by rw [contains_cons_ite, h.store]; rfl) nofun
  | unrevoke k =>
    simp only [step]
    split
    · refine h.setBl (fun j => by rw [contains_filter_ne, h.store]; rfl) fun j a hj => ?_
      -- the one blacklist-cache entry that could have become wrong is deleted
      rw [lookupK_delK] at hj
      show a = if j = k then false else rv j
      split at hj
      · cases hj
      · next hjk => rw [if_neg hjk]; exact h.blc j a hj
    · next hk =>
      rw [show rvStep rv (.unrevoke k) = rv from update_same (h.store k ▸ Bool.eq_false_iff.mpr hk)]
      exact h
  | flush =>
    exact h.setBl (fun _ => rfl) nofun
  | advance dt =>
    have ⟨wf, hle⟩ := Prov.step_spec h.wf (.advance dt)
    exact ⟨h.store, h.blc, wf, ⟨congrArg (· + dt) h.j.hnow, h.j.hdoc, h.j.jc_mono hle⟩, h.fix, fun tid e he =>
      (h.cache tid e he).mono hle (Nat.le_add_right _ _) id⟩
  | purge => exact h.setCache nofun
  | evict tid => exact h.delCache tid
  | blEvict k =>
    exact h.setBl h.store fun j a hj => h.blc j a (lookupK_delK_some hj)
  | setKeys doc =>
    have ⟨wf, hle⟩ := Prov.step_spec h.wf (.setKeys doc)
    exact ⟨h.store, h.blc, wf, ⟨h.j.hnow, rfl, h.j.jc_mono hle⟩, nofun, fun tid e he =>
      (h.cache tid e he).mono hle (Nat.le_refl _) nofun⟩

theorem run_inv (hf : W.fixed = true) (ops : List Op) :
    ∀ {s : St} {rv : Nat → Bool} {p : Prov}, Inv W s rv p →
      Inv W (run W s ops) (revokedAfter rv ops) (Prov.run p ops) := by
  induction ops with
  | nil => intro s rv p h; exact h
  | cons o os ih => intro s rv p h; exact ih (step_inv hf h o)

theorem run_notCached (hf : W.fixed = true) (tid : Nat) (ops : List Op) :
    ∀ {s : St} {rv : Nat → Bool} {p : Prov}, Inv W s rv p → lookupK s.cache tid = none →
      (∀ o, o ∈ ops → o ≠ .present tid) → lookupK (run W s ops).cache tid = none := by
  induction ops with
  | nil => intro s rv p _ hc _; exact hc
  | cons o os ih =>
    intro s rv p h hc hn
    refine ih (step_inv hf h o) ?_ (fun o' ho' => hn o' (List.mem_cons_of_mem _ ho'))
    have hno := hn o List.mem_cons_self
    cases o with
    | present x => exact (present_ok hf h x).other tid (fun e => hno (e ▸ rfl)) hc
    | revoke k => simp only [step]; split <;> exact hc
    | unrevoke k => simp only [step]; split <;> exact hc
    | purge => rfl
    | evict x => simp only [step, lookupK_delK, hc, ite_self]
    | _ => exact hc

/-- the provider as an outside observer sees it after the history -/
def provAfter (W : World) (t0 : Nat) (pre : List Op) : Prov := Prov.run (Prov.init t0 W.jwks) pre

theorem provAfter_now (W : World) (t0 : Nat) (pre : List Op) : (provAfter W t0 pre).now = clock t0 pre :=
  Prov.run_now pre _

/-- the answer to "present token `tid`" after the history `pre` that started at time `t0` with empty
    caches, an empty blacklist and the JWKS cache just filled from the provider's start-up document -/
def answer (W : World) (t0 : Nat) (pre : List Op) (tid : Nat) : Res :=
  (present W (run W (init t0 W.jwks) pre) tid).2

theorem run_now (hf : W.fixed = true) (t0 : Nat) (pre : List Op) :
    (run W (init t0 W.jwks) pre).now = clock t0 pre :=
  (run_inv hf pre (inv_init W t0)).j.hnow.trans (provAfter_now W t0 pre)

theorem answer_ok (W : World) (hf : W.fixed = true) (t0 : Nat) (pre : List Op) (tid : Nat) :
    CallOK W (clock t0 pre) (run W (init t0 W.jwks) pre).cache (revokedAfter (fun _ => false) pre)
      (provAfter W t0 pre) tid (present W (run W (init t0 W.jwks) pre) tid) :=
  run_now hf t0 pre ▸ present_ok hf (run_inv hf pre (inv_init W t0)) tid

end

/-- **C22, full strength, with a provider that may change its JWKS document at any moment.**  For every world
    (library verdict, start-up JWKS, configuration, JWKS TTL) and every history: if presenting a token after the
    history is answered "ok", then at that moment the token parses, its algorithm is RSA/ECDSA, its signature
    verifies under a key that the provider's document has published for signatures — under the kid the header
    names — at an instant of this history, issuer and audience match the configuration, nbf ≤ now < exp, and its
    jti is not revoked. -/
theorem C22_accept_implies (W : World) (hf : W.fixed = true) (t0 : Nat) (pre : List Op) (tid : Nat) (u : User)
    (h : answer W t0 pre tid = .ok u) :
    Accepted W (W.lib tid) (provAfter W t0 pre) (revokedAfter (fun _ => false) pre) :=
  ((answer_ok W hf t0 pre tid).acc u h).1

/-- **Bounded staleness of the JWKS cache.**  A token WITH a kid that has no live result-cache entry (its
    signature is checked in this call) is accepted only if the provider's document publishes the verifying key
    under that kid NOW (`τ = now`), or did so less than one JWKS TTL ago (`now < τ + ttl`, where `τ` is the LAST
    instant at which the provider published it): a withdrawn key stays trusted for less than one TTL. -/
theorem C22_key_staleness (W : World) (hf : W.fixed = true) (t0 : Nat) (pre : List Op) (tid : Nat) (u : User)
    (h : answer W t0 pre tid = .ok u) (hk : (W.lib tid).kid ≠ 0)
    (hc : lookupK (run W (init t0 W.jwks) pre).cache tid = none) :
    ∃ id τ, (W.lib tid).sigBy = some id ∧ (provAfter W t0 pre).last (W.lib tid).kid id = some τ ∧
      τ ≤ clock t0 pre ∧ (τ = clock t0 pre ∨ clock t0 pre < τ + W.jwksTTL) := by
  have c := answer_ok W hf t0 pre tid
  obtain ⟨_, kid, id, τ, h1, h2, h3, h4⟩ := (c.acc u h).2 hc
  have hle := c.inv.wf.lastLe kid id τ h3
  rw [h2 hk] at h3
  rw [provAfter_now] at hle h4
  refine ⟨id, τ, h1, h3, hle, ?_⟩
  have := h4 hk
  omega

/-- a token the history never presented has no result-cache entry -/
theorem C22_never_presented_not_cached (W : World) (hf : W.fixed = true) (t0 : Nat) (pre : List Op) (tid : Nat)
    (hn : ∀ o, o ∈ pre → o ≠ .present tid) : lookupK (run W (init t0 W.jwks) pre).cache tid = none :=
  run_notCached hf tid pre (inv_init W t0) rfl hn

/-- **A withdrawn key stops being trusted after one JWKS TTL** (history form).  After `pre` the provider's
    document does not publish key `k` under the token's kid, no document served during `post` does, and at least
    one JWKS TTL passes during `post`: a token signed with `k` that was never presented is rejected — whatever
    else happened in between (other tokens, unknown kids, cooldowns, purges, revocations). -/
theorem C22_withdrawn_key_rejected (W : World) (hf : W.fixed = true) (httl : 0 < W.jwksTTL) (t0 : Nat)
    (pre post : List Op) (tid k : Nat) (hkid : (W.lib tid).kid ≠ 0) (hsig : (W.lib tid).sigBy = some k)
    (hnever : ∀ o, o ∈ pre ++ post → o ≠ .present tid)
    (hgone : publishes (provAfter W t0 pre).doc (W.lib tid).kid k = false)
    (hstay : ∀ d, Op.setKeys d ∈ post → publishes d (W.lib tid).kid k = false)
    (htime : clock t0 pre + W.jwksTTL ≤ clock t0 (pre ++ post)) (u : User) :
    answer W t0 (pre ++ post) tid ≠ .ok u := by
  intro h
  obtain ⟨id, τ, h1, h2, h3, h4⟩ := C22_key_staleness W hf t0 (pre ++ post) tid u h hkid
    (C22_never_presented_not_cached W hf t0 _ tid hnever)
  rw [hsig] at h1
  injection h1 with h1
  subst h1
  -- nothing published the key during `post`, so its last publication is no later than the end of `pre`
  have hl : (provAfter W t0 (pre ++ post)).last (W.lib tid).kid k = (provAfter W t0 pre).last (W.lib tid).kid k := by
    unfold provAfter
    rw [Prov.run_append]
    exact Prov.run_last_unchanged _ _ post _ hgone hstay
  rw [hl] at h2
  have hle : τ ≤ (provAfter W t0 pre).now := (Prov.run_wf pre (Prov.init_wf t0 W.jwks)).lastLe _ _ _ h2
  rw [provAfter_now] at hle
  omega

theorem revokedAfter_append (r : Nat → Bool) (a b : List Op) :
    revokedAfter r (a ++ b) = revokedAfter (revokedAfter r a) b := by
  induction a generalizing r with
  | nil => rfl
  | cons o os ih => exact ih _

theorem revokedAfter_stays (post : List Op) (j : Nat) :
    ∀ (r : Nat → Bool), r j = true → (∀ o, o ∈ post → o ≠ .unrevoke j ∧ o ≠ .flush) →
      revokedAfter r post j = true := by
  induction post with
  | nil => intro r h _; exact h
  | cons o os ih =>
    intro r h hp
    refine ih _ ?_ fun o' ho' => hp o' (List.mem_cons_of_mem _ ho')
    have ho := hp o List.mem_cons_self
    cases o with
    | revoke k => simp only [rvStep, h, ite_self]
    | unrevoke k => exact (if_neg fun e : j = k => ho.1 (e ▸ rfl)).trans h
    | flush => exact absurd rfl ho.2
    | _ => exact h

/-- **Revocation takes effect for every later request**: after `revoke j`, as long as `j` is not
    un-revoked (tokens.Delete / tokens.Flush), no token carrying that jti is accepted — whatever happened
    before (seen or never seen), whatever happens in between (time, cache expiry, purges, key rotations). -/
theorem C22_revocation_effective (W : World) (hf : W.fixed = true) (t0 : Nat) (pre post : List Op)
    (j tid : Nat) (hj : j ≠ 0) (ht : (W.lib tid).jti = j)
    (hpost : ∀ o, o ∈ post → o ≠ .unrevoke j ∧ o ≠ .flush) (u : User) :
    answer W t0 (pre ++ .revoke j :: post) tid ≠ .ok u := by
  intro h
  have h1 := (C22_accept_implies W hf t0 _ tid u h).notRevoked (ht ▸ hj)
  rw [ht, revokedAfter_append] at h1
  have h2 := revokedAfter_stays post j (rvStep (revokedAfter (fun _ => false) pre) (.revoke j)) (if_pos rfl) hpost
  exact Bool.noConfusion (h2.symm.trans h1)

/-! ## while the provider does not change its document: both caches are transparent -/

/-- **ValidateJWT is a function of the token, the clock and the revocation store only** — for every
    history in which the provider keeps its document, whatever the result cache, the blacklist cache and the JWKS
    cache went through (hits, misses, sweeps, purges, TTL refreshes, unknown-kid refreshes and cooldowns) -/
theorem C22_present_eq_spec (W : World) (hf : W.fixed = true) (t0 : Nat) (pre : List Op) (tid : Nat)
    (hnr : noRotation pre = true) :
    answer W t0 pre tid = spec W (W.lib tid) (clock t0 pre) (revokedAfter (fun _ => false) pre) :=
  (answer_ok W hf t0 pre tid).spec (Prov.run_rotated pre _ hnr)

/-- the conclusion of the property for a provider with a fixed document -/
structure AcceptedFixed (W : World) (t : Tok) (now : Nat) (rv : Nat → Bool) : Prop where
  parsed : t.parseOK = true
  alg : t.alg = .rsa ∨ t.alg = .ecdsa
  /-- the signature verifies under a key the provider publishes for signatures, selected by the kid -/
  key : ∃ j, j ∈ W.jwks ∧ j.useOK = true ∧ j.ktyOK = true ∧ t.sigBy = some j.id ∧ (t.kid ≠ 0 → j.kid = t.kid)
  iss : W.cfg.issRequired = true → t.issOK = true
  aud : W.cfg.audRequired = true → t.audOK = true
  notExpired : now < t.exp
  notBefore : t.nbf ≤ now
  notRevoked : t.jti ≠ 0 → rv t.jti = false

theorem spec_ok_accepted {W : World} {t : Tok} {now : Nat} {rv : Nat → Bool} {u : User}
    (h : spec W t now rv = .ok u) : AcceptedFixed W t now rv := by
  cases hl : libAccepts W t now with
  | false => rw [spec_invalid hl] at h; cases h
  | true =>
    cases hu : userOf W.cfg t with
    | none => rw [spec_noclaim hl hu] at h; cases h
    | some u' =>
      rw [spec_user hl hu] at h
      split at h
      · cases h
      next hr =>
      obtain ⟨hp, hs, hc⟩ := libAccepts_iff.mp hl
      obtain ⟨hexp, hnbf, haud, hiss⟩ := claimsOK_iff.mp hc
      unfold sigOK at hs
      split at hs
      · next k hk =>
        obtain ⟨ha, j, hj, h1, h2, h3, h4⟩ := selectKey_published hk
        exact ⟨hp, AlgFam.rsa_or_ecdsa ha, ⟨j, hj, h1, h2, by simpa [h3] using hs, h4⟩, orNot_imp hiss, orNot_imp haud,
          hexp, hnbf, fun hj0 => by simpa [hj0] using hr⟩
      · cases hs

/-- the provider keeps its document: accepted ⇒ the signature verifies under a usable entry of THAT document,
    one carrying the header's kid if the header names one -/
theorem C22_accept_implies_fixed_keys (W : World) (hf : W.fixed = true) (t0 : Nat) (pre : List Op) (tid : Nat)
    (u : User) (hnr : noRotation pre = true) (h : answer W t0 pre tid = .ok u) :
    AcceptedFixed W (W.lib tid) (clock t0 pre) (revokedAfter (fun _ => false) pre) := by
  rw [C22_present_eq_spec W hf t0 pre tid hnr] at h
  exact spec_ok_accepted h

/-- **Seen before or not makes no difference.**  Two histories (with a provider that keeps its document) that
    agree on the clock and on what is revoked give the same answer for every token — however different their
    presentations, cache sweeps, purges and JWKS refreshes were (in particular: a history in which the token was
    never presented). -/
theorem C22_seen_or_not (W : World) (hf : W.fixed = true) (t0 : Nat) (pre pre' : List Op) (tid : Nat)
    (hnr : noRotation pre = true) (hnr' : noRotation pre' = true)
    (hc : clock t0 pre = clock t0 pre')
    (hr : ∀ j, revokedAfter (fun _ => false) pre j = revokedAfter (fun _ => false) pre' j) :
    answer W t0 pre tid = answer W t0 pre' tid := by
  rw [C22_present_eq_spec W hf _ _ _ hnr, C22_present_eq_spec W hf _ _ _ hnr', hc]
  simp only [spec, hr]

/-- **No spurious rejection** (the theorems above are not vacuous): a token the library accepts now, that
    names a user and whose jti is not revoked, is accepted with that user after every history in which the
    provider keeps its document. -/
theorem C22_valid_accepted (W : World) (hf : W.fixed = true) (t0 : Nat) (pre : List Op) (tid : Nat) (u : User)
    (hnr : noRotation pre = true)
    (hl : libAccepts W (W.lib tid) (clock t0 pre) = true) (hu : userOf W.cfg (W.lib tid) = some u)
    (hr : (W.lib tid).jti = 0 ∨ revokedAfter (fun _ => false) pre (W.lib tid).jti = false) :
    answer W t0 pre tid = .ok u := by
  rw [C22_present_eq_spec W hf _ _ _ hnr, spec_user hl hu]
  rcases hr with h | h <;> simp [h]

/-! ## the code before fixes/C22.patch, tokens without kid, and non-vacuity -/

def demoTok : Tok :=
  { parseOK := true, alg := .ecdsa, kid := 5, sigBy := some 1, exp := 2000, nbf := 0, issOK := true,
    audOK := true, jti := 9, sub := 7, email := 0, pref := 0, client := 0 }

def demoWorld (fixed : Bool) : World :=
  { cfg := ⟨true, true, .sub⟩, jwks := [⟨5, true, true, 1⟩], lib := fun _ => demoTok, fixed := fixed, jwksTTL := 120 }

/-- The code BEFORE the patch: an ES256 token with valid signature/iss/aud/exp whose jti was revoked before
    it was ever presented is accepted on first presentation and rejected only on the second. -/
theorem C22_unpatched_counterexample :
    answer (demoWorld false) 1000 [.revoke 9] 1 = .ok (.name 7) ∧
    answer (demoWorld false) 1000 [.revoke 9, .present 1] 1 = .revoked := by
  decide

/-- the same history on the patched code -/
example : answer (demoWorld true) 1000 [.revoke 9] 1 = .revoked := by decide

/-- non-vacuity of `C22_accept_implies`: acceptance happens (before revocation, after un-revocation, from
    the cache and after the cache was purged) -/
example : answer (demoWorld true) 1000 [] 1 = .ok (.name 7) := by decide
example : answer (demoWorld true) 1000 [.present 1, .advance 5, .purge, .revoke 9, .unrevoke 9] 1 = .ok (.name 7) := by
  decide
example : answer (demoWorld true) 1000 [.present 1, .revoke 9] 1 = .revoked := by decide
example : answer (demoWorld true) 1000 [.present 1, .advance 1000] 1 = .invalid := by decide

/-- non-vacuity of `C22_revocation_effective` / `C22_valid_accepted` hypotheses -/
example : libAccepts (demoWorld true) demoTok (clock 1000 [.advance 5]) = true := by decide
example : ∀ o, o ∈ [Op.advance 5, Op.purge, Op.present 1] → o ≠ .unrevoke 9 ∧ o ≠ .flush := by
  intro o ho
  simp at ho
  rcases ho with h | h | h <;> subst h <;> exact ⟨nofun, nofun⟩

/-- the provider withdraws key 1 (kid 5) and publishes key 2 (kid 6) instead -/
def rotatedDoc : List Jwk := [⟨6, true, true, 2⟩]

/-- token 2 is like `demoTok` but carries NO kid -/
def demoWorld2 : World :=
  { demoWorld true with lib := fun tid => if tid = 2 then { demoTok with kid := 0 } else demoTok }

/-- the staleness the JWKS TTL allows: 119 s after the withdrawal the (never presented) token signed with the
    withdrawn key is still accepted from the cached key set; 120 s after it the key set is re-fetched and the
    token is rejected; a token signed with the newly published key is accepted (non-vacuity of
    `C22_key_staleness` and `C22_withdrawn_key_rejected`: both outcomes occur) -/
example : answer demoWorld2 1000 [.setKeys rotatedDoc, .advance 119] 1 = .ok (.name 7) := by decide
example : answer demoWorld2 1000 [.setKeys rotatedDoc, .advance 120] 1 = .invalid := by decide
example : publishes (provAfter demoWorld2 1000 [.setKeys rotatedDoc]).doc 5 1 = false := by decide
example : clock 1000 [.setKeys rotatedDoc] + demoWorld2.jwksTTL ≤ clock 1000 ([.setKeys rotatedDoc] ++ [.advance 120]) := by
  decide

/-- **Tokens WITHOUT a kid escape the bound** (selectVerificationKey → allKeys never looks at the age of the
    cache): 900 seconds after the provider withdrew the key — the JWKS TTL is 120 s — a never-presented
    token without kid that is signed with the withdrawn key is still accepted, while the same token WITH the kid is
    rejected.  This is the excluded class of `C22_key_staleness` (hypothesis `kid ≠ 0`); known finding
    `accept-withdrawn-key-token-without-kid`. -/
theorem C22_nokid_stale_counterexample :
    answer demoWorld2 1000 [.setKeys rotatedDoc, .advance 900] 2 = .ok (.name 7) ∧
    answer demoWorld2 1000 [.setKeys rotatedDoc, .advance 900] 1 = .invalid := by
  decide

end EgoVerif.C22
