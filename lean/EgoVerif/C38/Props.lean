import EgoVerif.C38.Model
/-
C38 — the catalog check `allOk` implies that every key resolves, in every shipped language, to non-empty
text with the placeholders of the English text (`C38_resolves`, `C38_placeholders`); tools/extract_c38
evaluates `allOk` on chunks of at most 100 regenerated rows and joins the chunks with `allOk_append`.
NegotiateLanguage answers "" or a supported language for every header, every ParseFloat behaviour and
every comparison (`C38_negotiate`), and a best supported one when the comparison is a strict weak order.
-/
namespace EgoVerif.C38

theorem allOk_append (en n : Nat) (eR eP : List (Nat × Nat)) (a b : List Row) :
    allOk en n eR eP (a ++ b) = (allOk en n eR eP a && allOk en n eR eP b) := by
  simp [allOk, List.all_append]

theorem allOk_iff {en n : Nat} {eR eP : List (Nat × Nat)} {rows : List Row} :
    allOk en n eR eP rows = true ↔
      ∀ r ∈ rows, r.cells.length = n ∧ ∀ l, l < n → cellOk en eR eP r l = true := by
  simp only [allOk, rowOk, List.all_eq_true, Bool.and_eq_true, beq_iff_eq, List.mem_range]

/-- Every row (= constant message key of the source) × every shipped language resolves — by its own
    entry or by the English fallback of `translate` — to NON-EMPTY text, except the (key, language)
    pairs listed as known findings. -/
theorem C38_resolves (en n : Nat) (eR eP : List (Nat × Nat)) (rows : List Row)
    (h : allOk en n eR eP rows = true) :
    ∀ r ∈ rows, ∀ l, l < n → (r.key, l) ∉ eR → ∃ c, resolve en r l = some c ∧ 0 < c.len := by
  intro r hr l hl hx
  have hc := (allOk_iff.1 h r hr).2 l hl
  unfold cellOk at hc
  split at hc
  · exact absurd (List.contains_iff_mem.1 hc) hx
  · next c hres =>
    simp only [Bool.and_eq_true, Bool.or_eq_true, decide_eq_true_eq] at hc
    exact ⟨c, hres, hc.1.resolve_right fun h1 => hx (List.contains_iff_mem.1 h1)⟩

/-- … and the resolved text uses exactly the placeholders of the resolved English text. -/
theorem C38_placeholders (en n : Nat) (eR eP : List (Nat × Nat)) (rows : List Row)
    (h : allOk en n eR eP rows = true) :
    ∀ r ∈ rows, ∀ l, l < n → (r.key, l) ∉ eP →
      ∀ c ce, resolve en r l = some c → resolve en r en = some ce → c.phs = ce.phs := by
  intro r hr l hl hx c ce h1 h2
  have hc := (allOk_iff.1 h r hr).2 l hl
  unfold cellOk at hc
  rw [h1] at hc
  simp only [h2, Bool.and_eq_true, Bool.or_eq_true] at hc
  exact eq_of_beq (hc.2.resolve_right fun h3 => hx (List.contains_iff_mem.1 h3))

/-- every row has one cell per shipped language -/
theorem C38_row_width (en n : Nat) (eR eP : List (Nat × Nat)) (rows : List Row)
    (h : allOk en n eR eP rows = true) : ∀ r ∈ rows, r.cells.length = n :=
  fun r hr => (allOk_iff.1 h r hr).1

/-- The fallback is what makes an untranslated key resolve: a row with an English entry resolves in
    every language. -/
theorem C38_fallback (en : Nat) (r : Row) (l : Nat) (ce : Cell)
    (h : r.cells.getD en none = some ce) : ∃ c, resolve en r l = some c := by
  unfold resolve
  cases h1 : r.cells.getD l none with
  | none => exact ⟨ce, h⟩
  | some c => exact ⟨c, rfl⟩

theorem translateText_resolved (own en : Option Str) (key : Str) :
    translateText own en key = ((own <|> en).getD key) := by
  cases own <;> cases en <;> rfl

-- non-vacuity: a table with a fallback, an excused missing key, and a failing table
example : allOk 0 2 [(1, 0), (1, 1)] [(1, 0), (1, 1)]
    [⟨0, [some ⟨5, [1, 2]⟩, none]⟩, ⟨1, [none, none]⟩, ⟨2, [some ⟨3, []⟩, some ⟨4, []⟩]⟩] = true := by decide
example : allOk 0 2 [] [] [⟨0, [none, some ⟨4, []⟩]⟩] = false := by decide          -- English missing
example : allOk 0 2 [] [] [⟨0, [some ⟨4, [1]⟩, some ⟨4, [2]⟩]⟩] = false := by decide  -- placeholder mismatch
example : allOk 0 2 [] [] [⟨0, [some ⟨0, []⟩, none]⟩] = false := by decide           -- empty text

theorem perm_insertBy (gt : Q → Q → Bool) (c : Cand) (l : List Cand) : (insertBy gt c l).Perm (c :: l) := by
  induction l with
  | nil => exact .refl _
  | cons d ds ih =>
    unfold insertBy
    split
    · exact (ih.cons d).trans (.swap c d ds)
    · exact .refl _

theorem perm_sortBy (gt : Q → Q → Bool) (l : List Cand) : (sortBy gt l).Perm l := by
  induction l with
  | nil => exact .refl _
  | cons c cs ih => exact (perm_insertBy gt c _).trans (ih.cons c)

theorem negotiate_ne_nil {pf : Str → Option Q} {gt : Q → Q → Bool} {supported : List Str} {header : Str}
    (h : negotiate pf gt supported header ≠ []) :
    ∃ c, (sortBy gt (candidates pf header)).find? (fun c => supported.contains c.lang) = some c ∧
      c.lang = negotiate pf gt supported header := by
  unfold negotiate pick at h ⊢
  split at h
  · exact absurd rfl h
  · next hne =>
    rw [if_neg hne]
    split at h
    · next c hc => exact ⟨c, hc, rfl⟩
    · exact absurd rfl h

/-- **Language negotiation only ever selects a shipped language**: for every Accept-Language header
    (every character string), whatever ParseFloat and the comparison do, the answer is "" or a member
    of SupportedLanguages(). -/
theorem C38_negotiate (pf : Str → Option Q) (gt : Q → Q → Bool) (supported : List Str) (header : Str) :
    negotiate pf gt supported header = [] ∨ negotiate pf gt supported header ∈ supported := by
  by_cases h : negotiate pf gt supported header = []
  · exact Or.inl h
  · obtain ⟨c, hc, hl⟩ := negotiate_ne_nil h
    have hs := List.find?_some (p := fun c : Cand => supported.contains c.lang) hc
    exact Or.inr (hl ▸ List.contains_iff_mem.1 hs)

/-- the empty / blank header never selects anything -/
theorem C38_negotiate_blank (pf : Str → Option Q) (gt : Q → Q → Bool) (supported : List Str) (header : Str)
    (h : trimSpace header = []) : negotiate pf gt supported header = [] := by
  simp [negotiate, h]

/-- a non-empty answer is the lower-cased primary subtag of one of the comma-separated tags of the header -/
theorem C38_negotiate_from_header (pf : Str → Option Q) (gt : Q → Q → Bool) (supported : List Str) (header : Str)
    (h : negotiate pf gt supported header ≠ []) :
    ∃ rawTag ∈ splitOn ',' (trimSpace header), ∃ c, parseTag pf rawTag = some c ∧
      c.lang = negotiate pf gt supported header := by
  obtain ⟨c, hc, hl⟩ := negotiate_ne_nil h
  have hm := (perm_sortBy gt _).mem_iff.1 (List.mem_of_find?_eq_some hc)
  obtain ⟨raw, hraw, hpt⟩ := List.mem_filterMap.1 hm
  exact ⟨raw, hraw, c, hpt, hl⟩

/-- descending order: nothing later is strictly preferred to something earlier -/
def Sorted (gt : Q → Q → Bool) (l : List Cand) : Prop := l.Pairwise fun c d => gt d.q c.q = false

theorem find?_rel_of_pairwise {α : Type} {R : α → α → Prop} {p : α → Bool} {l : List α} {c d : α}
    (hs : l.Pairwise R) (hf : l.find? p = some c) (hd : d ∈ l) (hp : p d = true) : d = c ∨ R c d := by
  obtain ⟨-, as, bs, rfl, has⟩ := List.find?_eq_some_iff_append.1 hf
  rcases List.mem_append.1 hd with hd | hd
  · exact absurd (has d hd) (by simp [hp])
  · exact (List.mem_cons.1 hd).imp_right (List.rel_of_pairwise_cons (List.pairwise_append.1 hs).2.1)

section
variable {gt : Q → Q → Bool} (trans : ∀ a b c : Q, gt a b = false → gt b c = false → gt a c = false)
  (asym : ∀ a b : Q, gt a b = true → gt b a = false)
include asym

theorem gt_irrefl (a : Q) : gt a a = false :=
  Bool.eq_false_iff.2 fun h => Bool.false_ne_true ((asym a a h).symm.trans h)

include trans

theorem sorted_insertBy (c : Cand) {l : List Cand} (hs : Sorted gt l) : Sorted gt (insertBy gt c l) := by
  induction l with
  | nil => exact List.pairwise_singleton _ c
  | cons d ds ih =>
    obtain ⟨hd, hds⟩ := List.pairwise_cons.1 hs
    unfold insertBy
    split
    · next hgt =>
      refine List.pairwise_cons.2 ⟨fun x hx => ?_, ih hds⟩
      rcases List.mem_cons.1 ((perm_insertBy gt c ds).mem_iff.1 hx) with rfl | hx
      · exact asym _ _ hgt
      · exact hd x hx
    · next hgt =>
      rw [Bool.not_eq_true] at hgt
      exact List.pairwise_cons.2 ⟨List.forall_mem_cons.2 ⟨hgt, fun x hx => trans _ _ _ (hd x hx) hgt⟩, hs⟩

theorem sorted_sortBy (l : List Cand) : Sorted gt (sortBy gt l) := by
  induction l with
  | nil => exact .nil
  | cons c cs ih => exact sorted_insertBy trans asym c ih

end

/-- When the comparison is a strict weak order (as `>` on non-NaN floats is), a non-empty answer is the
    language of a candidate of the header to which no supported candidate is strictly preferred: the
    client's best supported language wins. -/
theorem C38_negotiate_best (pf : Str → Option Q) (gt : Q → Q → Bool)
    (trans : ∀ a b c : Q, gt a b = false → gt b c = false → gt a c = false)
    (asym : ∀ a b : Q, gt a b = true → gt b a = false)
    (supported : List Str) (header : Str) (h : negotiate pf gt supported header ≠ []) :
    ∃ c ∈ candidates pf header, c.lang = negotiate pf gt supported header ∧
      ∀ d ∈ candidates pf header, d.lang ∈ supported → gt d.q c.q = false := by
  obtain ⟨c, hc, hl⟩ := negotiate_ne_nil h
  have hm := (perm_sortBy gt _).mem_iff.1 (List.mem_of_find?_eq_some hc)
  refine ⟨c, hm, hl, fun d hd hsup => ?_⟩
  rcases find?_rel_of_pairwise (sorted_sortBy trans asym _) hc ((perm_sortBy gt _).mem_iff.2 hd)
    (List.contains_iff_mem.2 hsup) with rfl | h
  · exact gt_irrefl asym _
  · exact h

/-- the driver's comparison meets the hypothesis `asym` -/
theorem gtDec_asym (a b : Q) : gtDec a b = true → gtDec b a = false := by
  unfold gtDec
  intro h
  -- both comparisons are made at the smaller of the two exponents
  have hmin : (if a.exp ≤ b.exp then a.exp else b.exp) = (if b.exp ≤ a.exp then b.exp else a.exp) :=
    Int.min_comm a.exp b.exp
  rw [← hmin]
  simp only [decide_eq_true_eq, decide_eq_false_iff_not] at h ⊢
  exact Int.lt_asymm h

-- non-vacuity of the negotiation theorems (the model run on concrete headers)
example : negotiate pfDec gtDec ["en".toList, "fr".toList] "fr-CA,fr;q=0.9,en;q=0.8,*;q=0.1".toList = "fr".toList := by decide +kernel
example : negotiate pfDec gtDec ["en".toList, "fr".toList] "de, en;q=0.3, FR ; q=0.5".toList = "fr".toList := by decide +kernel
example : negotiate pfDec gtDec ["en".toList, "fr".toList] "de,*".toList = [] := by decide +kernel

end EgoVerif.C38
