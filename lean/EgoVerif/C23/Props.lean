import EgoVerif.C23.Model
/-
C23 — authorization codes and refresh tokens are single-use under every interleaving of the two
atomic cache steps of a token request.  The patched protocol conserves
`successes + [key in cache]` at every request step; the unpatched one does so only when no other
step falls between a request's Find and its Delete, where the two protocols coincide.  Then PKCE,
the grant decision, and replay against the sequential token endpoint.
-/
namespace EgoVerif.C23

theorem countKey_append (k : Nat) (a b : List (Nat × Nat)) :
    countKey k (a ++ b) = countKey k a + countKey k b := by
  simp [countKey, List.countP_append]

@[simp] theorem countKey_nil (k : Nat) : countKey k [] = 0 := rfl

theorem countKey_single (k a v : Nat) : countKey k [(a, v)] = if a = k then 1 else 0 := by
  by_cases h : a = k <;> simp [countKey, h]

theorem countKey_filter_le (k : Nat) (l : List (Nat × Nat)) (post : Nat × Nat → Bool) :
    countKey k (l.filter post) ≤ countKey k l := by
  unfold countKey
  rw [List.countP_filter]
  exact List.countP_mono_left fun x _ hx => (Bool.and_eq_true _ _ ▸ hx).1

theorem run_append (p : Proto) (key : Nat → Nat) (s : St) (a b : List Ev) :
    run p key s (a ++ b) =
      ((run p key (run p key s a).1 b).1, (run p key s a).2 ++ (run p key (run p key s a).1 b).2) := by
  induction a generalizing s with
  | nil => simp [run]
  | cons e es ih => simp [run, ih, List.append_assoc]

theorem issued_append (k : Nat) (a b : List Ev) : issued k (a ++ b) = issued k a + issued k b := by
  induction a with
  | nil => simp [issued]
  | cons e es ih => cases e <;> simp [issued, ih, Nat.add_assoc]

theorem issued_sched (k : Nat) (l : List Nat) : issued k (sched l) = 0 := by
  induction l with
  | nil => rfl
  | cons i is ih => simpa [sched, issued] using ih

theorem pres_le_one (s : St) (k : Nat) : pres s k ≤ 1 := by
  unfold pres; split <;> omega

theorem cs_done (p : Proto) (key : Nat → Nat) (s : St) (i : Nat) (r : Option Nat)
    (h : s.pc i = .done r) : clientStep p key s i = (s, none) := by
  simp [clientStep, h]

theorem cs_start_none (p : Proto) (key : Nat → Nat) (s : St) (i : Nat)
    (h : s.pc i = .start) (hc : s.cache (key i) = none) :
    clientStep p key s i = (⟨s.cache, setPC s.pc i (.done none)⟩, none) := by
  simp [clientStep, h, Cache.find, hc]

theorem cs_start_some (p : Proto) (key : Nat → Nat) (s : St) (i v : Nat)
    (h : s.pc i = .start) (hc : s.cache (key i) = some v) :
    clientStep p key s i = (⟨s.cache, setPC s.pc i (.found v)⟩, none) := by
  simp [clientStep, h, Cache.find, hc]

theorem setPC_self (pc : Nat → PC) (i : Nat) (p : PC) : setPC pc i p i = p := by simp [setPC]
theorem setPC_other (pc : Nat → PC) (i j : Nat) (p : PC) (h : j ≠ i) : setPC pc i p j = pc j := by
  simp [setPC, h]
theorem setPC_setPC (pc : Nat → PC) (i : Nat) (p q : PC) : setPC (setPC pc i p) i q = setPC pc i q := by
  funext j; by_cases h : j = i <;> simp [setPC, h]

/-- the cache after `Delete(key)` -/
def without (c : Cache) (k : Nat) : Cache := fun j => if j = k then none else c j

theorem without_none (c : Cache) (k j : Nat) (h : c j = none) : without c k j = none := by
  unfold without
  split
  · rfl
  · exact h

theorem cs_found_win (p : Proto) (key : Nat → Nat) (s : St) (i v : Nat) (h : s.pc i = .found v)
    (hw : p = .twoStep ∨ (s.cache (key i)).isSome = true) :
    clientStep p key s i =
      (⟨without s.cache (key i), setPC s.pc i (.done (some v))⟩, some (key i, v)) := by
  cases p with
  | twoStep => simp [clientStep, h, Cache.delete]; rfl
  | deleteDecides => simp [clientStep, h, Cache.delete, hw.resolve_left nofun]; rfl

theorem step_dd_cases (key : Nat → Nat) (s : St) (i : Nat) :
    (∃ r, s.pc i = .done r ∧ clientStep .deleteDecides key s i = (s, none)) ∨
    (s.pc i = .start ∧ s.cache (key i) = none ∧
      clientStep .deleteDecides key s i = (⟨s.cache, setPC s.pc i (.done none)⟩, none)) ∨
    (∃ v, s.pc i = .start ∧ s.cache (key i) = some v ∧
      clientStep .deleteDecides key s i = (⟨s.cache, setPC s.pc i (.found v)⟩, none)) ∨
    (∃ v, s.pc i = .found v ∧ s.cache (key i) = none ∧
      clientStep .deleteDecides key s i = (⟨without s.cache (key i), setPC s.pc i (.done none)⟩, none)) ∨
    (∃ v w, s.pc i = .found v ∧ s.cache (key i) = some w ∧
      clientStep .deleteDecides key s i =
        (⟨without s.cache (key i), setPC s.pc i (.done (some v))⟩, some (key i, v))) := by
  cases hpc : s.pc i with
  | done r => exact .inl ⟨r, rfl, cs_done _ _ _ _ r hpc⟩
  | start =>
    cases hc : s.cache (key i) with
    | none => exact .inr (.inl ⟨rfl, rfl, cs_start_none _ _ _ _ hpc hc⟩)
    | some v => exact .inr (.inr (.inl ⟨v, rfl, rfl, cs_start_some _ _ _ _ v hpc hc⟩))
  | found v =>
    cases hc : s.cache (key i) with
    | none => exact .inr (.inr (.inr (.inl ⟨v, rfl, rfl, by simp [clientStep, hpc, Cache.delete, hc]; rfl⟩)))
    | some w => exact .inr (.inr (.inr (.inr ⟨v, w, rfl, rfl, cs_found_win _ _ _ _ v hpc (.inr (hc ▸ rfl))⟩)))

/-! ### the patched protocol: one event keeps  successes + presence ≤ presence + issues -/

theorem pres_without (c : Cache) (pc : Nat → PC) (k k' : Nat) :
    pres ⟨without c k', pc⟩ k = if k = k' then 0 else pres ⟨c, pc⟩ k := by
  by_cases h : k = k' <;> simp [pres, without, h]

theorem pres_absent (s : St) (k : Nat) (h : s.cache k = none) : pres s k = 0 := by
  simp only [pres, h, Option.isSome_none, Bool.false_eq_true, if_false]

theorem pres_present (s : St) (k v : Nat) (h : s.cache k = some v) : pres s k = 1 := by
  simp only [pres, h, Option.isSome_some, if_true]

theorem step_dd_conserve (key : Nat → Nat) (s : St) (i k : Nat) :
    countKey k (clientStep .deleteDecides key s i).2.toList + pres (clientStep .deleteDecides key s i).1 k
      = pres s k := by
  rcases step_dd_cases key s i with ⟨r, _, h⟩ | ⟨_, _, h⟩ | ⟨v, _, _, h⟩ | ⟨v, _, hc, h⟩ | ⟨v, w, _, hc, h⟩ <;>
    rw [h]
  · exact Nat.zero_add _
  · exact Nat.zero_add _
  · exact Nat.zero_add _
  · -- `Delete` found nothing: the key was absent already
    rw [pres_without]
    by_cases hk : k = key i
    · rw [if_pos hk, hk, pres_absent s _ hc]; rfl
    · rw [if_neg hk]; exact Nat.zero_add _
  · -- `Delete` removed the entry: one success, one presence less
    rw [pres_without, Option.toList, countKey_single]
    by_cases hk : k = key i
    · rw [if_pos hk, if_pos hk.symm, hk, pres_present s _ w hc]
    · rw [if_neg hk, if_neg (Ne.symm hk)]; exact Nat.zero_add _

theorem sched_dd_conserve (key : Nat → Nat) (s : St) (l : List Nat) (k : Nat) :
    countKey k (run .deleteDecides key s (sched l)).2 + pres (run .deleteDecides key s (sched l)).1 k
      = pres s k := by
  induction l generalizing s with
  | nil => exact Nat.zero_add _
  | cons i is ih =>
    have h1 := step_dd_conserve key s i k
    have h2 := ih (clientStep .deleteDecides key s i).1
    simp only [sched, List.map_cons, run, evStep, countKey_append] at *
    omega

theorem evStep_dd_inv (key : Nat → Nat) (s : St) (e : Ev) (k : Nat) :
    countKey k (evStep .deleteDecides key s e).2.toList + pres (evStep .deleteDecides key s e).1 k
      ≤ pres s k + issued k [e] := by
  cases e with
  | issue k' v =>
    by_cases h : k' = k
    · subst h; simp [evStep, issued, pres, Cache.add]
    · have h' : ¬ k = k' := fun e => h e.symm
      simp [evStep, issued, pres, Cache.add, h, h']
  | expire k' =>
    by_cases h : k = k'
    · subst h; simp [evStep, issued, pres, Cache.delete]
    · simp [evStep, issued, pres, Cache.delete, h]
  | step i =>
    have := step_dd_conserve key s i k
    simp only [evStep, issued, Nat.add_zero]
    omega

/-- **C23, general form.**  Patched protocol, ANY initial state (requests may already be
between their two steps), ANY history of request steps, issues and foreign removals: the
number of successful redemptions of key `k` is at most the number of times `k` was issued,
plus one if `k` was in the cache at the start. -/
theorem C23_single_use_general (key : Nat → Nat) (s : St) (evs : List Ev) (k : Nat) :
    countKey k (run .deleteDecides key s evs).2 + pres (run .deleteDecides key s evs).1 k
      ≤ issued k evs + pres s k := by
  induction evs generalizing s with
  | nil => simp [run, issued]
  | cons e es ih =>
    have h1 := evStep_dd_inv key s e k
    have h2 := ih (evStep .deleteDecides key s e).1
    have h3 : issued k (e :: es) = issued k [e] + issued k es := issued_append k [e] es
    simp only [run, countKey_append]
    omega

/-- **C23.**  N concurrent token requests (request `i` presents key `key i`; nothing is said
about N: every request id that occurs in the schedule is a request), any initial cache
content, ANY schedule: every key is redeemed successfully at most once. -/
theorem C23_single_use (key : Nat → Nat) (c : Cache) (schedule : List Nat) (k : Nat) :
    successes .deleteDecides key c schedule k ≤ 1 := by
  have h := C23_single_use_general key ⟨c, allStart⟩ (sched schedule) k
  have hp := pres_le_one ⟨c, allStart⟩ k
  rw [issued_sched] at h
  unfold successes
  omega

/-- the same with the number of requests explicit: ids below `N`, all presenting one code -/
theorem C23_single_use_N (N : Nat) (c : Cache) (schedule : List Nat) (_h : ∀ i ∈ schedule, i < N)
    (code : Nat) : successes .deleteDecides (fun _ => code) c schedule code ≤ 1 :=
  C23_single_use _ c schedule code

/-- a key that is not in the cache and is never issued is never redeemed -/
theorem C23_unknown_code_fails (key : Nat → Nat) (c : Cache) (schedule : List Nat) (k : Nat)
    (hk : c k = none) : successes .deleteDecides key c schedule k = 0 := by
  have h := C23_single_use_general key ⟨c, allStart⟩ (sched schedule) k
  rw [issued_sched] at h
  have := pres_absent ⟨c, allStart⟩ k hk
  unfold successes
  omega

/-- Tokens are handed out only by requests whose consume step succeeded and whose later
checks (`post`: client binding, redirect URI, PKCE) pass: at most one token response per key. -/
theorem C23_handler_single_use (key : Nat → Nat) (c : Cache) (schedule : List Nat) (k : Nat)
    (post : Nat × Nat → Bool) :
    countKey k ((run .deleteDecides key ⟨c, allStart⟩ (sched schedule)).2.filter post) ≤ 1 :=
  Nat.le_trans (countKey_filter_le k _ post) (C23_single_use key c schedule k)

/-! ### the unpatched protocol -/

/-- code 0 holds value 7; requests 0 and 1 present it; schedule find₀ find₁ delete₀ delete₁ -/
def cex_cache : Cache := Cache.empty.add 0 7

theorem C23_two_step_counterexample :
    ∃ schedule : List Nat, successes .twoStep (fun _ => 0) cex_cache schedule 0 = 2 :=
  ⟨[0, 1, 0, 1], by decide⟩

example : successes .deleteDecides (fun _ => 0) cex_cache [0, 1, 0, 1] 0 = 1 := by decide

/-- the successes of the witness schedule carry the same stored value (both get tokens for it) -/
example : (run .twoStep (fun _ => 0) ⟨cex_cache, allStart⟩ (sched [0, 1, 0, 1])).2 = [(0, 7), (0, 7)] := by
  decide

theorem two_step_finds (code v : Nat) (c : Cache) (hc : c code = some v) (l : List Nat) (hl : l.Nodup)
    (pc : Nat → PC) (hstart : ∀ j ∈ l, pc j = .start) :
    run .twoStep (fun _ => code) ⟨c, pc⟩ (sched l) =
      (⟨c, fun j => if j ∈ l then .found v else pc j⟩, []) := by
  induction l generalizing pc with
  | nil => simp [sched, run]
  | cons i is ih =>
    obtain ⟨hni, hnd⟩ := List.nodup_cons.1 hl
    have hrest := ih hnd (setPC pc i (.found v)) fun j hj => by
      rw [setPC_other _ _ _ _ fun e : j = i => hni (e ▸ hj)]; exact hstart j (List.mem_cons_of_mem _ hj)
    simp only [sched, List.map_cons, run, evStep] at hrest ⊢
    rw [cs_start_some _ _ _ _ v (hstart i List.mem_cons_self) hc, hrest]
    refine congrArg (fun f => ((⟨c, f⟩ : St), ([] : List (Nat × Nat)))) (funext fun j => ?_)
    by_cases hj : j = i
    · subst hj; simp [hni, setPC_self]
    · simp [hj, setPC_other _ _ _ _ hj]

theorem two_step_deletes (code v : Nat) (l : List Nat) (hl : l.Nodup) (c : Cache) (pc : Nat → PC)
    (hfound : ∀ j ∈ l, pc j = .found v) :
    countKey code (run .twoStep (fun _ => code) ⟨c, pc⟩ (sched l)).2 = l.length := by
  induction l generalizing c pc with
  | nil => rfl
  | cons i is ih =>
    obtain ⟨hni, hnd⟩ := List.nodup_cons.1 hl
    have hrest := ih hnd (without c code) (setPC pc i (.done (some v))) fun j hj => by
      rw [setPC_other _ _ _ _ fun e : j = i => hni (e ▸ hj)]; exact hfound j (List.mem_cons_of_mem _ hj)
    simp only [sched, List.map_cons, run, evStep] at hrest ⊢
    rw [cs_found_win _ _ _ _ v (hfound i List.mem_cons_self) (.inl rfl), countKey_append, hrest, Option.toList,
      countKey_single, if_pos rfl, List.length_cons, Nat.add_comm]

/-- **The defect is unbounded.**  With the unpatched protocol, for every N there is a schedule
of N requests (all Find, then all Delete) under which all N redeem the same code. -/
theorem C23_two_step_unbounded (N code v : Nat) (c : Cache) (hc : c code = some v) :
    ∃ schedule : List Nat, (∀ i ∈ schedule, i < N) ∧
      successes .twoStep (fun _ => code) c schedule code = N := by
  refine ⟨List.range N ++ List.range N, fun i hi => ?_, ?_⟩
  · exact List.mem_range.1 ((List.mem_append.1 hi).elim id id)
  · have hf := two_step_finds code v c hc (List.range N) List.nodup_range allStart fun _ _ => rfl
    unfold successes
    rw [sched, List.map_append, run_append, ← sched, hf]
    exact (two_step_deletes code v (List.range N) List.nodup_range c _ fun j hj => if_pos hj).trans
      List.length_range

/-- no request is between its Find and its Delete -/
def noneMidway (s : St) : Prop := ∀ j v, s.pc j ≠ .found v

/-- a request runs both its steps back to back -/
def serial (order : List Nat) : List Ev := order.flatMap (fun i => [Ev.step i, Ev.step i])

theorem noneMidway_done (c c' : Cache) (pc : Nat → PC) (i : Nat) (r : Option Nat)
    (h : noneMidway ⟨c, pc⟩) : noneMidway ⟨c', setPC pc i (.done r)⟩ := by
  intro j w
  by_cases hj : j = i
  · subst hj; simp [setPC]
  · simp only [setPC, hj, if_false]; exact h j w

/-- a request that runs Find and Delete back to back finds the entry still there at its Delete:
the two protocols do the same -/
theorem pair_agrees (key : Nat → Nat) (s : St) (i : Nat) (h : noneMidway s) :
    run .twoStep key s [.step i, .step i] = run .deleteDecides key s [.step i, .step i] ∧
    noneMidway (run .deleteDecides key s [.step i, .step i]).1 := by
  cases hpc : s.pc i with
  | found v => exact absurd hpc (h i v)
  | done r =>
    simp only [run, evStep, cs_done _ _ _ _ r hpc]
    exact ⟨trivial, h⟩
  | start =>
    cases hc : s.cache (key i) with
    | none =>
      have h2 : (⟨s.cache, setPC s.pc i (.done none)⟩ : St).pc i = .done none := setPC_self _ _ _
      simp only [run, evStep, cs_start_none _ _ _ _ hpc hc, cs_done _ _ _ _ none h2]
      exact ⟨trivial, noneMidway_done _ _ _ _ _ h⟩
    | some v =>
      have h2 : (⟨s.cache, setPC s.pc i (.found v)⟩ : St).pc i = .found v := setPC_self _ _ _
      have hw : (s.cache (key i)).isSome = true := hc ▸ rfl
      simp only [run, evStep, cs_start_some _ _ _ _ v hpc hc, cs_found_win _ _ _ _ v h2 (.inl rfl),
        cs_found_win _ _ _ _ v h2 (.inr hw), setPC_setPC]
      exact ⟨trivial, noneMidway_done _ _ _ _ _ h⟩

theorem serial_agrees (key : Nat → Nat) (s : St) (order : List Nat) (h : noneMidway s) :
    run .twoStep key s (serial order) = run .deleteDecides key s (serial order) := by
  induction order generalizing s with
  | nil => rfl
  | cons i is ih =>
    obtain ⟨hp, hn⟩ := pair_agrees key s i h
    have : serial (i :: is) = [Ev.step i, Ev.step i] ++ serial is := rfl
    rw [this, run_append, run_append, hp, ih _ hn]

theorem serial_eq_sched (order : List Nat) : serial order = sched (order.flatMap fun i => [i, i]) := by
  simp [serial, sched, List.map_flatMap]

/-- **Partial result for the unpatched protocol**: if requests never interleave (every
request runs Find and Delete back to back — what the repository's sequential tests do), a key is
redeemed at most once.  The excluded class is exactly "another request's step falls between
a request's Find and its Delete". -/
theorem C23_two_step_partial (key : Nat → Nat) (s : St) (order : List Nat) (k : Nat)
    (h : noneMidway s) :
    countKey k (run .twoStep key s (serial order)).2 + pres (run .twoStep key s (serial order)).1 k
      ≤ pres s k := by
  rw [serial_agrees key s order h, serial_eq_sched]
  exact Nat.le_of_eq (sched_dd_conserve key s _ k)

/-- non-vacuity: the initial state has nobody midway, and a serial run does redeem once -/
example : noneMidway ⟨cex_cache, allStart⟩ := by intro j v; simp [allStart]
example : countKey 0 (run .twoStep (fun _ => 0) ⟨cex_cache, allStart⟩ (serial [0, 1, 2])).2 = 1 := by decide

/-! ### the fix rejects nobody it should not: exactly one winner -/

/-- a request that has returned leaves its key absent (it saw it absent or removed it) -/
def doneAbsent (key : Nat → Nat) (s : St) : Prop := ∀ i r, s.pc i = .done r → s.cache (key i) = none

def stepsLeft : PC → Nat
  | .start => 2
  | .found _ => 1
  | .done _ => 0

theorem move_settles (key : Nat → Nat) (s : St) (i : Nat) (p : PC) (c : Cache) (h : doneAbsent key s)
    (hc : ∀ k, s.cache k = none → c k = none) (hp : ∀ r, p = .done r → c (key i) = none)
    (hn : stepsLeft p ≤ stepsLeft (s.pc i) - 1) :
    doneAbsent key ⟨c, setPC s.pc i p⟩ ∧ stepsLeft (setPC s.pc i p i) ≤ stepsLeft (s.pc i) - 1 ∧
      ∀ j, j ≠ i → setPC s.pc i p j = s.pc j := by
  refine ⟨fun j r hj => ?_, (setPC_self ..).symm ▸ hn, fun _ => setPC_other _ _ _ _⟩
  by_cases hji : j = i
  · subst hji; exact hp r ((setPC_self ..).symm.trans hj)
  · exact hc _ (h j r ((setPC_other _ _ _ _ hji).symm.trans hj))

theorem step_dd_settles (key : Nat → Nat) (s : St) (i : Nat) (h : doneAbsent key s) :
    doneAbsent key (clientStep .deleteDecides key s i).1 ∧
    stepsLeft ((clientStep .deleteDecides key s i).1.pc i) ≤ stepsLeft (s.pc i) - 1 ∧
    ∀ j, j ≠ i → (clientStep .deleteDecides key s i).1.pc j = s.pc j := by
  rcases step_dd_cases key s i with ⟨r, hp, e⟩ | ⟨hp, hc, e⟩ | ⟨v, hp, _, e⟩ | ⟨v, _, _, e⟩ | ⟨v, w, _, _, e⟩ <;>
    rw [e]
  · exact ⟨h, hp ▸ Nat.zero_le _, fun _ _ => rfl⟩
  · exact move_settles key s i _ _ h (fun _ => id) (fun _ _ => hc) (Nat.zero_le _)
  · exact move_settles key s i _ _ h (fun _ => id) nofun (hp ▸ Nat.le_refl 1)
  · exact move_settles key s i _ _ h (without_none _ _) (fun _ _ => if_pos rfl) (Nat.zero_le _)
  · exact move_settles key s i _ _ h (without_none _ _) (fun _ _ => if_pos rfl) (Nat.zero_le _)

theorem sched_dd_absent (key : Nat → Nat) (s : St) (l : List Nat) (i : Nat) (h : doneAbsent key s)
    (hfin : stepsLeft (s.pc i) ≤ l.count i) :
    (run .deleteDecides key s (sched l)).1.cache (key i) = none := by
  induction l generalizing s with
  | nil =>
    cases hp : s.pc i with
    | done r => exact h i r hp
    | start => rw [hp] at hfin; exact absurd hfin (by simp [stepsLeft])
    | found w => rw [hp] at hfin; exact absurd hfin (by simp [stepsLeft])
  | cons j js ih =>
    obtain ⟨h', hn, ho⟩ := step_dd_settles key s j h
    refine ih (clientStep .deleteDecides key s j).1 h' ?_
    by_cases hji : j = i
    · subst hji
      rw [List.count_cons_self] at hfin
      omega
    · rw [ho i (Ne.symm hji)]
      rwa [List.count_cons_of_ne hji] at hfin

/-- **Exactly one winner.**  Patched protocol; the code is in the cache; the schedule lets at
least one of the requests presenting it run both its steps: exactly one request redeems it. -/
theorem C23_exactly_one (key : Nat → Nat) (c : Cache) (schedule : List Nat) (k v : Nat)
    (hc : c k = some v) (i : Nat) (hi : key i = k) (hfin : 2 ≤ schedule.count i) :
    successes .deleteDecides key c schedule k = 1 := by
  have hcons := sched_dd_conserve key ⟨c, allStart⟩ schedule k
  have habs := sched_dd_absent key ⟨c, allStart⟩ schedule i (fun j r hj => nomatch hj) hfin
  rw [hi] at habs
  rw [pres_present ⟨c, allStart⟩ k v hc, pres_absent _ k habs] at hcons
  exact hcons

/-- non-vacuity of `C23_exactly_one` -/
example : successes .deleteDecides (fun _ => 0) cex_cache [0, 1, 2, 1, 0, 2] 0 = 1 :=
  C23_exactly_one _ _ _ 0 7 (by decide) 1 rfl (by decide)

/-- **C23 (PKCE).**  A code issued with a challenge passes `verifyPKCE` exactly when the
method is S256 and BASE64URL(SHA256(verifier)) equals the stored challenge. -/
theorem C23_pkce (s256 : String → String) (challenge method verifier : String) (h : challenge ≠ "") :
    verifyPKCE s256 challenge method verifier = .ok ↔ (method = "S256" ∧ s256 verifier = challenge) := by
  unfold verifyPKCE
  by_cases hm : method = "S256" <;> by_cases hv : s256 verifier = challenge <;> simp [h, hm, hv]

/-- With S256 injective on the verifiers considered (collision resistance of SHA-256, and
base64url is injective), a code issued for the challenge of `v₀` is redeemed by `v` iff `v = v₀`. -/
theorem C23_pkce_matching (s256 : String → String) (inj : ∀ a b, s256 a = s256 b → a = b)
    (v₀ v : String) (h : s256 v₀ ≠ "") :
    verifyPKCE s256 (s256 v₀) "S256" v = .ok ↔ v = v₀ := by
  rw [C23_pkce s256 _ _ _ h]
  constructor
  · intro hh; exact inj _ _ hh.2
  · intro hh; subst hh; exact ⟨rfl, rfl⟩

/-- a method other than S256 ("plain", "", "s256", …) never passes with a challenge -/
theorem C23_pkce_plain_rejected (s256 : String → String) (challenge method verifier : String)
    (h : challenge ≠ "") (hm : method ≠ "S256") :
    verifyPKCE s256 challenge method verifier = .badMethod := by
  simp [verifyPKCE, h, hm]

theorem codeGrant_ok_iff (s256 : String → String) (clientOk allowsGrant isPublic : Bool)
    (reqClient reqRedirect verifier : String) (p : Pending) :
    codeGrant s256 clientOk allowsGrant isPublic reqClient reqRedirect verifier (some p) = .ok ↔
      clientOk = true ∧ allowsGrant = true ∧ p.clientID = reqClient ∧ p.redirectURI = reqRedirect ∧
      ¬ (isPublic = true ∧ p.challenge = "") ∧ verifyPKCE s256 p.challenge p.method verifier = .ok := by
  unfold codeGrant
  cases clientOk
  · simp
  cases allowsGrant
  · simp
  by_cases h3 : p.clientID = reqClient
  · by_cases h4 : p.redirectURI = reqRedirect
    · by_cases h5 : isPublic = true ∧ p.challenge = ""
      · simp [h3, h4, h5]
      · cases hv : verifyPKCE s256 p.challenge p.method verifier <;> simp [h3, h4, h5, hv]
    · simp [h3, h4]
  · simp [h3]

/-- The token endpoint hands out tokens for a code issued with a challenge only to a request
whose verifier matches (and whose client and redirect URI are the ones the code was issued to). -/
theorem C23_grant_needs_verifier (s256 : String → String) (clientOk allowsGrant isPublic : Bool)
    (reqClient reqRedirect verifier : String) (p : Pending) (hch : p.challenge ≠ "")
    (hok : codeGrant s256 clientOk allowsGrant isPublic reqClient reqRedirect verifier (some p) = .ok) :
    p.method = "S256" ∧ s256 verifier = p.challenge ∧ p.clientID = reqClient ∧ p.redirectURI = reqRedirect := by
  obtain ⟨_, _, h3, h4, _, hpk⟩ := (codeGrant_ok_iff ..).1 hok
  have := (C23_pkce s256 _ _ _ hch).1 hpk
  exact ⟨this.1, this.2, h3, h4⟩

/-- a public client (no secret) never gets tokens for a code issued without a challenge -/
theorem C23_public_requires_pkce (s256 : String → String) (clientOk allowsGrant : Bool)
    (reqClient reqRedirect verifier : String) (p : Pending)
    (hok : codeGrant s256 clientOk allowsGrant true reqClient reqRedirect verifier (some p) = .ok) :
    p.challenge ≠ "" :=
  fun hch => ((codeGrant_ok_iff ..).1 hok).2.2.2.2.1 ⟨rfl, hch⟩

/-- no consumed code, no tokens -/
theorem C23_grant_needs_code (s256 : String → String) (clientOk allowsGrant isPublic : Bool)
    (reqClient reqRedirect verifier : String) :
    codeGrant s256 clientOk allowsGrant isPublic reqClient reqRedirect verifier none ≠ .ok := by
  unfold codeGrant
  cases clientOk <;> cases allowsGrant <;> simp

/-- non-vacuity: a matching request is granted, a wrong verifier and a "plain" challenge are not -/
example : codeGrant (fun v => "H" ++ v) true true true "app" "cb" "v" (some ⟨"app", "cb", "Hv", "S256"⟩) = .ok := by decide
example : codeGrant (fun v => "H" ++ v) true true true "app" "cb" "w" (some ⟨"app", "cb", "Hv", "S256"⟩) = .invalidGrant := by decide
example : codeGrant (fun v => v) true true true "app" "cb" "v" (some ⟨"app", "cb", "v", "plain"⟩) = .invalidGrant := by decide

/-! ### one request at a time: replay is refused, also after a failed exchange -/

theorem lookup_filter_ne {β : Type} (l : List (String × β)) (code : String) :
    (l.filter (fun e => e.1 ≠ code)).lookup code = none :=
  List.lookup_eq_none_iff.2 fun _ he => bne_iff_ne.2 (Ne.symm (of_decide_eq_true (List.mem_filter.1 he).2))

/-- Any authorization_code request that reaches `consumeCode` — whether it then succeeds or
fails the client-binding, redirect or PKCE check — burns the code: the next request
presenting that code is refused (sequential single use, RFC 6749 §4.1.2). -/
theorem C23_sequential_replay (s256 s256' : String → String) (s : Srv) (isPublic ok' al' pub' : Bool)
    (cl rd code ver cl' rd' ver' : String) :
    (Srv.tokenCode s256' (Srv.tokenCode s256 s true true isPublic cl rd code ver).1
        ok' al' pub' cl' rd' code ver').2 ≠ .ok := by
  unfold Srv.tokenCode
  split
  · rw [show reachesConsume true true = true from rfl, if_pos rfl, lookup_filter_ne]
    exact C23_grant_needs_code s256' ok' al' pub' cl' rd' ver'
  · exact C23_grant_needs_code s256' ok' al' pub' cl' rd' ver'

theorem refreshGrant_none (ok al : Bool) (cl : String) : refreshGrant ok al cl none ≠ .ok := by
  unfold refreshGrant; cases ok <;> cases al <;> simp

/-- the same for refresh tokens (rotation: the old token is gone after one use) -/
theorem C23_sequential_refresh_replay (s : Srv) (ok' al' : Bool) (cl tok cl' : String) :
    (Srv.tokenRefresh (Srv.tokenRefresh s true true cl tok).1 ok' al' cl' tok).2 ≠ .ok := by
  unfold Srv.tokenRefresh
  split
  · rw [show reachesConsume true true = true from rfl, if_pos rfl, lookup_filter_ne]
    exact refreshGrant_none ok' al' cl'
  · exact refreshGrant_none ok' al' cl'

/-- non-vacuity: the first request can succeed -/
example : (Srv.tokenCode (fun v => "H" ++ v) (Srv.empty.issueCode "c" ⟨"app", "cb", "Hv", "S256"⟩)
    true true true "app" "cb" "c" "v").2 = .ok := by decide

end EgoVerif.C23
