import EgoVerif.C37.Model
/-
C37 — spellings of a duration (sign, `count unit` terms, separators) as data, and what the two parsers make of
their text: Go's time.ParseDuration of a spelling without separators or days, the scanning loop of
parseDurationWithDays of any.
-/
namespace EgoVerif.C37

theorem digitChar_spec : ∀ k, k < 10 → isDigit (digitChar k) = true ∧ digitVal (digitChar k) = k := by
  decide

theorem digitsVal_append_single (xs : List Char) (c : Char) :
    digitsVal (xs ++ [c]) = digitsVal xs * 10 + digitVal c := by
  simp [digitsVal, List.foldl_append]

theorem showNatAux_spec : ∀ (fuel n : Nat), n < fuel →
    (showNatAux fuel n).all isDigit = true ∧ showNatAux fuel n ≠ [] ∧ digitsVal (showNatAux fuel n) = n := by
  intro fuel
  induction fuel with
  | zero => intro n h; omega
  | succ fuel ih =>
    intro n h
    unfold showNatAux
    by_cases h10 : n < 10
    · have := digitChar_spec n h10
      simp [h10, this.1, digitsVal, this.2]
    · obtain ⟨hall, _, hval⟩ := ih (n / 10) (by omega)
      obtain ⟨hd, hv⟩ := digitChar_spec (n % 10) (by omega)
      simp only [h10, if_false, digitsVal_append_single, hval, hv]
      exact ⟨by simp [List.all_append, hall, hd], by simp, by omega⟩

theorem showNat_digits (n : Nat) : (showNat n).all isDigit = true := (showNatAux_spec (n + 1) n (by omega)).1
theorem showNat_ne_nil (n : Nat) : showNat n ≠ [] := (showNatAux_spec (n + 1) n (by omega)).2.1
theorem showNat_val (n : Nat) : digitsVal (showNat n) = n := (showNatAux_spec (n + 1) n (by omega)).2.2

theorem showInt_natCast (n : Nat) : showInt (n : Int) = showNat n := by
  have : ¬ ((n : Int) < 0) := by omega
  simp [showInt, this]

theorem wrap64_small (x : Int) (h1 : -9223372036854775808 ≤ x) (h2 : x < 9223372036854775808) : wrap64 x = x := by
  unfold wrap64; omega

theorem ne_of_test {p : Char → Bool} {c k : Char} (hc : p c = true) (hk : p k = false) : c ≠ k := by
  rintro rfl; rw [hc] at hk; cases hk

inductive U where
  | d | h | m | s | ms
  deriving DecidableEq, Repr

def U.chars : U → List Char
  | .d => ['d'] | .h => ['h'] | .m => ['m'] | .s => ['s'] | .ms => ['m', 's']

def U.ns : U → Nat
  | .d => 86400000000000 | .h => 3600000000000 | .m => 60000000000 | .s => 1000000000 | .ms => 1000000

theorem U.ns_pos (u : U) : 0 < u.ns := by cases u <;> decide

structure Term where
  digits : List Char
  unit : U

def Term.ok (t : Term) : Prop := t.digits ≠ [] ∧ t.digits.all isDigit = true
def Term.val (t : Term) : Nat := digitsVal t.digits
/-- literal factor on the left: the kernel must never unfold `x * 86400000000000` in unary -/
def Term.ns (t : Term) : Nat := t.unit.ns * t.val
def Term.chars (t : Term) : List Char := t.digits ++ t.unit.chars

/-- the count `v` written by `%d`, with unit `u` -/
def Term.of (v : Nat) (u : U) : Term := ⟨showNat v, u⟩

theorem Term.of_ok (v : Nat) (u : U) : (Term.of v u).ok := ⟨showNat_ne_nil v, showNat_digits v⟩

theorem Term.of_ns (v : Nat) (u : U) : (Term.of v u).ns = u.ns * v := congrArg (u.ns * ·) (showNat_val v)

def sumNs : List Term → Nat
  | [] => 0
  | t :: ts => t.ns + sumNs ts

inductive Sign where
  | none | plus | minus
  deriving DecidableEq, Repr

def Sign.chars : Sign → List Char
  | .none => [] | .plus => ['+'] | .minus => ['-']

def Sign.apply : Sign → Nat → Int
  | .minus, n => -(n : Int)
  | _, n => (n : Int)

/-- items: (white space before the term, the term) -/
def renderItems : List (List Char × Term) → List Char
  | [] => []
  | (sep, t) :: r => sep ++ t.chars ++ renderItems r

/-- a spelling of the documented form: optional sign, a first term, then (white space, term)* -/
structure Spelling where
  sign : Sign
  first : Term
  rest : List (List Char × Term)

def Spelling.items (p : Spelling) : List (List Char × Term) := ([], p.first) :: p.rest
def Spelling.terms (p : Spelling) : List Term := p.first :: p.rest.map (·.2)
def Spelling.chars (p : Spelling) : List Char := p.sign.chars ++ renderItems p.items
def Spelling.ns (p : Spelling) : Nat := sumNs p.terms

/-- well-formed: separators are white space, counts are non-empty digit strings, no unit twice -/
def Spelling.wf (p : Spelling) : Prop :=
  (∀ it ∈ p.items, it.1.all isSpace = true ∧ it.2.ok) ∧ (p.terms.map (·.unit)).Nodup

def Starts (P : Char → Prop) (r : List Char) : Prop := ∃ c cs, r = c :: cs ∧ P c

def Next (P : Char → Prop) (r : List Char) : Prop := r = [] ∨ Starts P r

section
variable {P Q : Char → Prop} {r : List Char}

theorem Starts.append (h : Starts P r) (s : List Char) : Starts P (r ++ s) := by
  obtain ⟨c, cs, rfl, hc⟩ := h
  exact ⟨c, cs ++ s, rfl, hc⟩

theorem Starts.mono (h : Starts P r) (hpq : ∀ c, P c → Q c) : Starts Q r := by
  obtain ⟨c, cs, e, hc⟩ := h
  exact ⟨c, cs, e, hpq c hc⟩

theorem Starts.ne_nil (h : Starts P r) : r ≠ [] := by
  obtain ⟨c, cs, rfl, _⟩ := h
  exact List.cons_ne_nil c cs

end

theorem dropWhile_starts {p : Char → Bool} {r : List Char} (h : Starts (p · = false) r) :
    r.dropWhile p = r := by
  obtain ⟨c, cs, rfl, hc⟩ := h
  exact List.dropWhile_cons_of_neg (ne_true_of_eq_false hc)

theorem Term.ok.head {t : Term} (h : t.ok) : Starts (isDigit · = true) t.digits := by
  obtain ⟨hne, hall⟩ := h
  cases hd : t.digits with
  | nil => exact absurd hd hne
  | cons c cs =>
    rw [hd, List.all_cons, Bool.and_eq_true] at hall
    exact ⟨c, cs, rfl, hall.1⟩

theorem term_chars_length (t : Term) (h : t.ok) : 2 ≤ t.chars.length := by
  obtain ⟨c, cs, hds, _⟩ := h.head
  have : 1 ≤ t.unit.chars.length := by cases t.unit <;> decide
  rw [Term.chars, List.length_append, hds, List.length_cons]; omega

theorem renderItems_starts {P : Char → Prop} (sep : List Char) (t : Term) (r : List (List Char × Term))
    (hs : ∀ c ∈ sep, P c) (ht : Starts P t.digits) : Starts P (renderItems ((sep, t) :: r)) := by
  cases sep with
  | nil => exact (ht.append _).append _
  | cons c cs => exact ⟨c, _, rfl, hs c (List.mem_cons_self ..)⟩

theorem renderItems_next {P : Char → Prop} (items : List (List Char × Term))
    (h : ∀ it ∈ items, (∀ c ∈ it.1, P c) ∧ Starts P it.2.digits) : Next P (renderItems items) := by
  cases items with
  | nil => exact Or.inl rfl
  | cons it r =>
    have hit := h it (List.mem_cons_self ..)
    exact Or.inr (renderItems_starts it.1 it.2 r hit.1 hit.2)

theorem spelling_head (p : Spelling) (hok : p.first.ok) : Starts (isDigit · = true) (renderItems p.items) :=
  renderItems_starts [] p.first p.rest (fun _ h => nomatch h) hok.head

/-! ## Go's time.ParseDuration on spellings written without separators -/

theorem foldl_ge (ds : List Char) (x : Nat) : x ≤ ds.foldl (fun a c => a * 10 + digitVal c) x := by
  induction ds generalizing x with
  | nil => simp
  | cons c cs ih => simp only [List.foldl_cons]; have := ih (x * 10 + digitVal c); omega

theorem leadingInt_digits (ds : List Char) : ∀ (x : Nat) (r : List Char),
    ds.all isDigit = true → Next (isDigit · = false) r →
    ds.foldl (fun a c => a * 10 + digitVal c) x ≤ two63 →
    leadingInt x (ds ++ r) = some (ds.foldl (fun a c => a * 10 + digitVal c) x, r) := by
  induction ds with
  | nil =>
    intro x r _ hr _
    rcases hr with rfl | ⟨c, cs, rfl, hc⟩
    · simp [leadingInt]
    · simp [leadingInt, hc]
  | cons c cs ih =>
    intro x r hd hr hb
    simp only [List.all_cons, Bool.and_eq_true] at hd
    simp only [List.foldl_cons] at hb
    have hge := foldl_ge cs (x * 10 + digitVal c)
    simp only [List.cons_append, leadingInt, hd.1, if_true, List.foldl_cons]
    have h1 : ¬ x > two63 / 10 := by unfold two63 at *; omega
    have h2 : ¬ x * 10 + digitVal c > two63 := by omega
    simp only [h1, h2, if_false]
    exact ih _ r hd.2 hr hb

theorem unit_not_stop (u : U) : ∀ c ∈ u.chars, (!unitStop c) = true := by
  cases u <;> decide

theorem unit_head (u : U) : Starts (fun c => isDigit c = false ∧ c ≠ '.') u.chars := by
  cases u <;> exact ⟨_, _, rfl, by decide⟩

theorem takeWhile_unit (u : U) (r : List Char) (hr : Next (isDigit · = true) r) :
    (u.chars ++ r).takeWhile (fun x => !unitStop x) = u.chars ∧
    (u.chars ++ r).dropWhile (fun x => !unitStop x) = r := by
  have hr' : r.takeWhile (fun x => !unitStop x) = [] ∧ r.dropWhile (fun x => !unitStop x) = r := by
    rcases hr with rfl | ⟨c, cs, rfl, hc⟩
    · exact ⟨rfl, rfl⟩
    · simp [unitStop, hc]
  rw [List.takeWhile_append_of_pos (unit_not_stop u), List.dropWhile_append_of_pos (unit_not_stop u),
    hr'.1, hr'.2, List.append_nil]
  exact ⟨rfl, rfl⟩

theorem unitOf_chars (u : U) (h : u ≠ .d) : unitOf u.chars = some u.ns := by
  cases u <;> first | contradiction | decide

theorem goFrac_cons {c : Char} {cs : List Char} (h : c ≠ '.') : goFrac (c :: cs) = (0, 0, c :: cs, false) := by
  unfold goFrac
  split
  · next heq => exact absurd (List.cons.inj heq).1 h
  · rfl

theorem goTerm_term (t : Term) (r : List Char) (hok : t.ok) (hu : t.unit ≠ .d) (hr : Next (isDigit · = true) r)
    (hb : t.ns ≤ two63) : goTerm (t.chars ++ r) = some (t.ns, r) := by
  have hcomm : t.ns = t.val * t.unit.ns := Nat.mul_comm _ _
  rw [hcomm] at hb ⊢
  obtain ⟨c, cs, hds, hc⟩ := hok.head
  obtain ⟨uc, ucs, huc, -, hucdot⟩ := unit_head t.unit
  have hpos := t.unit.ns_pos
  have hval : t.val ≤ two63 := Nat.le_trans (Nat.le_mul_of_pos_right _ hpos) hb
  have hli : leadingInt 0 (t.digits ++ (t.unit.chars ++ r)) = some (t.val, t.unit.chars ++ r) :=
    leadingInt_digits t.digits 0 _ hok.2 (Or.inr (((unit_head t.unit).mono fun _ h => h.1).append r)) hval
  rw [hds, List.cons_append] at hli
  -- `pre`: the count has a digit
  have hpre : ((t.unit.chars ++ r).length != (c :: (cs ++ (t.unit.chars ++ r))).length) = true := by
    simp only [List.length_cons, List.length_append, bne_iff_ne, ne_eq]; omega
  have htw := takeWhile_unit t.unit r hr
  have hun := unitOf_chars t.unit hu
  have hune : t.unit.chars ≠ [] := huc ▸ List.cons_ne_nil uc ucs
  have hdiv : ¬ t.val > two63 / t.unit.ns := Nat.not_lt.2 ((Nat.le_div_iff_mul_le hpos).2 hb)
  have hv2 : ¬ t.val * t.unit.ns > two63 := Nat.not_lt.2 hb
  have hfr : goFrac (t.unit.chars ++ r) = (0, 0, t.unit.chars ++ r, false) := by
    rw [huc]; exact goFrac_cons hucdot
  simp only [Term.chars, hds, List.cons_append, List.append_assoc, goTerm, hc, Bool.or_true, Bool.not_true,
    Bool.false_eq_true, if_false, hli, hfr, htw.1, htw.2, hpre, Bool.false_and, hune, hun, gt_iff_lt,
    Nat.lt_irrefl, hdiv, hv2]

theorem goLoop_step (fuel : Nat) {d v : Nat} {s s3 : List Char} (hs : 0 < s.length) (hg : goTerm s = some (v, s3))
    (hd : d + v ≤ two63) : goLoop (fuel + 1) d s = goLoop fuel (d + v) s3 := by
  cases s with
  | nil => exact absurd hs (Nat.lt_irrefl 0)
  | cons c cs =>
    have hmod : (d + v) % two64 = d + v := Nat.mod_eq_of_lt (by unfold two63 at hd; unfold two64; omega)
    simp only [goLoop, hg, hmod, if_neg (Nat.not_lt.2 hd)]

def GoItem (it : List Char × Term) : Prop := it.1 = [] ∧ it.2.ok ∧ it.2.unit ≠ .d

theorem goLoop_items : ∀ (items : List (List Char × Term)) (fuel acc : Nat),
    (∀ it ∈ items, GoItem it) → acc + sumNs (items.map (·.2)) ≤ two63 → (renderItems items).length ≤ fuel →
    goLoop fuel acc (renderItems items) = .ok (acc + sumNs (items.map (·.2))) := by
  intro items
  induction items with
  | nil => intro fuel acc _ _ _; simp [renderItems, goLoop, sumNs]
  | cons it r ih =>
    intro fuel acc h hb hf
    obtain ⟨sep, t⟩ := it
    obtain ⟨⟨hs, hok, hu⟩, hr⟩ := List.forall_mem_cons.1 h
    cases hs
    have hlen := term_chars_length t hok
    simp only [List.map_cons, sumNs] at hb ⊢
    simp only [renderItems, List.nil_append, List.length_append] at hf ⊢
    have hgt := goTerm_term t (renderItems r) hok hu
      (renderItems_next r fun it hi => ⟨by simp [(hr it hi).1], (hr it hi).2.1.head⟩)
      (by omega)
    cases fuel with
    | zero => omega
    | succ fuel =>
      rw [goLoop_step fuel (by rw [List.length_append]; omega) hgt (by omega),
        ih fuel _ hr (by omega) (by omega), Nat.add_assoc]

theorem splitSign_digit (c : Char) (cs : List Char) (h : isDigit c = true) :
    splitSign (c :: cs) = (false, c :: cs) := by
  unfold splitSign
  split
  · next heq => exact absurd (List.cons.inj heq).1 (ne_of_test h rfl)
  · next heq => exact absurd (List.cons.inj heq).1 (ne_of_test h rfl)
  · rfl

theorem splitSign_sign (sg : Sign) (r : List Char) (hr : Starts (isDigit · = true) r) :
    splitSign (sg.chars ++ r) = (decide (sg = .minus), r) := by
  obtain ⟨c, cs, rfl, hc⟩ := hr
  cases sg
  · simpa [Sign.chars] using splitSign_digit c cs hc
  · simp [Sign.chars, splitSign]
  · simp [Sign.chars, splitSign]

theorem goParse_tight (p : Spelling) (h : ∀ it ∈ p.items, GoItem it) (hb : p.ns ≤ two63 - 1) :
    goParseDuration p.chars = .ok (p.sign.apply p.ns) := by
  have hok := (h _ (List.mem_cons_self ..)).2.1
  have hlen : 2 ≤ (renderItems p.items).length := by
    have := term_chars_length p.first hok
    simp only [Spelling.items, renderItems, List.nil_append, List.length_append]; omega
  have h0 : renderItems p.items ≠ ['0'] := by intro e; rw [e] at hlen; simp at hlen
  have hns : sumNs (p.items.map (·.2)) = p.ns := rfl
  have hloop := goLoop_items p.items _ 0 h (by unfold two63 at *; omega) (Nat.le_refl _)
  unfold goParseDuration Spelling.chars
  simp only [splitSign_sign p.sign _ (spelling_head p hok), h0, (spelling_head p hok).ne_nil, if_false, hloop, hns]
  cases p.sign <;> simp [Sign.apply, hb]

/-! ## parseDurationWithDays on spelled terms -/

def Fields.zero : Fields := ⟨0, 0, 0, 0, 0⟩

def Fields.set (f : Fields) : U → Nat → Fields
  | .d, v => { f with days := v }
  | .h, v => { f with hours := v }
  | .m, v => { f with mins := v }
  | .s, v => { f with secs := v }
  | .ms, v => { f with ms := v }

def Fields.get (f : Fields) : U → Nat
  | .d => f.days | .h => f.hours | .m => f.mins | .s => f.secs | .ms => f.ms

/-- the loop keeps the LAST value written for a unit -/
def applyTerms : Fields → List Term → Fields
  | f, [] => f
  | f, t :: ts => applyTerms (f.set t.unit t.val) ts

def stOf (f : Fields) (chars : List Char) (mSeen : Bool) : St :=
  ⟨f.days, f.hours, f.mins, f.secs, f.ms, chars, mSeen⟩

def clean (f : Fields) : St := stOf f [] false

def runF (st : St) (cs : List Char) : Except Err Fields :=
  match run st cs with
  | .error e => .error e
  | .ok st' => finish st'

theorem run_append (a b : List Char) (st : St) :
    run st (a ++ b) = (match run st a with | .error e => .error e | .ok st' => run st' b) := by
  induction a generalizing st with
  | nil => simp [run]
  | cons c cs ih =>
    simp only [List.cons_append, run]
    cases step st c with
    | error e => simp
    | ok st' => simp [ih]

theorem runF_append_ok {a : List Char} {st st' : St} (h : run st a = .ok st') (b : List Char) :
    runF st (a ++ b) = runF st' b := by
  simp [runF, run_append, h]

/-- a character that is none of the unit letters the loop switches on -/
def Plain (c : Char) : Prop := c ≠ 'd' ∧ c ≠ 'h' ∧ c ≠ 'm' ∧ c ≠ 's'

theorem plain_of_space {c : Char} (h : isSpace c = true) : Plain c :=
  ⟨ne_of_test h rfl, ne_of_test h rfl, ne_of_test h rfl, ne_of_test h rfl⟩

theorem plain_of_digit {c : Char} (h : isDigit c = true) : Plain c :=
  ⟨ne_of_test h rfl, ne_of_test h rfl, ne_of_test h rfl, ne_of_test h rfl⟩

theorem digit_not_space {c : Char} (h : isDigit c = true) : isSpace c = false := by
  simp only [isDigit, Bool.and_eq_true, decide_eq_true_eq] at h
  unfold isSpace
  generalize c.toNat = n at h
  simp only [Bool.or_eq_false_iff, Bool.and_eq_false_iff, beq_eq_false_iff_ne, decide_eq_false_iff_not]
  omega

/-- the `default:` branch of the loop when no `m` is pending -/
theorem step_plain {c : Char} (hc : Plain c) (f : Fields) (ds : List Char) {v : Nat}
    (hv : topValue (stOf f ds false) = some v) :
    step (stOf f ds false) c = .ok (stOf f (if isSpace c then ds else ds ++ [c]) false) := by
  obtain ⟨h1, h2, h3, h4⟩ := hc
  simp only [step, hv]
  cases isSpace c <;> simp [stOf, h1, h2, h3, h4]

theorem run_spaces (sp : List Char) (f : Fields) (h : sp.all isSpace = true) :
    run (clean f) sp = .ok (clean f) := by
  induction sp with
  | nil => rfl
  | cons c cs ih =>
    rw [List.all_cons, Bool.and_eq_true] at h
    rw [run, clean, step_plain (plain_of_space h.1) f [] rfl, if_pos h.1]
    exact ih h.2

theorem atoi_digits (ds : List Char) (hne : ds ≠ []) (hall : ds.all isDigit = true)
    (hb : digitsVal ds ≤ two63 - 1) : atoi ds = some (digitsVal ds) := by
  simp [atoi, hne, hall, hb]

theorem topValue_digits (f : Fields) (ds : List Char) (m : Bool) (hall : ds.all isDigit = true)
    (hb : digitsVal ds ≤ two63 - 1) : topValue (stOf f ds m) = some (digitsVal ds) := by
  cases ds with
  | nil => rfl
  | cons c cs => exact (if_neg (List.cons_ne_nil c cs)).trans (atoi_digits _ (List.cons_ne_nil c cs) hall hb)

theorem digitsVal_prefix_le (a b : List Char) : digitsVal a ≤ digitsVal (a ++ b) := by
  simp only [digitsVal, List.foldl_append]
  exact foldl_ge b _

theorem run_digits (ds : List Char) : ∀ (pre : List Char) (f : Fields),
    pre.all isDigit = true → ds.all isDigit = true → digitsVal (pre ++ ds) ≤ two63 - 1 →
    run (stOf f pre false) ds = .ok (stOf f (pre ++ ds) false) := by
  induction ds with
  | nil => intro pre f _ _ _; simp [run]
  | cons c cs ih =>
    intro pre f hpre hds hb
    rw [List.all_cons, Bool.and_eq_true] at hds
    have hv := topValue_digits f pre false hpre (Nat.le_trans (digitsVal_prefix_le pre (c :: cs)) hb)
    rw [run, step_plain (plain_of_digit hds.1) f pre hv, digit_not_space hds.1]
    have := ih (pre ++ [c]) f (by simp [List.all_append, hpre, hds.1]) hds.2 (by simpa using hb)
    simpa using this

section unit
variable (f : Fields) (ds : List Char) (v : Nat) (hne : ds ≠ []) (ha : atoi ds = some v)
include hne ha

/-- a pending minute count is flushed by a following plain character or the end of the string -/
theorem runF_pending (cs : List Char) (hcs : Next Plain cs) :
    runF (stOf f ds true) cs = runF (clean (f.set .m v)) cs := by
  rcases hcs with rfl | ⟨c, cs', rfl, h1, h2, h3, h4⟩
  · simp [runF, run, finish, stOf, hne, ha, clean, Fields.set, trimSpace]
  · have hstep : step (stOf f ds true) c = step (clean (f.set .m v)) c := by
      simp [step, topValue, stOf, hne, ha, clean, Fields.set, h1, h2, h3, h4]
    simp [runF, run, hstep]

/-- a count followed by any unit but `m` is recorded at once (`ms`: the `m` waits, the `s` records) -/
theorem run_unit (u : U) (hu : u ≠ .m) : run (stOf f ds false) u.chars = .ok (clean (f.set u v)) := by
  cases u <;> simp [run, step, topValue, stOf, hne, ha, clean, Fields.set, U.chars] at hu ⊢

theorem runF_unit (u : U) (cs : List Char) (hcs : Next Plain cs) :
    runF (stOf f ds false) (u.chars ++ cs) = runF (clean (f.set u v)) cs := by
  by_cases hu : u = .m
  · subst hu
    have : run (stOf f ds false) U.m.chars = .ok (stOf f ds true) := by
      simp [run, step, topValue, stOf, hne, ha, U.chars]
    rw [runF_append_ok this]
    exact runF_pending f ds v hne ha cs hcs
  · exact runF_append_ok (run_unit f ds v hne ha u hu) cs

end unit

def ItemOk (it : List Char × Term) : Prop :=
  it.1.all isSpace = true ∧ it.2.ok ∧ it.2.val ≤ two63 - 1

theorem runF_items : ∀ (items : List (List Char × Term)) (f : Fields), (∀ it ∈ items, ItemOk it) →
    runF (clean f) (renderItems items) = .ok (applyTerms f (items.map (·.2))) := by
  intro items
  induction items with
  | nil =>
    intro f _
    simp [renderItems, runF, run, finish, clean, stOf, trimSpace, applyTerms]
  | cons it r ih =>
    intro f h
    obtain ⟨sep, t⟩ := it
    obtain ⟨⟨hsp, ⟨hne, hall⟩, hv⟩, hr⟩ := List.forall_mem_cons.1 h
    have ha : atoi t.digits = some t.val := atoi_digits t.digits hne hall hv
    have hnext : Next Plain (renderItems r) := renderItems_next r fun it hi =>
      ⟨fun c hc => plain_of_space (List.all_eq_true.1 (hr it hi).1 c hc),
        (hr it hi).2.1.head.mono fun _ => plain_of_digit⟩
    have hshape : renderItems ((sep, t) :: r) = sep ++ (t.digits ++ (t.unit.chars ++ renderItems r)) := by
      simp [renderItems, Term.chars]
    have hds : run (clean f) t.digits = .ok (stOf f t.digits false) := run_digits t.digits [] f rfl hall hv
    rw [hshape, runF_append_ok (run_spaces sep f hsp), runF_append_ok hds,
      runF_unit f t.digits t.val hne ha t.unit _ hnext]
    exact ih _ hr

def Fields.total (f : Fields) : Nat :=
  86400000000000 * f.days + 3600000000000 * f.hours + 60000000000 * f.mins + 1000000000 * f.secs + 1000000 * f.ms

theorem get_set_ne (f : Fields) (u u' : U) (v : Nat) (h : u' ≠ u) : (f.set u v).get u' = f.get u' := by
  cases u <;> cases u' <;> first | contradiction | rfl

theorem total_set (f : Fields) (u : U) (v : Nat) (h : f.get u = 0) : (f.set u v).total = f.total + u.ns * v := by
  cases u <;> simp only [Fields.get] at h <;>
    simp only [Fields.set, Fields.total, U.ns, h, Nat.mul_zero, Nat.zero_add] <;> ac_rfl

theorem total_applyTerms : ∀ (ts : List Term) (f : Fields), (ts.map (·.unit)).Nodup →
    (∀ t ∈ ts, f.get t.unit = 0) → (applyTerms f ts).total = f.total + sumNs ts := by
  intro ts
  induction ts with
  | nil => intro f _ _; exact (Nat.add_zero _).symm
  | cons t ts ih =>
    intro f hnd hz
    obtain ⟨hzt, hzr⟩ := List.forall_mem_cons.1 hz
    rw [List.map_cons, List.nodup_cons] at hnd
    rw [applyTerms, sumNs, ih _ hnd.2, total_set f t.unit t.val hzt, Term.ns, Nat.add_assoc]
    intro t' ht'
    rw [get_set_ne f t.unit t'.unit t.val fun e => hnd.1 (e ▸ List.mem_map_of_mem ht')]
    exact hzr t' ht'

theorem val_le_sumNs {ts : List Term} {t : Term} (h : t ∈ ts) : t.val ≤ sumNs ts := by
  induction ts with
  | nil => cases h
  | cons a ts ih =>
    rcases List.mem_cons.1 h with rfl | h
    · exact Nat.le_trans (Nat.le_mul_of_pos_left _ t.unit.ns_pos) (Nat.le_add_right _ _)
    · exact Nat.le_trans (ih h) (Nat.le_add_left _ _)

theorem renderItems_last (items : List (List Char × Term)) (hne : items ≠ []) :
    Starts (isSpace · = false) (renderItems items).reverse := by
  induction items with
  | nil => exact absurd rfl hne
  | cons it r ih =>
    obtain ⟨sep, t⟩ := it
    rw [renderItems, List.reverse_append]
    cases r with
    | nil =>
      have hu : Starts (isSpace · = false) t.unit.chars.reverse := by
        cases t.unit <;> exact ⟨_, _, rfl, by decide⟩
      show Starts _ (sep ++ (t.digits ++ t.unit.chars)).reverse
      rw [List.reverse_append, List.reverse_append]
      exact (hu.append _).append _
    | cons it' r' => exact (ih (List.cons_ne_nil _ _)).append _

/-- a well-formed spelling begins with its sign or a digit and ends with a unit letter -/
theorem trimSpace_spelling (p : Spelling) (hwf : p.wf) : trimSpace p.chars = p.chars := by
  have h1 : Starts (isSpace · = false) p.chars := by
    have := (spelling_head p (hwf.1 _ (List.mem_cons_self ..)).2).mono fun _ => digit_not_space
    unfold Spelling.chars
    cases p.sign
    · exact this
    · exact ⟨'+', _, rfl, by decide⟩
    · exact ⟨'-', _, rfl, by decide⟩
  have h2 : Starts (isSpace · = false) p.chars.reverse := by
    rw [Spelling.chars, List.reverse_append]
    exact (renderItems_last _ (List.cons_ne_nil _ _)).append _
  rw [trimSpace, dropWhile_starts h1, dropWhile_starts h2, List.reverse_reverse]

end EgoVerif.C37
