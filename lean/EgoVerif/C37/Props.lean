import EgoVerif.C37.Lemmas
/-
C37 — ParseDuration reads every spelling of the documented form exactly; FormatDuration writes such a
spelling (`format_spelling`); the round trip is their composition.
-/
namespace EgoVerif.C37

/-- what `fmt.Sprintf("%dh%dm%ds%dms", …)` writes, as a spelling -/
def hmsSpelling (H mins secs ms : Nat) : Spelling :=
  ⟨.none, Term.of H .h, [([], Term.of mins .m), ([], Term.of secs .s), ([], Term.of ms .ms)]⟩

theorem rebuild_spelling (H mins secs ms : Nat) : rebuild (H : Int) mins secs ms = (hmsSpelling H mins secs ms).chars := by
  simp only [rebuild, showInt_natCast, hmsSpelling, Spelling.chars, Spelling.items, renderItems, Term.chars, Term.of,
    U.chars, Sign.chars, List.append_assoc, List.nil_append, List.append_nil, List.cons_append]

theorem dayResult_ok (F : Fields) (hb : F.total ≤ two63 - 1) (neg : Bool) :
    dayResult neg F = .ok (if neg then -(F.total : Int) else (F.total : Int)) := by
  have htot : F.total = 3600000000000 * (F.hours + F.days * 24) + (60000000000 * F.mins +
      (1000000000 * F.secs + (1000000 * F.ms + 0))) := by
    unfold Fields.total; omega
  generalize F.total = n at htot hb ⊢
  have hH : (F.hours : Int) + (F.days : Int) * 24 = ((F.hours + F.days * 24 : Nat) : Int) := by
    rw [Int.natCast_add, Int.natCast_mul]; rfl
  generalize F.hours + F.days * 24 = H at htot hH
  have hsum : (hmsSpelling H F.mins F.secs F.ms).ns = n := by
    simp only [hmsSpelling, Spelling.ns, Spelling.terms, List.map, sumNs, Term.of_ns, U.ns]
    exact htot.symm
  have hHn : H ≤ n := Nat.le_trans (Nat.le_mul_of_pos_left H (by decide)) (htot ▸ Nat.le_add_right _ _)
  -- the `omega` calls below need no more of `htot` than `hHn`
  clear htot
  have hgo := goParse_tight (hmsSpelling H F.mins F.secs F.ms)
    (by
      intro it hit
      simp only [hmsSpelling, Spelling.items, List.mem_cons, List.mem_nil_iff, or_false] at hit
      rcases hit with rfl | rfl | rfl | rfl <;> exact ⟨rfl, Term.of_ok _ _, by intro h; cases h⟩)
    (hsum.symm ▸ hb)
  unfold two63 at hb
  rw [dayResult, hH, wrap64_small _ (by omega) (by omega), rebuild_spelling, hgo, hsum]
  cases neg
  · rfl
  · exact congrArg Except.ok (wrap64_small (-(n : Int)) (by omega) (by omega))

theorem parseDayPath_spelling (p : Spelling) (hwf : p.wf) (hb : p.ns ≤ two63 - 1) :
    parseDayPath p.chars = .ok (p.sign.apply p.ns) := by
  have hhead := spelling_head p (hwf.1 _ (List.mem_cons_self ..)).2
  have hitems : ∀ it ∈ p.items, ItemOk it := fun it hit =>
    ⟨(hwf.1 it hit).1, (hwf.1 it hit).2, Nat.le_trans (val_le_sumNs (List.mem_map_of_mem (f := (·.2)) hit)) hb⟩
  have hpwd : parseDurationWithDays (renderItems p.items) = .ok (applyTerms Fields.zero p.terms) :=
    runF_items p.items Fields.zero hitems
  have htot : (applyTerms Fields.zero p.terms).total = p.ns := by
    rw [total_applyTerms p.terms Fields.zero hwf.2 (by intro t _; cases t.unit <;> rfl)]
    simp [Fields.total, Fields.zero, Spelling.ns]
  generalize applyTerms Fields.zero p.terms = F at hpwd htot
  rw [parseDayPath, trimSpace_spelling p hwf, Spelling.chars, splitSign_sign p.sign _ hhead, hpwd]
  simp only [hhead.ne_nil, if_false, thenDayResult]
  rw [dayResult_ok F (htot ▸ hb), htot]
  cases p.sign <;> simp [Sign.apply]

theorem mem_renderItems {items : List (List Char × Term)} {it : List Char × Term} (hit : it ∈ items)
    {c : Char} (hc : c ∈ it.1 ++ it.2.chars) : c ∈ renderItems items := by
  induction items with
  | nil => cases hit
  | cons x r ih =>
    show c ∈ x.1 ++ x.2.chars ++ renderItems r
    rcases List.mem_cons.1 hit with rfl | hit
    · exact List.mem_append_left _ hc
    · exact List.mem_append_right _ (ih hit)

theorem mem_chars (p : Spelling) {it : List Char × Term} (hit : it ∈ p.items) {c : Char}
    (hc : c ∈ it.1 ++ it.2.chars) : c ∈ p.chars :=
  List.mem_append_right _ (mem_renderItems hit hc)

theorem goParse_spelling (p : Spelling) (hwf : p.wf) (hb : p.ns ≤ two63 - 1) (hnd : 'd' ∉ p.chars)
    (hcs : ∀ c ∈ p.chars, ¬ isSpace c = true) : goParseDuration p.chars = .ok (p.sign.apply p.ns) := by
  refine goParse_tight p (fun it hit => ⟨?_, (hwf.1 it hit).2, fun hu => ?_⟩) hb
  · -- a separator consists of white space, and the text has none
    exact List.eq_nil_iff_forall_not_mem.2 fun c hc =>
      hcs c (mem_chars p hit (List.mem_append_left _ hc)) (List.all_eq_true.1 (hwf.1 it hit).1 c hc)
  · exact hnd (mem_chars p hit (by simp [Term.chars, hu, U.chars]))

/-- **Documented forms.**  Every spelling `[sign] term (space* term)*` whose terms are non-empty
digit strings followed by one of the units d h m s ms (no unit twice, any order, any white
space between terms, leading zeros allowed) and whose total fits in int64 is accepted by
ParseDuration with exactly that total. -/
theorem C37_documented_forms (p : Spelling) (hwf : p.wf) (hb : p.ns ≤ two63 - 1) :
    parseDuration p.chars = .ok (p.sign.apply p.ns) := by
  unfold parseDuration
  split
  next hc =>
    simp only [Bool.and_eq_true, Bool.not_eq_true', List.any_eq_false] at hc
    exact goParse_spelling p hwf hb
      (fun hm => Bool.false_ne_true (hc.1 ▸ List.contains_iff_mem.mpr hm)) hc.2
  · exact parseDayPath_spelling p hwf hb

/-- `if result.Len() > 1 { ' ' }` then the term -/
def addTerm (r : List Char) (t : Term) : List Char := sp r ++ t.chars

/-- the term for a count `v` of unit `u`, which FormatDuration writes only when `v` is positive -/
def optTerm (v : Nat) (u : U) : List Term := if 0 < v then [Term.of v u] else []

/-- the terms FormatDuration writes for a magnitude of `a` nanoseconds -/
def fmtTerms (a : Nat) : List Term :=
  optTerm (a / 3600000000000 / 24) .d ++ (optTerm (a / 3600000000000 % 24) .h ++
    (optTerm (a / 60000000000 % 60) .m ++ optTerm (a / 1000000000 % 60) .s))

/-- one `if count > 0 { … }` block of FormatDuration, whichever way the test is written -/
theorem foldl_optTerm (r : List Char) (v : Nat) (u : U) {c : Prop} [Decidable c] {x : Int}
    (hc : c ↔ 0 < x) (hx : x = v) :
    (if c then sp r ++ showInt x ++ u.chars else r) = (optTerm v u).foldl addTerm r := by
  subst hx
  unfold optTerm
  by_cases hv : 0 < v
  · rw [if_pos hv, if_pos (hc.2 (Int.natCast_pos.2 hv)), showInt_natCast, List.append_assoc]; rfl
  · rw [if_neg hv, if_neg (fun h => hv (Int.natCast_pos.1 (hc.1 h)))]; rfl

theorem sumNs_append (xs ys : List Term) : sumNs (xs ++ ys) = sumNs xs + sumNs ys := by
  induction xs with
  | nil => simp only [List.nil_append, sumNs, Nat.zero_add]
  | cons t ts ih => simp only [List.cons_append, sumNs, ih, Nat.add_assoc]

theorem sumNs_optTerm (v : Nat) (u : U) : sumNs (optTerm v u) = u.ns * v := by
  unfold optTerm
  split
  · simp only [sumNs, Term.of_ns, Nat.add_zero]
  next h => rw [Nat.eq_zero_of_not_pos h]; rfl

theorem optTerm_ok (v : Nat) (u : U) : ∀ t ∈ optTerm v u, t.ok := by
  intro t ht
  unfold optTerm at ht
  split at ht
  · rw [List.mem_singleton.1 ht]; exact Term.of_ok v u
  · cases ht

theorem optTerm_units (v : Nat) (u : U) : ((optTerm v u).map (·.unit)).Sublist [u] := by
  unfold optTerm
  split
  · exact List.Sublist.refl _
  · exact List.nil_sublist _

theorem fmtTerms_ok (a : Nat) : ∀ t ∈ fmtTerms a, t.ok := by
  intro t ht
  simp only [fmtTerms, List.mem_append] at ht
  rcases ht with ht | ht | ht | ht <;> exact optTerm_ok _ _ t ht

theorem fmtTerms_sum (a : Nat) : sumNs (fmtTerms a) = a / 1000000000 * 1000000000 := by
  simp only [fmtTerms, sumNs_append, sumNs_optTerm, U.ns]
  omega

theorem fmtTerms_nodup (a : Nat) : ((fmtTerms a).map (·.unit)).Nodup := by
  have : ((fmtTerms a).map (·.unit)).Sublist [.d, .h, .m, .s] := by
    simp only [fmtTerms, List.map_append]
    exact (optTerm_units _ _).append
      ((optTerm_units _ _).append ((optTerm_units _ _).append (optTerm_units _ _)))
  exact this.nodup (by decide)

theorem fmtTerms_ne_nil (a : Nat) (h : 1000000000 ≤ a) : fmtTerms a ≠ [] := by
  intro e
  have hs := fmtTerms_sum a
  rw [e] at hs
  simp only [sumNs] at hs
  omega

theorem sign_len (sg : Sign) : sg.chars.length ≤ 1 := by cases sg <;> simp [Sign.chars]

theorem sp_short (r : List Char) (h : r.length ≤ 1) : sp r = r := if_neg (by omega)

def signOf (d : Int) : Sign := if d < 0 then .minus else .none

theorem tdiv_tmod_natCast (n k m : Nat) : ((n : Int).tdiv k).tmod m = ((n / k % m : Nat) : Int) := by
  rw [← Int.ofNat_tdiv, ← Int.ofNat_tmod]

/-- the days-and-hours block of FormatDuration, `hours` being the whole hours of the magnitude -/
theorem hours_block (r0 : List Char) (hr0 : r0.length ≤ 1) (H : Nat) (hours : Int) (hH : hours = H) :
    (let r := if hours > 23 then r0 ++ showInt (hours.tdiv 24) ++ ['d'] else r0
     let h := if hours > 23 then hours.tmod 24 else hours
     if hours > 0 then (if h > 0 then sp r ++ showInt h ++ ['h'] else r) else r0) =
      (optTerm (H % 24) .h).foldl addTerm ((optTerm (H / 24) .d).foldl addTerm r0) := by
  extract_lets r h
  have hD : hours.tdiv 24 = ((H / 24 : Nat) : Int) := hH ▸ (Int.ofNat_tdiv H 24).symm
  have hr : r = (optTerm (H / 24) .d).foldl addTerm r0 := by
    have := foldl_optTerm r0 (H / 24) .d (c := hours > 23) (by rw [hD, hH]; omega) hD
    rwa [sp_short r0 hr0] at this
  have hh : h = ((H % 24 : Nat) : Int) := by
    unfold h; rw [hH]; split
    · exact (Int.ofNat_tmod H 24).symm
    · rw [Nat.mod_eq_of_lt (by omega)]
  rw [← hr]
  refine Eq.trans ?_ (foldl_optTerm r (H % 24) .h (c := h > 0) Iff.rfl hh)
  split
  · rfl
  · -- no hours at all: neither the day nor the hour term is written
    rw [if_neg (by omega)]; unfold r; rw [if_neg (by omega)]

theorem formatDuration_eq (std : List Char) (d : Int) (h1 : 1000000000 ≤ d.natAbs) (h2 : d.natAbs ≤ two63 - 1) :
    formatDuration std d = (fmtTerms d.natAbs).foldl addTerm (signOf d).chars := by
  have hmag : (if d < 0 then wrap64 (-d) else d) = (d.natAbs : Int) := by
    split
    · rw [wrap64_small _ (by omega) (by unfold two63 at h2; omega)]; omega
    · omega
  unfold formatDuration
  rw [if_neg (by omega), if_neg (by omega)]
  clear h1 h2
  extract_lets r0 a hours rd h r1 minutes r2 seconds
  have hr0 : r0 = (signOf d).chars := by unfold r0 signOf; split <;> rfl
  generalize d.natAbs = n at hmag ⊢
  have hH : hours = ((n / 3600000000000 : Nat) : Int) :=
    (congrArg (Int.tdiv · 3600000000000) hmag).trans (Int.ofNat_tdiv n 3600000000000).symm
  have hM : minutes = ((n / 60000000000 % 60 : Nat) : Int) :=
    (congrArg (fun a => (Int.tdiv a 60000000000).tmod 60) hmag).trans (tdiv_tmod_natCast n 60000000000 60)
  have hS : seconds = ((n / 1000000000 % 60 : Nat) : Int) :=
    (congrArg (fun a => (Int.tdiv a 1000000000).tmod 60) hmag).trans (tdiv_tmod_natCast n 1000000000 60)
  have hr1 : r1 = _ := hours_block r0 (hr0 ▸ sign_len _) _ hours hH
  have hr2 : r2 = _ := foldl_optTerm r1 _ .m Iff.rfl hM
  refine (foldl_optTerm r2 _ .s Iff.rfl hS).trans ?_
  rw [hr2, hr1, hr0]
  simp only [fmtTerms, List.foldl_append]

def spaced (ts : List Term) : List (List Char × Term) := ts.map (fun t => ([' '], t))

/-- once more than the sign stands in the buffer every further term is preceded by one blank -/
theorem foldl_addTerm (ts : List Term) (s : List Char) (hs : 1 < s.length) :
    ts.foldl addTerm s = s ++ renderItems (spaced ts) := by
  induction ts generalizing s with
  | nil => exact (List.append_nil s).symm
  | cons t ts ih =>
    have ht : addTerm s t = s ++ ([' '] ++ t.chars) := by
      unfold addTerm sp; rw [if_pos hs, List.append_assoc]
    rw [List.foldl_cons, ht, ih _ (by rw [List.length_append]; omega), List.append_assoc, List.append_assoc]
    rfl

/-- what FormatDuration prints for `d` is a well-formed spelling of `d` truncated to the second -/
theorem format_spelling (std : List Char) (d : Int) (h1 : 1000000000 ≤ d.natAbs) (h2 : d.natAbs ≤ two63 - 1) :
    ∃ p : Spelling, p.wf ∧ p.chars = formatDuration std d ∧ p.sign = signOf d ∧
      p.ns = d.natAbs / 1000000000 * 1000000000 := by
  rw [formatDuration_eq std d h1 h2]
  have hok := fmtTerms_ok d.natAbs
  have hnd := fmtTerms_nodup d.natAbs
  have hsum := fmtTerms_sum d.natAbs
  cases hts : fmtTerms d.natAbs with
  | nil => exact absurd hts (fmtTerms_ne_nil _ h1)
  | cons t r =>
    rw [hts] at hok hnd hsum
    obtain ⟨hokt, hokr⟩ := List.forall_mem_cons.1 hok
    have hterms : (Spelling.mk (signOf d) t (spaced r)).terms = t :: r := by
      simp [Spelling.terms, spaced, Function.comp_def]
    refine ⟨⟨signOf d, t, spaced r⟩, ⟨?_, hterms ▸ hnd⟩, ?_, rfl, (congrArg sumNs hterms).trans hsum⟩
    · refine List.forall_mem_cons.2 ⟨⟨rfl, hokt⟩, fun it hit => ?_⟩
      obtain ⟨x, hx, rfl⟩ := List.mem_map.1 hit
      exact ⟨(by decide : [' '].all isSpace = true), hokr x hx⟩
    · have hlen := term_chars_length t hokt
      rw [List.foldl_cons, addTerm, sp_short _ (sign_len _),
        foldl_addTerm r _ (by rw [List.length_append]; omega), List.append_assoc]
      simp only [Spelling.chars, Spelling.items, renderItems, List.nil_append]

/-- what FormatDuration prints for the magnitude `a` under the sign `neg` is a well-formed spelling of `a`
truncated to the second: `format_spelling` at `±a` -/
theorem C37_format_is_spelling (std : List Char) (a : Nat) (neg : Bool) (h1 : 1000000000 ≤ a)
    (h2 : a ≤ two63 - 1) :
    ∃ p : Spelling, p.wf ∧ p.chars = formatDuration std (if neg then -(a : Int) else (a : Int)) ∧
      p.sign = (if neg then .minus else .none) ∧ p.ns = a / 1000000000 * 1000000000 := by
  have ha : (if neg then -(a : Int) else (a : Int)).natAbs = a := by split <;> omega
  have hs : signOf (if neg then -(a : Int) else (a : Int)) = if neg then .minus else .none := by
    unfold signOf
    cases neg
    · exact if_neg (by simp only [Bool.false_eq_true, if_false]; omega)
    · exact if_pos (by simp only [if_true]; omega)
  have := format_spelling std _ (ha.symm ▸ h1) (ha.symm ▸ h2)
  rwa [hs, ha] at this

theorem signOf_apply_trunc (d : Int) (k : Nat) :
    (signOf d).apply (d.natAbs / k * k) = Int.tdiv d k * k := by
  unfold signOf
  split
  next hd =>
    have : d = -(d.natAbs : Int) := by omega
    rw [this, Int.neg_tdiv, ← Int.ofNat_tdiv, Int.natAbs_neg, Int.natAbs_natCast, Int.neg_mul]
    exact congrArg Neg.neg (Int.natCast_mul _ _)
  next hd =>
    have : d = (d.natAbs : Int) := by omega
    rw [this, ← Int.ofNat_tdiv, Int.natAbs_natCast]
    exact Int.natCast_mul _ _

/-- **Round trip.**  For every int64 duration `d` (nanoseconds) of at least one second in
magnitude (`d ≠ MinInt64`), and whatever Go's `d.String()` is, ParseDuration accepts what
FormatDuration(d, true) prints and returns `d` truncated (toward zero) to the second. -/
theorem C37_roundtrip (std : List Char) (d : Int) (h1 : 1000000000 ≤ d.natAbs)
    (h2 : d.natAbs ≤ two63 - 1) :
    parseDuration (formatDuration std d) = .ok (Int.tdiv d 1000000000 * 1000000000) := by
  obtain ⟨p, hwf, hch, hsg, hns⟩ := format_spelling std d h1 h2
  rw [← hch, C37_documented_forms p hwf (by rw [hns]; omega), hsg, hns]
  exact congrArg Except.ok (signOf_apply_trunc d 1000000000)

/-! ## non-vacuity, and what is NOT true -/

instance instDecEqRes : DecidableEq (Except Err Int)
  | .ok a, .ok b => if h : a = b then isTrue (by rw [h]) else isFalse (by intro e; cases e; exact h rfl)
  | .error a, .error b => if h : a = b then isTrue (by rw [h]) else isFalse (by intro e; cases e; exact h rfl)
  | .ok _, .error _ => isFalse (by intro e; cases e)
  | .error _, .ok _ => isFalse (by intro e; cases e)

/-- the printed form of −(2 d 3 h) is the spelling `-2d 3h`: hypotheses of `C37_roundtrip` and of
`C37_documented_forms` are met by non-trivial instances -/
example : formatDuration [] (-183600000000000) = "-2d 3h".toList := by decide

example : (1000000000 : Nat) ≤ (-183600000000000 : Int).natAbs ∧ (-183600000000000 : Int).natAbs ≤ two63 - 1 := by
  decide

def exSpelling : Spelling :=
  ⟨.minus, ⟨"2".toList, .d⟩, [(" ".toList, ⟨"3".toList, .h⟩), ("\t ".toList, ⟨"07".toList, .ms⟩)]⟩

example : exSpelling.chars = "-2d 3h\t 07ms".toList := by decide +kernel
example : exSpelling.wf := by
  refine ⟨?_, by decide⟩
  intro it hit
  simp only [Spelling.items, exSpelling, List.mem_cons, List.mem_nil_iff, or_false] at hit
  rcases hit with rfl | rfl | rfl <;> exact ⟨by decide, by decide, by decide⟩
example : exSpelling.ns = 183600007000000 := by decide

/-- Known finding (not repaired): a Go term with a fraction or a `us` unit is rejected as soon as the
string also contains a day term or white space — `1d1.5h` is an "invalid integer" although the
documentation promises Go's syntax plus the `d` suffix. -/
theorem C37_fraction_with_days_counterexample :
    parseDuration "1d1.5h".toList = .error .int ∧ parseDuration "1.5h 30m".toList = .error .int ∧
    parseDuration "1d 500us".toList = .error .int := by decide +kernel

/-- `ParseDuration` as it was BEFORE fixes/C37.patch: only a 'd' selects the day-aware parser,
and no sign is stripped. -/
def parseDurationUnfixed (s : List Char) : Except Err Int :=
  if !(s.contains 'd') then goParseDuration s
  else thenDayResult false (parseDurationWithDays s)

/-- the defects the patch repairs: FormatDuration's own output `1h 5m` (65 min) and `-2d 3h`
(−51 h) were rejected by the unpatched parser -/
theorem C37_unfixed_counterexample :
    parseDurationUnfixed (formatDuration [] 3900000000000) = .error .go ∧
    parseDurationUnfixed (formatDuration [] (-183600000000000)) = .error .int := by decide

end EgoVerif.C37
