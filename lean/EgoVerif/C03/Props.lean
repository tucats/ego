import EgoVerif.C03.Model
/-
C03 — the modelled arithmetic instructions compute exactly what the language reference's
"Type Conversions" tables prescribe (`docRule`).  All theorems are parameterised by the dispatch
sets `D` (which kinds have a `case` in each type switch of math.go); the hypothesis
`D.complete = true` is discharged, for the sets EXTRACTED FROM THE CURRENT SOURCE, by `decide`
in a file generated on every run.
-/
namespace EgoVerif.C03

/-! ## The documented rule, written from docs/LANGUAGE.md#typeConversion -/

/-- can the constant be represented exactly in kind `k`? (Go's rule for untyped constants) -/
def representable (k : Kind) : Operand → Bool
  | .var _ n => inRange k n
  | .const _ n => inRange k n
  | .constFlt w fr => !fr && inRange k w

/-- integer value of an operand after (possibly lossy) conversion to kind `k`:
    truncate the fraction, then wrap -/
def convertTo (k : Kind) : Operand → Int
  | .var _ n => wrap k n
  | .const _ n => wrap k n
  | .constFlt w _ => wrap k w

def Operand.intKind? : Operand → Option Kind
  | .var k _ => some k
  | .const k _ => some k
  | .constFlt .. => none

def compute (op : Op) (k : Kind) (x y : Int) : Res :=
  match op with
  | .add => .ok k (wrap k (x + y))
  | .sub => .ok k (wrap k (x - y))
  | .mul => .ok k (wrap k (x * y))
  | .div => if y = 0 then .err .divideByZero else .ok k (wrap k (x.tdiv y))
  | .mod => if y = 0 then .err .divideByZero else .ok k (wrap k (x.tmod y))

def wider (k1 k2 : Kind) : Kind := if k1.ord < k2.ord then k2 else k1

/-- "Combining values in an expression" (docs): same type → no conversion; one constant → it
adapts to the other operand's type (strict: only losslessly); two non-constants of different
types → promoted to the type that loses least (dynamic/relaxed) or rejected (strict); two
constants → promoted. -/
def docRule (strict : Bool) (op : Op) (a b : Operand) : Res :=
  match a.intKind?, b.intKind? with
  | none, none => floatRes op                                  -- float64 arithmetic (Go has no float %)
  | none, some kb =>
    if b.isConst then floatRes op                              -- two constants: promoted to float64
    else if strict && !representable kb a then .err .lossOfPrecision
    else compute op kb (convertTo kb a) (convertTo' b)
  | some ka, none =>
    if a.isConst then floatRes op
    else if strict && !representable ka b then .err .lossOfPrecision
    else compute op ka (convertTo' a) (convertTo ka b)
  | some ka, some kb =>
    if ka = kb then compute op ka (convertTo' a) (convertTo' b)
    else if a.isConst && !b.isConst then
      if strict && !representable kb a then .err .lossOfPrecision
      else compute op kb (convertTo kb a) (convertTo' b)
    else if !a.isConst && b.isConst then
      if strict && !representable ka b then .err .lossOfPrecision
      else compute op ka (convertTo' a) (convertTo ka b)
    else if strict && !a.isConst && !b.isConst then .err .typeMismatch
    else
      let k := wider ka kb
      compute op k (if k = ka then convertTo' a else convertTo k a) (if k = kb then convertTo' b else convertTo k b)
where
  convertTo' : Operand → Int
    | .var _ n => n
    | .const _ n => n
    | .constFlt w _ => w

theorem arith_eq_compute (op : Op) (k : Kind) (x y : Int) : arith op k x y = compute op k x y := by
  cases op <;> simp [arith, compute]

theorem complete_all (D : Dispatch) (h : D.complete = true) (k : Kind) :
    k ∈ D.add ∧ k ∈ D.sub ∧ k ∈ D.mul ∧ k ∈ D.div ∧ k ∈ D.mod ∧ k ∈ D.incr ∧ (k.signed = true → k ∈ D.neg) := by
  have hk : k ∈ Kind.all := by cases k <;> decide
  have h1 := List.all_eq_true.mp h k hk
  simp only [Bool.and_eq_true, Bool.or_eq_true, Bool.not_eq_true', List.contains_eq_mem, decide_eq_true_eq] at h1
  obtain ⟨⟨⟨⟨⟨⟨a1, a2⟩, a3⟩, a4⟩, a5⟩, a6⟩, a7⟩ := h1
  exact ⟨a1, a2, a3, a4, a5, a6, fun hs => a7.resolve_left (by simp [hs])⟩

theorem complete_mem (D : Dispatch) (h : D.complete = true) (op : Op) (k : Kind) : k ∈ D.of op := by
  obtain ⟨a1, a2, a3, a4, a5, -⟩ := complete_all D h k
  cases op <;> assumption

/-- `Kind.ord` is the position in `Kind.all` (after the two non-integer kinds of types.go) -/
theorem ord_all (k : Kind) : Kind.all[k.ord - 2]? = some k := by cases k <;> rfl

theorem ord_inj (k1 k2 : Kind) (h : k1.ord = k2.ord) : k1 = k2 :=
  Option.some.inj (by rw [← ord_all k1, ← ord_all k2, h])

theorem ord_lt_13 (k : Kind) : k.ord ≠ 13 := by cases k <;> decide

theorem wrap_idem (k : Kind) (m : Int) : wrap k (wrap k m) = wrap k m := by
  unfold wrap
  cases k.signed
  · simp
  · simp [Int.bmod_bmod]

theorem arith_ok {op : Op} {k k' : Kind} {x y n : Int} (h : arith op k x y = .ok k' n) :
    k' = k ∧ ∃ z, n = wrap k z := by
  cases op <;> simp only [arith] at h
  case div | mod =>
    split at h
    · cases h
    · cases h; exact ⟨rfl, _, rfl⟩
  all_goals cases h; exact ⟨rfl, _, rfl⟩

theorem binop_ok_inv {D : Dispatch} {strict : Bool} {op : Op} {a b : Operand} {k : Kind} {n : Int}
    (h : binop D strict op a b = .ok k n) :
    ∃ x y, normalize a b strict = .ints k x y ∧ arith op k x y = .ok k n := by
  simp only [binop] at h
  split at h
  · cases h
  · split at h
    · cases h
    · cases op <;> cases h
    · rename_i k' x y hn
      split at h
      · obtain ⟨rfl, -⟩ := arith_ok h
        exact ⟨x, y, hn, h⟩
      · cases h

theorem normalize_var_const (kv kc : Kind) (nv nc : Int) (strict : Bool) :
    normalize (.var kv nv) (.const kc nc) strict =
      if strict && (kc != kv && !inRange kv nc) then .err .lossOfPrecision
      else .ints kv nv (if kc = kv then nc else wrap kv nc) := by
  unfold normalize coerceIntLossless coerceInt inRange
  by_cases hk : kc = kv
  · simp [hk]
  · by_cases hr : wrap kv nc = nc <;> simp [hk, hr]

theorem normalize_const_var (kv kc : Kind) (nv nc : Int) (strict : Bool) :
    normalize (.const kc nc) (.var kv nv) strict =
      if strict && (kc != kv && !inRange kv nc) then .err .lossOfPrecision
      else .ints kv (if kc = kv then nc else wrap kv nc) nv := by
  unfold normalize coerceIntLossless coerceInt inRange
  by_cases hk : kc = kv
  · simp [hk]
  · by_cases hr : wrap kv nc = nc <;> simp [hk, hr]

section
-- the proof below is a case table over the operand forms; every case unfolds the same definitions
attribute [local simp] binop docRule docRule.convertTo' Operand.isConst Operand.intKind? Operand.kindOrd
  arith_eq_compute convertTo coerceInt representable wider

/-- **C03 (value and type).** With complete dispatch sets, every binary arithmetic instruction
yields exactly the value and type the documentation prescribes — for all kinds, all values,
constant or not, every operator, strict or not. -/
theorem C03_binop_doc (D : Dispatch) (hD : D.complete = true) (strict : Bool) (op : Op) (a b : Operand) :
    binop D strict op a b = docRule strict op a b := by
  have hm : ∀ k, k ∈ D.of op := complete_mem D hD op
  cases a with
  | var ka na =>
    cases b with
    | var kb nb =>
      by_cases hk : ka = kb
      · subst hk; simp [normalize, normalize.promote, hm]
      · have hord : ka.ord ≠ kb.ord := fun h => hk (ord_inj _ _ h)
        cases strict
        · by_cases hlt : ka.ord < kb.ord <;> simp [normalize, normalize.promote, hm, hk, hlt, Ne.symm hk]
        · simp [hk, hord]
    | const kb nb =>
      by_cases hk : ka = kb
      · subst hk; simp [normalize, hm]
      · simp [normalize_var_const, hm, hk, Ne.symm hk]
        cases strict <;> cases inRange ka nb <;> rfl
    | constFlt w fr =>
      simp [normalize, hm]
      cases strict <;> cases fr <;> cases inRange ka (w : Int) <;> rfl
  | const ka na =>
    cases b with
    | var kb nb =>
      by_cases hk : ka = kb
      · subst hk; simp [normalize, hm]
      · simp [normalize_const_var, hm, hk]
        cases strict <;> cases inRange kb na <;> rfl
    | const kb nb =>
      by_cases hk : ka = kb
      · subst hk; simp [normalize, normalize.promote, hm]
      · by_cases hlt : ka.ord < kb.ord <;> simp [normalize, normalize.promote, hm, hk, hlt, Ne.symm hk]
    | constFlt w fr => simp [normalize]
  | constFlt w fr =>
    cases b with
    | var kb nb =>
      simp [normalize, hm]
      cases strict <;> cases fr <;> cases inRange kb (w : Int) <;> rfl
    | const kb nb => simp [normalize]
    | constFlt w2 fr2 => simp [normalize]

end

/-- **C03 (fixed-width results wrap like Go).** `wrap` is two's-complement truncation: it is the
integer denoted by the `bits`-wide bit vector of the exact result. -/
theorem C03_wrap_bitvec (k : Kind) (n : Int) :
    wrap k n = if k.signed then (BitVec.ofInt k.bits n).toInt else ((BitVec.ofInt k.bits n).toNat : Int) := by
  unfold wrap
  cases k.signed
  · have h2 : (2 : Int) ^ k.bits ≠ 0 := Int.pow_ne_zero (by decide)
    simp only [Bool.false_eq_true, if_false, BitVec.toNat_ofInt]
    rw [Int.toNat_of_nonneg (Int.emod_nonneg _ (by simpa using h2))]
    simp
  · simp only [if_true, BitVec.toInt_ofInt]

/-- the result of an arithmetic instruction always lies in the range of its kind -/
theorem C03_result_in_range (D : Dispatch) (strict : Bool) (op : Op) (a b : Operand) (k : Kind) (n : Int)
    (h : binop D strict op a b = .ok k n) : inRange k n = true := by
  obtain ⟨x, y, -, ha⟩ := binop_ok_inv h
  obtain ⟨-, z, rfl⟩ := arith_ok ha
  simp [inRange, wrap_idem]

/-- **C03 (unary minus works on every signed type)** and yields −x wrapped, of the same type. -/
theorem C03_neg_total (D : Dispatch) (hD : D.complete = true) (k : Kind) (hs : k.signed = true) (n : Int) :
    negate D (.var k n) = .ok k (wrap k (-n)) ∧ negate D (.const k n) = .ok k (wrap k (-n)) := by
  simp [negate, (complete_all D hD k).2.2.2.2.2.2 hs]

/-- **C03 (a constant adapts to the other operand's type).** Stated for a variable on the left and an integer
constant on the right: a successful result has the variable's kind. -/
theorem C03_const_adapts (D : Dispatch) (strict : Bool) (op : Op) (kv kc : Kind) (nv nc : Int) (k : Kind) (n : Int)
    (h : binop D strict op (.var kv nv) (.const kc nc) = .ok k n) : k = kv := by
  obtain ⟨x, y, hn, -⟩ := binop_ok_inv h
  rw [normalize_var_const] at hn
  split at hn
  · cases hn
  · cases hn; rfl

theorem binop_var_const_fits (D : Dispatch) (hD : D.complete = true) (strict : Bool) (op : Op) (kv kc : Kind)
    (nv nc : Int) (hfit : wrap kv nc = nc) :
    binop D strict op (.var kv nv) (.const kc nc) = compute op kv nv nc := by
  simp [binop, Operand.isConst, normalize_var_const, inRange, hfit, complete_mem D hD op kv, arith_eq_compute]

/-- **C03 (strict: constants adapt only losslessly).** In strict mode, adding to a variable an integer
constant of another kind fails with a loss-of-precision error iff the constant is not representable in the
variable's kind. -/
theorem C03_strict_lossless (D : Dispatch) (hD : D.complete = true) (kv kc : Kind) (hk : kc ≠ kv) (nv nc : Int) :
    (binop D true .add (.var kv nv) (.const kc nc) = .err .lossOfPrecision ↔ inRange kv nc = false) := by
  cases hr : inRange kv nc <;>
    simp [binop, Operand.isConst, normalize_var_const, hk, hr, complete_mem D hD .add kv, arith]

/-- **C03 (strict rejects mixed typed operands; dynamic/relaxed promote).** -/
theorem C03_strict_rejects_mixed (D : Dispatch) (op : Op) (k1 k2 : Kind) (hk : k1 ≠ k2) (n1 n2 : Int) :
    binop D true op (.var k1 n1) (.var k2 n2) = .err .typeMismatch := by
  have : k1.ord ≠ k2.ord := fun h => hk (ord_inj _ _ h)
  simp [binop, Operand.isConst, Operand.kindOrd, this]

theorem C03_relaxed_promotes (D : Dispatch) (hD : D.complete = true) (k1 k2 : Kind) (n1 n2 : Int) :
    ∃ n, binop D false .add (.var k1 n1) (.var k2 n2) = .ok (wider k1 k2) n := by
  rw [C03_binop_doc D hD]
  by_cases hk : k1 = k2
  · subst hk; simp [docRule, Operand.intKind?, compute, wider]
  · simp [docRule, Operand.intKind?, Operand.isConst, hk, compute]

/-- The fused Increment is `Load x; Push c; Add; Store x` run over the kinds of its own type switch: it stores its
result through the same type boundary as Store, for ANY step operand and any dispatch sets. -/
theorem increment_eq_stmtUnfused {D D' : Dispatch} (h : ∀ k, D.incr.contains k = (D'.of .add).contains k) (m : Mode)
    (kx : Kind) (nx : Int) (c : Operand) : increment D m kx nx c = stmtUnfused D' m .add kx nx c := by
  -- both sides test the same strict-mode guard, then run data.Normalize on the same operands …
  have hg : (!((Operand.var kx nx).isConst || c.isConst) && m.isStrict && (Operand.var kx nx).kindOrd != c.kindOrd) =
      (m.isStrict && !c.isConst && (Operand.var kx nx).kindOrd != c.kindOrd) := by
    cases m.isStrict <;> cases c.isConst <;> rfl
  simp only [increment, stmtUnfused, binop, hg]
  split
  · rfl
  · -- … and Store passes an error or a float result on unchanged
    cases normalize (.var kx nx) c m.isStrict with
    | err e => rfl
    | floats => cases m <;> rfl
    | ints k x y =>
      simp only [h, arith]
      cases (D'.of .add).contains k <;> rfl

/-- **C03 (statement forms and optimizer levels agree), every step.** With complete dispatch sets the fused
Increment equals Load/Push/Add/Store for ANY step operand — constant or not, same kind or not. -/
theorem C03_fused_eq_unfused_any (D : Dispatch) (hD : D.complete = true) (m : Mode) (kx : Kind) (nx : Int)
    (c : Operand) : increment D m kx nx c = stmtUnfused D m .add kx nx c :=
  increment_eq_stmtUnfused (fun k => by simp [Dispatch.of, complete_all D hD k]) m kx nx c

/-- **C03 (statement forms and optimizer levels agree).** For a constant step `c`, the fused
Increment instruction (optimizer level ≥ 2) leaves in the variable exactly the value and type
that `Load x; Push c; Add; Store x` — the common compilation of `x++`, `x += c` and
`x = x + c` — leaves there, in every type-checking mode, for every integer kind. -/
theorem C03_fused_eq_unfused (D : Dispatch) (hD : D.complete = true) (m : Mode) (kx : Kind) (nx : Int)
    (c : Operand) (hc : c.isConst = true) :
    increment D m kx nx c = stmtUnfused D m .add kx nx c :=
  C03_fused_eq_unfused_any D hD m kx nx c

/-- `x++` is `x += 1` is `x = x + 1`, and the variable keeps its type (no drift to `int`) -/
theorem C03_incr_keeps_type (D : Dispatch) (hD : D.complete = true) (m : Mode) (kx : Kind) (nx : Int) :
    increment D m kx nx (.const .int 1) = .ok kx (wrap kx (nx + 1)) ∧
    stmtUnfused D m .add kx nx (.const .int 1) = .ok kx (wrap kx (nx + 1)) ∧
    stmtUnfused D m .sub kx nx (.const .int 1) = .ok kx (wrap kx (nx - 1)) := by
  have h1 : wrap kx 1 = 1 := by cases kx <;> decide
  have hst : ∀ op, stmtUnfused D m op kx nx (.const .int 1) = store m kx (compute op kx nx 1) := fun op => by
    rw [stmtUnfused, binop_var_const_fits D hD _ _ _ _ _ _ h1]
  rw [C03_fused_eq_unfused_any D hD, hst, hst]
  simp [compute, store]

/-! ## non-vacuity and the defects of the pinned tree as counterexamples -/

/-- the dispatch sets of the pinned (pre-fix) math.go: `int8` missing from Negate and Increment -/
def pinnedD : Dispatch :=
  { add := Kind.all, sub := Kind.all, mul := Kind.all, div := Kind.all, mod := Kind.all,
    neg := Kind.all.filter (· != .int8), incr := Kind.all.filter (· != .int8) }

/-- the fixed tree: every switch has every integer kind -/
def fullD : Dispatch :=
  { add := Kind.all, sub := Kind.all, mul := Kind.all, div := Kind.all, mod := Kind.all,
    neg := Kind.all, incr := Kind.all }

example : fullD.complete = true := by decide
example : pinnedD.complete = false := by decide
/-- on the pinned sets unary minus fails on int8 and the fused increment differs from x = x + 1 -/
theorem C03_pinned_counterexample :
    negate pinnedD (.var .int8 5) = .err .invalidType ∧
    increment pinnedD .dynamic .int8 5 (.const .int 1) ≠ stmtUnfused pinnedD .dynamic .add .int8 5 (.const .int 1) := by
  decide
example : binop fullD true .add (.var .int32 2147483647) (.const .int 1) = .ok .int32 (-2147483648) := by decide
example : binop fullD true .add (.var .int8 1) (.const .int 300) = .err .lossOfPrecision := by decide
example : binop fullD false .add (.var .int8 1) (.const .int 300) = .ok .int8 45 := by decide
example : binop fullD false .mul (.var .int32 65536) (.var .int64 65536) = .ok .int64 4294967296 := by decide
example : binop fullD true .add (.var .int32 1) (.constFlt 2 true) = .err .lossOfPrecision := by decide
example : binop fullD false .add (.var .int32 1) (.constFlt 2 true) = .ok .int32 3 := by decide
example : binop fullD false .div (.var .int8 (-128)) (.const .int (-1)) = .ok .int8 (-128) := by decide

end EgoVerif.C03
