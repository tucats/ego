import EgoVerif.C17.Model
/-
C17 — a `@transaction` request is all-or-nothing and releases what it opened on every exit.

All theorems quantify over EVERY source configuration `c : Cfg` satisfying the stated
coverage facts (which T1 re-extracts from the current source on every run and a generated
obligation instantiates), every pre-check outcome, every task list, every assignment of
outcomes to operations / error conditions / the final COMMIT, and every clean initial database.
-/
namespace EgoVerif.C17

theorem connRollback_committed (d : Db) : (connRollback d).1.committed = d.committed := by
  unfold connRollback; split <;> rfl

theorem connRollback_txn (d : Db) : (connRollback d).1.txn = d.txn := by
  unfold connRollback; split <;> rfl

theorem connRollback_handle (d : Db) : (connRollback d).1.handle = d.handle := by
  unfold connRollback; split <;> rfl

theorem dRollback_committed (c : Cfg) (d : Db) : (dRollback c d).1.committed = d.committed := by
  unfold dRollback driverRollback
  split
  · rfl
  · have := connRollback_committed d
    split <;> simp_all

/-- with the stale-pointer fix, Rollback always leaves `d.Transaction == nil` -/
theorem dRollback_txn (c : Cfg) (hc : c.clearOnRollbackErr = true) (d : Db) :
    (dRollback c d).1.txn = false := by
  unfold dRollback driverRollback
  split
  · simp_all
  · split <;> simp_all

theorem rollbackIf_committed (c : Cfg) (f : Bool) (d : Db) : (rollbackIf c f d).committed = d.committed := by
  unfold rollbackIf; split
  · exact dRollback_committed c d
  · rfl

theorem released_close (d : Db) (h : d.txn = false) : released (dClose d) = true := by
  simp [dClose, released, h]

theorem dClose_committed (d : Db) : (dClose d).committed = d.committed := by
  unfold dClose; split <;> rfl

theorem exec_txn (e : Nat) (d : Db) : (exec e d).txn = d.txn := by
  unfold exec; split <;> rfl

theorem lockIf_eq (b : Bool) (d : Db) : lockIf b d = { d with wlock := d.wlock || (b && d.inTx) } := by
  unfold lockIf
  split <;> rename_i h
  · rw [h, Bool.or_true]
  · rw [Bool.not_eq_true] at h; rw [h, Bool.or_false]

theorem runOp_txn (i : Nat) (t : Task) (d : Db) : (runOp i t d).1.txn = d.txn := by
  unfold runOp
  cases t.kind <;> simp only [lockIf_eq]
  · split
    · split
      · exact exec_txn ..
      · rfl
    · rfl
  · unfold connCommit; split <;> rfl
  · exact connRollback_txn d
  · split <;> rfl

theorem runOp_plain_inTx (i : Nat) (t : Task) (d : Db) (hk : t.kind = .plain) (hin : d.inTx = true) :
    ∃ d1, runOp i t d = (d1, t.ok) ∧ d1.committed = d.committed ∧ d1.inTx = true ∧ d1.txn = d.txn ∧
      d1.pending = d.pending ++ if t.ok && t.writes then [i] else [] := by
  refine ⟨(runOp i t d).1, ?_⟩
  cases ho : t.ok <;> cases hw : t.writes <;> simp [runOp, hk, ho, hw, exec, lockIf_eq, hin]

theorem dCommit_inTx (c : Cfg) (good : Bool) (d : Db) (ht : d.txn = true) (hin : d.inTx = true) :
    (dCommit c good d).2 = good ∧
    (dCommit c good d).1.committed = d.committed ++ if good then d.pending else [] := by
  cases good <;> simp [dCommit, driverCommit, connCommit, connRollback, ht, hin]

/-- Before `db.Begin()` has succeeded the database is untouched, apart from the handle that a
failed Begin opened and the deferred Close closes again; only the empty list is a success. -/
theorem handler_early (c : Cfg) (pre : Pre) (tasks : List Task) (commitOk : Bool) (d0 : Db)
    (h : ¬(pre = .fine ∧ tasks ≠ [])) :
    ((handler c pre tasks commitOk d0).db = d0 ∨
      (handler c pre tasks commitOk d0).db = dClose { d0 with handle := true }) ∧
    ((handler c pre tasks commitOk d0).ok = true ↔ pre ≠ .decodeErr ∧ tasks = []) := by
  cases tasks <;> cases pre <;> simp [handler] at h ⊢

def Cond.passes : Cond → Bool
  | .empty | .isFalse => true
  | _ => false

theorem condLoop_spec {c d conds o} (h : condLoop c d conds = o) :
    match (generalizing := false) o with
    | none => conds.all Cond.passes = true
    | some r => conds.all Cond.passes = false ∧ r.2.committed = d.committed ∧
        (c.allCovered = true → r.2.txn = false) := by
  subst h
  induction conds with
  | nil => rfl
  | cons k ks ih =>
    cases k <;> simp only [condLoop, List.all_cons, Cond.passes, Bool.true_and, Bool.false_and]
    case empty | isFalse => exact ih
    all_goals
      refine ⟨trivial, rollbackIf_committed .., fun hc => ?_⟩
      simp [Cfg.allCovered] at hc
      simp [rollbackIf, hc, dRollback_txn]

theorem taskLoop_txn {c : Cfg} (hc : c.allCovered = true) {tasks i d r} (h : taskLoop c i d tasks = r) :
    match (generalizing := false) r with
    | .inl (_, d') => d'.txn = false
    | .inr d' => d'.txn = d.txn := by
  subst h
  induction tasks generalizing i d with
  | nil => rfl
  | cons t ts ih =>
    rw [taskLoop]
    have ht := runOp_txn i t d
    generalize runOp i t d = r at ht ⊢
    obtain ⟨d1, _ | _⟩ := r <;> simp only at ht ⊢
    · simp [Cfg.allCovered] at hc
      simp [rollbackIf, hc, dRollback_txn]
    · cases hcl : condLoop c d1 t.conds with
      | some r => exact (condLoop_spec hcl).2.2 hc
      | none => exact ht ▸ @ih (i + 1) d1

theorem dCommit_txn (c : Cfg) (hc : c.clearOnCommitErr = true) (good : Bool) (d : Db) (h : d.txn = true) :
    (dCommit c good d).1.txn = false := by
  unfold dCommit
  simp [h]
  split <;> simp_all

/-- **Release.**  If every exit is covered (facts extracted from the source), then after the
request returns — by ANY path, for ANY task list, outcomes, and pre-check failure — the handle
holds no transaction, the connection is closed, and no statement is left pending. -/
theorem C17_released (c : Cfg) (hc : c.allCovered = true) (pre : Pre) (tasks : List Task) (commitOk : Bool)
    (d0 : Db) (h0 : d0.clean = true) :
    released (handler c pre tasks commitOk d0).db = true := by
  have ⟨h0t, hclean⟩ : d0.txn = false ∧ released d0 = true := by
    simp [Db.clean] at h0; simp [released, h0]
  by_cases hf : pre = .fine ∧ tasks ≠ []
  · obtain ⟨rfl, hne⟩ := hf
    unfold handler
    rw [if_neg (by decide), if_neg (by simpa using hne)]
    dsimp only
    split
    · rename_i hr; exact released_close _ (taskLoop_txn hc hr)
    · rename_i d hr
      have hcc : c.clearOnCommitErr = true := by simp [Cfg.allCovered] at hc; simp [hc]
      have := dCommit_txn c hcc commitOk d (taskLoop_txn hc hr)
      split <;> rename_i hd <;> rw [hd] at this <;> exact released_close _ this
  · rcases (handler_early c pre tasks commitOk d0 hf).1 with h | h <;> rw [h]
    · exact hclean
    · exact released_close _ h0t

def allPass (tasks : List Task) : Bool := tasks.all (fun t => t.ok && t.conds.all Cond.passes)

theorem taskLoop_plain {c tasks i d r} (hn : noTxControl tasks = true) (hin : d.inTx = true)
    (h : taskLoop c i d tasks = r) :
    match (generalizing := false) r with
    | .inl (_, d') => allPass tasks = false ∧ d'.committed = d.committed
    | .inr d' => allPass tasks = true ∧ d'.committed = d.committed ∧ d'.inTx = true ∧ d'.txn = d.txn ∧
                 d'.pending = d.pending ++ writesFrom i tasks := by
  subst h
  induction tasks generalizing i d with
  | nil => simp [taskLoop, writesFrom, allPass, hin]
  | cons t ts ih =>
    simp only [noTxControl, List.all_cons, Bool.and_eq_true, beq_iff_eq] at hn
    obtain ⟨d1, hr, hcm, hi, htx, hpe⟩ := runOp_plain_inTx i t d hn.1 hin
    rw [taskLoop, hr]
    cases hto : t.ok
    · simp [allPass, hto, rollbackIf_committed, hcm]
    · cases hcl : condLoop c d1 t.conds <;> have hcs := condLoop_spec hcl
      case some r => simp [hcl, allPass, hto, hcs.1, hcs.2.1, hcm]
      case none =>
        -- the rest of the loop runs from `d1`; restate what it yields in terms of `d`
        have := ih (i := i + 1) hn.2 hi
        rw [hcm, htx, hpe, hto, List.append_assoc] at this
        simpa only [hcl, allPass, List.all_cons, hto, hcs, writesFrom, Bool.true_and] using this

/-- the property: success with every write durable, or failure with the database as before -/
def atomic (d0 : Db) (tasks : List Task) (r : Result) : Prop :=
  (r.ok = true ∧ r.db.committed = d0.committed ++ writesFrom 0 tasks) ∨
  (r.ok = false ∧ r.db.committed = d0.committed)

theorem handler_fine_plain (c : Cfg) (hc : c.commitErrFail = true) (tasks : List Task) (commitOk : Bool)
    (d0 : Db) (hne : tasks ≠ []) (hn : noTxControl tasks = true) :
    (handler c .fine tasks commitOk d0).ok = (allPass tasks && commitOk) ∧
    (handler c .fine tasks commitOk d0).db.committed =
      d0.committed ++ if allPass tasks && commitOk then d0.pending ++ writesFrom 0 tasks else [] := by
  unfold handler
  rw [if_neg (by decide), if_neg (by simpa using hne)]
  dsimp only
  split <;> rename_i hr <;> have hl := taskLoop_plain hn rfl hr
  · simp [hl.1, dClose_committed, hl.2, dBegin]
  · obtain ⟨hp, hcm, hin, htx, hpe⟩ := hl
    obtain ⟨h1, h2⟩ := dCommit_inTx c commitOk _ htx hin
    split <;> rename_i hd <;> rw [hd] at h1 h2 <;> simp only at h1 h2 <;> subst h1 <;>
      simp [hp, hc, dClose_committed, h2, hcm, hpe, dBegin]

/-- **Atomicity.**  Provided the commit-error exit reports a failure status (extracted fact) and
no task is a raw transaction-control statement: the request either reports success and every
write of every task is durable, or reports failure and the database is exactly as before —
whichever operation fails, whichever condition trips, is malformed or cannot be evaluated,
and whether or not COMMIT succeeds. -/
theorem C17_atomic_partial (c : Cfg) (hc : c.commitErrFail = true) (pre : Pre) (tasks : List Task)
    (commitOk : Bool) (d0 : Db) (h0 : d0.clean = true) (hn : noTxControl tasks = true) :
    atomic d0 tasks (handler c pre tasks commitOk d0) := by
  have hp : d0.pending = [] := by simp [Db.clean] at h0; simp [h0]
  unfold atomic
  by_cases hf : pre = .fine ∧ tasks ≠ []
  · obtain ⟨rfl, hne⟩ := hf
    obtain ⟨h1, h2⟩ := handler_fine_plain c hc tasks commitOk d0 hne hn
    rw [h1, h2, hp]
    cases allPass tasks && commitOk <;> simp
  · obtain ⟨hdb, hok⟩ := handler_early c pre tasks commitOk d0 hf
    have hcm : (handler c pre tasks commitOk d0).db.committed = d0.committed := by
      rcases hdb with h | h <;> rw [h]
      exact dClose_committed _
    by_cases ho : (handler c pre tasks commitOk d0).ok = true
    · left
      refine ⟨ho, ?_⟩
      rw [hcm, (hok.1 ho).2]
      exact (List.append_nil _).symm
    · right; exact ⟨by simpa using ho, hcm⟩

/-- Success is reported exactly when the request decoded and either the list is empty, or every
pre-check passed, every operation succeeded, every condition evaluated to false (or was blank)
and COMMIT succeeded. -/
theorem C17_ok_iff (c : Cfg) (hc : c.commitErrFail = true) (pre : Pre) (tasks : List Task)
    (commitOk : Bool) (d0 : Db) (hn : noTxControl tasks = true) :
    (handler c pre tasks commitOk d0).ok = true ↔
      pre ≠ .decodeErr ∧ (tasks = [] ∨ (pre = .fine ∧ allPass tasks = true ∧ commitOk = true)) := by
  by_cases hf : pre = .fine ∧ tasks ≠ []
  · rw [hf.1, (handler_fine_plain c hc tasks commitOk d0 hf.2 hn).1]
    simp [hf.2]
  · rw [(handler_early c pre tasks commitOk d0 hf).2]
    by_cases hp : pre = .fine <;> simp_all

/-! ### the class that stays open: raw transaction control through the `sql` opcode -/

/-- `[insert; sql "ROLLBACK"; insert]` on the FIXED configuration: the request reports failure
(the final COMMIT finds no transaction) and the third task's write is durable. -/
theorem C17_atomic_counterexample :
    let tasks := [⟨.plain, true, true, true, []⟩, ⟨.rawRollback, true, false, false, []⟩, ⟨.plain, true, true, true, []⟩]
    let r := handler Cfg.fixed .fine tasks true ⟨[], [], false, false, false, false⟩
    r.ok = false ∧ r.db.committed = [2] ∧ writesFrom 0 tasks = [0, 2] ∧ noTxControl tasks = false := by
  decide

/-- the tree as found: (1) `insert` + condition that cannot be evaluated → 4xx with the
transaction, the handle and the write lock all still held; (2) a failed COMMIT is reported 2xx
and leaves the handle open.  Both are repaired by fixes/C17.patch (`Cfg.fixed`). -/
theorem C17_pinned_counterexample :
    let d0 : Db := ⟨[], [], false, false, false, false⟩
    let r1 := handler Cfg.pinned .fine [⟨.plain, true, true, true, [.evalErr]⟩] true d0
    let r2 := handler Cfg.pinned .fine [⟨.plain, true, true, true, []⟩] false d0
    (r1.ok = false ∧ r1.db.txn = true ∧ r1.db.handle = true ∧ locked r1.db = true) ∧
    (r2.ok = true ∧ r2.db.committed = [] ∧ r2.db.handle = true) := by
  decide

def cleanDb : Db := ⟨[], [], false, false, false, false⟩

/-- One leaking request per exit.  With an exit's flag off the run of its request does not consult
the flags after it, so the leak is a computation with those left open. -/
theorem uncovered_leaks (c : Cfg) (h : c.allCovered = false) :
    ∃ tasks commitOk, released (handler c .fine tasks commitOk cleanDb).db = false := by
  obtain ⟨a1, a2, a3, a4, a5, a6, a7⟩ := c
  cases a1
  · exact ⟨[⟨.plain, true, true, true, [.malformed]⟩], true, rfl⟩
  cases a2
  · exact ⟨[⟨.plain, true, true, true, [.evalErr]⟩], true, rfl⟩
  cases a3
  · exact ⟨[⟨.plain, true, true, true, [.isTrue]⟩], true, rfl⟩
  cases a4
  · exact ⟨[⟨.plain, false, false, false, []⟩], true, rfl⟩
  cases a6
  · exact ⟨[⟨.plain, true, true, true, []⟩], false, rfl⟩
  cases a7
  · -- a raw ROLLBACK ends the connection's transaction, so the handle's own Rollback fails
    exact ⟨[⟨.rawRollback, true, false, false, []⟩, ⟨.plain, false, false, false, []⟩], true, rfl⟩
  cases h

/-- Every exit releases for every input  ⇔  every exit is covered.  (⇐ is `C17_released`; ⇒
exhibits, for each missing Rollback / stale-pointer case, a request that leaks.) -/
theorem C17_released_iff_covered (c : Cfg) :
    (∀ pre tasks commitOk, released (handler c pre tasks commitOk cleanDb).db = true) ↔ c.allCovered = true := by
  constructor
  · intro h
    apply eq_true_of_ne_false
    intro hf
    obtain ⟨tasks, commitOk, hl⟩ := uncovered_leaks c hf
    rw [h] at hl
    cases hl
  · intro hc pre tasks commitOk
    exact C17_released c hc pre tasks commitOk cleanDb (by decide)

/-- release and atomicity whenever (if ever) the request's context is cancelled: `handlerCtx` ignores the
context, as Handler does (see its definition), so these are `C17_released` and `C17_atomic_partial` -/
theorem C17_released_any_ctx (c : Cfg) (hc : c.allCovered = true) (pre : Pre) (tasks : List Task)
    (commitOk : Bool) (k : Option Nat) (d0 : Db) (h0 : d0.clean = true) :
    released (handlerCtx c pre tasks commitOk k d0).db = true :=
  C17_released c hc pre tasks commitOk d0 h0

theorem C17_atomic_any_ctx (c : Cfg) (hc : c.commitErrFail = true) (pre : Pre) (tasks : List Task)
    (commitOk : Bool) (k : Option Nat) (d0 : Db) (h0 : d0.clean = true) (hn : noTxControl tasks = true) :
    atomic d0 tasks (handlerCtx c pre tasks commitOk k d0) :=
  C17_atomic_partial c hc pre tasks commitOk d0 h0 hn

-- the hypotheses of the theorems are met by the fixed configuration and a non-trivial request
example : Cfg.fixed.allCovered = true ∧ Cfg.fixed.commitErrFail = true := by decide
example : Cfg.pinned.allCovered = false := by decide
example :
    let tasks : List Task := [⟨.plain, true, true, true, [.isFalse, .empty]⟩, ⟨.plain, true, false, false, []⟩, ⟨.plain, true, true, true, [.isFalse]⟩]
    noTxControl tasks = true ∧
    (handler Cfg.fixed .fine tasks true cleanDb).ok = true ∧
    (handler Cfg.fixed .fine tasks true cleanDb).db.committed = [0, 2] ∧
    (handler Cfg.fixed .fine tasks false cleanDb).ok = false ∧
    (handler Cfg.fixed .fine tasks false cleanDb).db.committed = [] := by decide
example :
    let tasks : List Task := [⟨.plain, true, true, true, []⟩, ⟨.plain, true, true, true, [.isFalse, .evalErr]⟩, ⟨.plain, true, true, true, []⟩]
    (handler Cfg.fixed .fine tasks true cleanDb).exit = .evalErr ∧
    (handler Cfg.fixed .fine tasks true cleanDb).db = cleanDb := by decide

end EgoVerif.C17
