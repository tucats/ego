import EgoVerif.C05.Lex
/-
C05 — the crush step re-assembles exactly the tokens the printer meant:
`lexTokens (printExpr e) = toks e` for every well-formed expression.
-/
namespace EgoVerif.C05

theorem binop_lex {acc : List Tok} (hq : headQuiet acc) (op : BinOp) :
    op.pieces.foldl lexStep acc = .sp op.tok :: acc := by
  -- the first piece is pushed; the second piece of a two-character operator is glued and crushes with it
  cases op <;> simp only [BinOp.pieces, BinOp.tok, List.foldl, lexStep_hq hq] <;> rfl

/-- first raw piece of the printed text: the first token, or "<" when that token is "<-" -/
def firstPiece (e : Expr) : Tok :=
  match firstTok e with
  | .sp .recv => .sp .lt
  | t => t

theorem firstPiece_start (e : Expr) {b : Sp} (h : firstPiece e = .sp b) :
    b = .lt ∨ 6 ≤ startRank (.sp b) := by
  have := startRank_firstTok e
  unfold firstPiece at h
  split at h
  · exact .inl (by cases h; rfl)
  · exact .inr (h ▸ this)

theorem firstTok_of_firstPiece {e : Expr} {b : Sp} (hb : b ≠ .lt) (h : firstPiece e = .sp b) :
    firstTok e = .sp b := by
  unfold firstPiece at h
  split at h
  · cases h; exact absurd rfl hb
  · exact h

/-- A piece that can start an expression crushes with what precedes it only when glued to it, and
then only as `--`, `&&`, or after `<`: every other row of the table ends in "=", "+", "|", ">" or "}". -/
theorem crush_start {a b : Sp} {g : Bool} (hb : b = .lt ∨ 6 ≤ startRank (.sp b))
    (hg : g = true → a ≠ .lt ∧ (a = b → b ≠ .minus ∧ b ≠ .amp)) : crushLookup a b g = none := by
  unfold crushLookup
  split
  all_goals first
    | rfl
    | exact absurd hb (by decide)
    | -- the rows `--`, `<-`, `&&`, `<<`, all adjacent-only
      cases g
      · rfl
      · exact absurd (hg rfl) (by decide)

theorem safe_start (x : Expr) (a : Sp) (acc : List Tok) (g : Bool)
    (hg : g = true → a ≠ .lt ∧ (firstPiece x = .sp a → a ≠ .minus ∧ a ≠ .amp)) :
    safeAcc (.sp a :: acc) g (firstPiece x) := by
  intro a' rest b hacc hb
  cases hacc
  exact crush_start (firstPiece_start x hb) fun h => ⟨(hg h).1, fun hab => hab ▸ (hg h).2 (hab ▸ hb)⟩

theorem safe_after_op (op : BinOp) (y : Expr) (acc : List Tok) :
    safeAcc (.sp op.tok :: acc) false (firstPiece y) :=
  safe_start y _ acc false fun h => nomatch h

theorem safe_star (x : Expr) (acc : List Tok) : safeAcc (.sp .star :: acc) true (firstPiece x) :=
  safe_start x _ acc true fun _ => ⟨by decide, fun _ => by decide⟩

theorem prefix_of_firstTok : ∀ x : Expr, 6 ≤ rank x → rank x ≤ 7 →
    (firstTok x = .sp .minus → x.isNeg = true) ∧ (firstTok x = .sp .amp → x.isAddr = true)
  | .unary .neg _, _, _ => ⟨fun _ => rfl, nofun⟩
  | .addr _, _, _ => ⟨nofun, fun _ => rfl⟩
  | .unary .not _, _, _ | .ident _, _, _ | .lit _, _, _ | .paren _, _, _ | .star _, _, _ | .recv _, _, _ => ⟨nofun, nofun⟩
  | .binary op _ _, hr, _ => absurd (Nat.le_trans hr op.prec_le) (by decide)
  | .sel .., _, hl | .index .., _, hl | .call .., _, hl => by simp [rank] at hl

/-- the fixed printer: the operand of a prefix "-" / "!" never crushes with it -/
theorem safe_unary (op : UnOp) (x : Expr) (hw : WF x) (hr : 6 ≤ rank x) (acc : List Tok) :
    safeAcc (.sp op.tok :: acc) (!(op == .neg && x.isNeg)) (firstPiece x) := by
  refine safe_start x _ acc _ fun hg => ?_
  cases op
  · refine ⟨by decide, fun hb => ?_⟩
    have hf := firstTok_of_firstPiece (by decide) hb
    have hl := rank_le_startRank x hw
    rw [hf] at hl
    simp [(prefix_of_firstTok x hr (Nat.le_succ_of_le hl)).1 hf] at hg
  · exact ⟨by decide, fun _ => by decide⟩

theorem safe_addr (x : Expr) (hw : WF x) (hr : 7 ≤ rank x) (acc : List Tok) :
    safeAcc (.sp .amp :: acc) (!x.isAddr) (firstPiece x) := by
  refine safe_start x _ acc _ fun hg => ⟨by decide, fun hb => ?_⟩
  have hf := firstTok_of_firstPiece (by decide) hb
  have hl := rank_le_startRank x hw
  rw [hf] at hl
  simp [(prefix_of_firstTok x (Nat.le_of_succ_le hr) hl).2 hf] at hg

theorem lex_tok {acc : List Tok} {ps0 ps : List Piece} {t : Tok} {ts : List Tok}
    (h0 : ps0.foldl lexStep acc = t :: acc) (h : ps.foldl lexStep (t :: acc) = ts.reverse ++ t :: acc) :
    (ps0 ++ ps).foldl lexStep acc = (t :: ts).reverse ++ acc := by
  simp [h0, h]

theorem lex_cons {acc : List Tok} {g : Bool} {t : Tok} {ps : List Piece} {ts : List Tok} (hs : safeAcc acc g t)
    (h : ps.foldl lexStep (t :: acc) = ts.reverse ++ t :: acc) :
    (⟨g, t⟩ :: ps).foldl lexStep acc = (t :: ts).reverse ++ acc :=
  lex_tok (ps0 := [_]) (lexStep_push acc ⟨g, t⟩ hs) h

theorem lex_append {acc : List Tok} {ps qs : List Piece} {ts us : List Tok}
    (h1 : ps.foldl lexStep acc = ts.reverse ++ acc)
    (h2 : qs.foldl lexStep (ts.reverse ++ acc) = us.reverse ++ (ts.reverse ++ acc)) :
    (ps ++ qs).foldl lexStep acc = (ts ++ us).reverse ++ acc := by
  simp [h1, h2]

mutual
theorem lex_pp : ∀ (e : Expr), WF e → ∀ (g : Bool) (acc : List Tok), safeAcc acc g (firstPiece e) →
    (pp g e).foldl lexStep acc = (toks e).reverse ++ acc
  | .ident _, _, _, _, hs | .lit _, _, _, _, hs => lex_cons hs rfl
  | .paren x, hw, _, _, hs =>
    lex_cons hs <| lex_append (lex_pp x hw true _ (safeAcc_of_headQuiet (acc := _ :: _) (quiet_sp rfl) _ _)) <|
      lex_cons (safeAcc_of_headQuiet (headQuiet_after x _) _ _) rfl
  | .binary op x y, hw, g, acc, hs =>
    lex_append (lex_pp x hw.2.2.1 g acc hs) <|
      lex_tok (binop_lex (headQuiet_after x acc) op) (lex_pp y hw.2.2.2 false _ (safe_after_op op y _))
  | .unary op x, hw, _, acc, hs =>
    lex_cons (by cases op <;> exact hs) (lex_pp x hw.2 _ _ (safe_unary op x hw.2 hw.1 acc))
  | .star x, hw, _, acc, hs => lex_cons hs (lex_pp x hw.2 true _ (safe_star x acc))
  | .addr x, hw, _, acc, hs => lex_cons hs (lex_pp x hw.2 _ _ (safe_addr x hw.2 hw.1 acc))
  | .recv x, hw, g, acc, hs =>
    -- "<" is pushed, then the glued "-" crushes with it
    have h0 : [⟨g, .sp .lt⟩, ⟨true, .sp .minus⟩].foldl lexStep acc = .sp .recv :: acc := by
      rw [List.foldl_cons, lexStep_push acc ⟨g, .sp .lt⟩ hs]; rfl
    lex_tok h0 (lex_pp x hw.2 true _ (safeAcc_of_headQuiet (acc := _ :: _) (quiet_sp rfl) _ _))
  | .sel x _, hw, g, acc, hs =>
    lex_append (lex_pp x hw.2 g acc hs) <| lex_cons (safeAcc_of_headQuiet (headQuiet_after x _) _ _) <|
      lex_cons (safeAcc_of_headQuiet (acc := _ :: _) (quiet_sp rfl) _ _) rfl
  | .index x i, hw, g, acc, hs =>
    lex_append (lex_pp x hw.2.1 g acc hs) <| lex_cons (safeAcc_of_headQuiet (headQuiet_after x _) _ _) <|
      lex_append (lex_pp i hw.2.2 true _ (safeAcc_of_headQuiet (acc := _ :: _) (quiet_sp rfl) _ _)) <|
        lex_cons (safeAcc_of_headQuiet (headQuiet_after i _) _ _) rfl
  | .call f args, hw, g, acc, hs =>
    have h2 := lex_ppArgs args hw.2.2 true (.sp .lparen :: ((toks f).reverse ++ acc)) (quiet_sp rfl)
    lex_append (lex_pp f hw.2.1 g acc hs) <| lex_cons (safeAcc_of_headQuiet (headQuiet_after f _) _ _) <|
      lex_append h2.1 <| lex_cons (safeAcc_of_headQuiet h2.2 _ _) rfl

theorem lex_ppArgs : ∀ (as : Args), WFArgs as → ∀ (first : Bool) (acc : List Tok), headQuiet acc →
    (ppArgs first as).foldl lexStep acc = (toksArgs first as).reverse ++ acc ∧
      headQuiet ((toksArgs first as).reverse ++ acc)
  | .nil, _, first, acc, hq => ⟨rfl, hq⟩
  | .cons a rest, hw, true, acc, hq => by
    have h1 := lex_pp a hw.1 true acc (safeAcc_of_headQuiet hq _ _)
    have h2 := lex_ppArgs rest hw.2 false ((toks a).reverse ++ acc) (headQuiet_after a _)
    simp only [ppArgs, toksArgs, if_true]
    exact ⟨lex_append h1 h2.1, by simpa using h2.2⟩
  | .cons a rest, hw, false, acc, hq => by
    have h1 := lex_pp a hw.1 false (.sp .comma :: acc) (safeAcc_of_headQuiet (acc := _ :: _) (quiet_sp rfl) _ _)
    have h2 := lex_ppArgs rest hw.2 false ((toks a).reverse ++ (.sp .comma :: acc)) (headQuiet_after a _)
    simp only [ppArgs, toksArgs, Bool.false_eq_true, if_false]
    exact ⟨lex_cons (safeAcc_of_headQuiet hq _ _) (lex_append h1 h2.1), by simpa using h2.2⟩
end

/-- the tokenizer's crush step gives back exactly the intended tokens of a printed well-formed expression -/
theorem C05_lex_print (e : Expr) (h : WF e) : lexTokens (printExpr e) = toks e := by
  unfold lexTokens printExpr
  rw [lex_pp e h false [] (fun _ _ _ h => nomatch h)]
  simp

end EgoVerif.C05
