import EgoVerif.C05.Lex
/- executable form of `WF` (used by the driver's `wf` line) and its agreement with the Prop -/
namespace EgoVerif.C05

mutual
def wfB : Expr → Bool
  | .ident _ => true
  | .lit _ => true
  | .paren x => wfB x
  | .binary op x y => decide (op.prec ≤ rank x) && decide (op.prec + 1 ≤ rank y) && wfB x && wfB y
  | .unary _ x => decide (6 ≤ rank x) && wfB x
  | .star x => decide (7 ≤ rank x) && wfB x
  | .addr x => decide (7 ≤ rank x) && wfB x
  | .recv x => decide (7 ≤ rank x) && wfB x
  | .sel x _ => decide (8 ≤ rank x) && wfB x
  | .index x i => decide (8 ≤ rank x) && wfB x && wfB i
  | .call f args => decide (8 ≤ rank f) && wfB f && wfArgsB args
def wfArgsB : Args → Bool
  | .nil => true
  | .cons a rest => wfB a && wfArgsB rest
end

mutual
theorem wfB_iff : ∀ e : Expr, wfB e = true ↔ WF e
  | .ident _ | .lit _ => by simp [wfB, WF]
  | .paren x => wfB_iff x
  | .binary op x y => by simp [wfB, WF, wfB_iff x, wfB_iff y, and_assoc]
  | .unary _ x | .star x | .addr x | .recv x | .sel x _ => by simp [wfB, WF, wfB_iff x]
  | .index x i => by simp [wfB, WF, wfB_iff x, wfB_iff i, and_assoc]
  | .call f args => by simp [wfB, WF, wfB_iff f, wfArgsB_iff args, and_assoc]
theorem wfArgsB_iff : ∀ as : Args, wfArgsB as = true ↔ WFArgs as
  | .nil => by simp [wfArgsB, WFArgs]
  | .cons a rest => by simp [wfArgsB, WFArgs, wfB_iff a, wfArgsB_iff rest]
end

end EgoVerif.C05
