import EgoVerif.C05.LexMain
/-
C05 — the parser model reads `toks e` back as `e`, for every well-formed `e`: one claim per level of
the grammar (`Good e`), proved by structural recursion under the fuel measure `need`.
-/
namespace EgoVerif.C05

/-- the rest does not continue a reference: no ".", "[" or "(" -/
def noSuffix : List Tok → Prop
  | .sp s :: _ => s ≠ .dot ∧ s ≠ .lbrack ∧ s ≠ .lparen
  | _ => True

def opLt (m : Nat) : List Tok → Prop
  | .sp s :: _ => ∀ op, binOfTok s = some op → op.prec < m
  | _ => True

theorem binOfTok_tok (op : BinOp) : binOfTok op.tok = some op := by cases op <;> rfl

theorem opLt_mono {m m' : Nat} {rest : List Tok} (h : opLt m rest) (hm : m ≤ m') : opLt m' rest := by
  rcases rest with _ | ⟨_ | _ | s, _⟩ <;> try trivial
  exact fun op hop => Nat.lt_of_lt_of_le (h op hop) hm

theorem noSuffix_op (op : BinOp) (rest : List Tok) : noSuffix (.sp op.tok :: rest) := by
  have h := binOfTok_tok op
  refine ⟨?_, ?_, ?_⟩ <;> intro e <;> rw [e] at h <;> cases h

theorem opLt_op (op : BinOp) (rest : List Tok) : opLt (op.prec + 1) (.sp op.tok :: rest) := by
  intro op' h
  cases (binOfTok_tok op).symm.trans h
  exact Nat.lt_succ_self _

theorem parseBinary_of {n m : Nat} {ts r : List Tok} {l : Expr} (h : parseUnary n ts = some (l, r)) :
    parseBinary (n + 1) m ts = binLoop n m l r := by
  rw [parseBinary.eq_def]; simp [h]

theorem binLoop_stop (n m : Nat) (left : Expr) (ts : List Tok) (h : opLt m ts) :
    binLoop (n + 1) m left ts = some (left, ts) := by
  rw [binLoop.eq_def]
  rcases ts with _ | ⟨_ | _ | s, rest⟩ <;> try rfl
  cases hb : binOfTok s with
  | none => simp [hb]
  | some op => simp [hb, h op hb]

theorem binLoop_op_of {n m : Nat} {left right : Expr} {op : BinOp} {rest rest' : List Tok} (hm : m ≤ op.prec)
    (h : parseBinary n (op.prec + 1) rest = some (right, rest')) :
    binLoop (n + 1) m left (.sp op.tok :: rest) = binLoop n m (.binary op left right) rest' := by
  have : ¬ op.prec < m := by omega
  rw [binLoop.eq_def]; simp [binOfTok_tok, this, h]

theorem parseUnary_op_of {n : Nat} {rest r : List Tok} {x : Expr} (op : UnOp) (h : parseUnary n rest = some (x, r)) :
    parseUnary (n + 1) (.sp op.tok :: rest) = some (.unary op x, r) := by
  rw [parseUnary.eq_def]
  cases op <;> simp [UnOp.tok, h]

theorem parseUnary_other (n : Nat) (t : Tok) (rest : List Tok) (h1 : t ≠ .sp .minus) (h2 : t ≠ .sp .bang) :
    parseUnary (n + 1) (t :: rest) = parseReference n (t :: rest) := by
  rw [parseUnary.eq_def]
  cases t <;> simp_all

theorem parseReference_of {n : Nat} {ts r : List Tok} {x : Expr} (h : parseAtom n ts = some (x, r)) :
    parseReference (n + 1) ts = refLoop n x r := by
  rw [parseReference.eq_def]; simp [h]

theorem refLoop_stop (n : Nat) (x : Expr) (ts : List Tok) (h : noSuffix ts) :
    refLoop (n + 1) x ts = some (x, ts) := by
  rw [refLoop.eq_def]
  rcases ts with _ | ⟨_ | _ | s, rest⟩ <;> simp_all [noSuffix]

theorem refLoop_dot (n : Nat) (x : Expr) (name : String) (rest : List Tok) :
    refLoop (n + 1) x (.sp .dot :: .id name :: rest) = refLoop n (.sel x name) rest := by
  rw [refLoop.eq_def]; simp

theorem refLoop_lbrack_of {n : Nat} {x i : Expr} {rest rest' : List Tok}
    (h : parseBinary n 0 rest = some (i, .sp .rbrack :: rest')) :
    refLoop (n + 1) x (.sp .lbrack :: rest) = refLoop n (.index x i) rest' := by
  rw [refLoop.eq_def]; simp [h]

theorem refLoop_lparen_of {n : Nat} {x : Expr} {args : Args} {rest rest' : List Tok}
    (h : parseArgs n rest = some (args, .sp .rparen :: rest')) :
    refLoop (n + 1) x (.sp .lparen :: rest) = refLoop n (.call x args) rest' := by
  rw [refLoop.eq_def]; simp [h]

theorem parseAtom_id (n : Nat) (s : String) (rest : List Tok) :
    parseAtom (n + 1) (.id s :: rest) = some (.ident s, rest) := by rw [parseAtom.eq_def]

theorem parseAtom_num (n : Nat) (s : String) (rest : List Tok) :
    parseAtom (n + 1) (.num s :: rest) = some (.lit s, rest) := by rw [parseAtom.eq_def]

theorem parseAtom_lparen_of {n : Nat} {rest rest' : List Tok} {x : Expr}
    (h : parseBinary n 0 rest = some (x, .sp .rparen :: rest')) :
    parseAtom (n + 1) (.sp .lparen :: rest) = some (.paren x, rest') := by
  rw [parseAtom.eq_def]; simp [h]

theorem parseAtom_star_of {n : Nat} {rest r : List Tok} {x : Expr} (h : parseReference n rest = some (x, r)) :
    parseAtom (n + 1) (.sp .star :: rest) = some (.star x, r) := by
  rw [parseAtom.eq_def]; simp [h]

theorem parseAtom_amp_of {n : Nat} {rest r : List Tok} {x : Expr} (h : parseReference n rest = some (x, r)) :
    parseAtom (n + 1) (.sp .amp :: rest) = some (.addr x, r) := by
  rw [parseAtom.eq_def]; simp [h]

theorem parseAtom_recv_of {n : Nat} {rest r : List Tok} {x : Expr} (h : parseReference n rest = some (x, r)) :
    parseAtom (n + 1) (.sp .recv :: rest) = some (.recv x, r) := by
  rw [parseAtom.eq_def]; simp [h]

theorem parseArgs_nil (n : Nat) (rest : List Tok) :
    parseArgs (n + 1) (.sp .rparen :: rest) = some (.nil, .sp .rparen :: rest) := by
  rw [parseArgs.eq_def]; simp

theorem parseArgs_other (n : Nat) (t : Tok) (rest : List Tok) (h : t ≠ .sp .rparen) :
    parseArgs (n + 1) (t :: rest) = argLoop n (t :: rest) := by
  rw [parseArgs.eq_def]
  cases t <;> simp_all

theorem argLoop_last {n : Nat} {ts rest : List Tok} {a : Expr}
    (h : parseBinary n 0 ts = some (a, .sp .rparen :: rest)) :
    argLoop (n + 1) ts = some (.cons a .nil, .sp .rparen :: rest) := by
  rw [argLoop.eq_def]; simp [h]

theorem argLoop_more {n : Nat} {ts rest' r : List Tok} {a : Expr} {as : Args} {t : Tok}
    (h : parseBinary n 0 ts = some (a, .sp .comma :: t :: rest')) (ht : t ≠ .sp .rparen)
    (h2 : argLoop n (t :: rest') = some (as, r)) :
    argLoop (n + 1) ts = some (.cons a as, r) := by
  rw [argLoop.eq_def]
  cases t <;> simp_all

theorem firstTok_ne_rparen (e : Expr) : firstTok e ≠ .sp .rparen := by
  intro h
  have := startRank_firstTok e
  rw [h] at this
  exact absurd this (by decide)

theorem firstTok_ref (e : Expr) (hw : WF e) (hr : 7 ≤ rank e) :
    firstTok e ≠ .sp .minus ∧ firstTok e ≠ .sp .bang := by
  have := Nat.le_trans hr (rank_le_startRank e hw)
  constructor <;> intro h <;> rw [h] at this <;> exact absurd this (by decide)

mutual
/-- fuel that suffices to parse the tokens of `e` (each call of a parser function spends one unit) -/
def need : Expr → Nat
  | .ident _ => 2
  | .lit _ => 2
  | .paren x => need x + 6
  | .binary _ x y => need x + need y + 5
  | .unary _ x => need x + 1
  | .star x => need x + 2
  | .addr x => need x + 2
  | .recv x => need x + 2
  | .sel x _ => need x + 1
  | .index x i => need x + need i + 5
  | .call f args => need f + needAL args + 2
def needAL : Args → Nat
  | .nil => 0
  | .cons a rest => need a + needAL rest + 5
end

/- The claims about one expression `e`, one per level of the grammar that can produce it.  `n` is
the fuel given and `k` the fuel that must be left for whatever loop goes on after `e`. -/

def PR (e : Expr) : Prop :=
  8 ≤ rank e → ∀ k n rest, need e + k ≤ n →
    ∃ n', k ≤ n' ∧ parseReference n (toks e ++ rest) = refLoop n' e rest

def RF (e : Expr) : Prop :=
  7 ≤ rank e → ∀ n rest, need e + 1 ≤ n → noSuffix rest →
    parseReference n (toks e ++ rest) = some (e, rest)

def UN (e : Expr) : Prop :=
  6 ≤ rank e → ∀ n rest, need e + 2 ≤ n → noSuffix rest →
    parseUnary n (toks e ++ rest) = some (e, rest)

def BN (e : Expr) : Prop :=
  ∀ m k n rest, m ≤ rank e → need e + 3 + k ≤ n → noSuffix rest → opLt (rank e + 1) rest →
    ∃ n', k ≤ n' ∧ parseBinary n m (toks e ++ rest) = binLoop n' m e rest

structure Good (e : Expr) : Prop where
  pr : PR e
  rf : RF e
  un : UN e
  bn : BN e

theorem full_of_bn {e : Expr} (h : BN e) {m n : Nat} {rest : List Tok} (hm : m ≤ rank e)
    (hn : need e + 4 ≤ n) (hs : noSuffix rest) (ho : opLt m rest) :
    parseBinary n m (toks e ++ rest) = some (e, rest) := by
  obtain ⟨_ | n', hk, hp⟩ := h m 1 n rest hm (by omega) hs (opLt_mono ho (by omega))
  · cases hk
  · rw [hp, binLoop_stop _ _ _ _ ho]

theorem full_of_bn_closed {e : Expr} (h : BN e) {n : Nat} {c : Sp} (rest : List Tok)
    (hc : c = .rparen ∨ c = .rbrack ∨ c = .comma) (hn : need e + 4 ≤ n) :
    parseBinary n 0 (toks e ++ .sp c :: rest) = some (e, .sp c :: rest) := by
  rcases hc with rfl | rfl | rfl <;>
    exact full_of_bn h (Nat.zero_le _) hn ⟨by decide, by decide, by decide⟩ (fun _ h => nomatch h)

theorem rf_of_pr {e : Expr} (h : PR e) (hr : 8 ≤ rank e) : RF e := by
  intro _ n rest hn hs
  obtain ⟨_ | n', hk, hp⟩ := h hr 1 n rest hn
  · cases hk
  · rw [hp, refLoop_stop _ _ _ hs]

theorem un_of_rf {e : Expr} (h : RF e) (hw : WF e) (hr : 7 ≤ rank e) : UN e := by
  intro _ n rest hn hs
  obtain _ | n1 := n
  · cases hn
  obtain ⟨tl, htl⟩ := toks_head e
  have hf := firstTok_ref e hw hr
  have := h hr n1 rest (by omega) hs
  rw [htl, List.cons_append] at this ⊢
  rw [parseUnary_other _ _ _ hf.1 hf.2, this]

theorem bn_of_un {e : Expr} (h : UN e) (hr : 6 ≤ rank e) : BN e := by
  intro m k n rest _ hn hs _
  obtain _ | n1 := n
  · omega
  exact ⟨n1, by omega, parseBinary_of (h hr n1 rest (by omega) hs)⟩

theorem good_of_pr {e : Expr} (hw : WF e) (hr : 8 ≤ rank e) (h : PR e) : Good e :=
  have rf := rf_of_pr h hr
  have un := un_of_rf rf hw (by omega)
  ⟨h, rf, un, bn_of_un un (by omega)⟩

theorem good_of_rf {e : Expr} (hw : WF e) (hr : 7 ≤ rank e) (hlt : rank e < 8) (h : RF e) : Good e :=
  have un := un_of_rf h hw hr
  ⟨fun h8 => by omega, h, un, bn_of_un un (by omega)⟩

theorem good_of_un {e : Expr} (hr : 6 ≤ rank e) (hlt : rank e < 7) (h : UN e) : Good e :=
  ⟨fun _ => by omega, fun _ => by omega, h, bn_of_un h hr⟩

theorem good_of_bn {e : Expr} (hlt : rank e < 6) (h : BN e) : Good e :=
  ⟨fun _ => by omega, fun _ => by omega, fun _ => by omega, h⟩

/-- a name, a literal, `(x)`: one call of `parseAtom`; `c` is the fuel for what is inside -/
theorem pr_atom {e : Expr} {c : Nat} (hn : need e = c + 2)
    (ha : ∀ n rest, c ≤ n → parseAtom (n + 1) (toks e ++ rest) = some (e, rest)) : PR e := by
  intro _ k n rest hle
  obtain _ | _ | n2 := n
  · omega
  · omega
  exact ⟨n2 + 1, by omega, parseReference_of (ha n2 rest (by omega))⟩

/-- `x.name`, `x[i]`, `x(args)`: after `x`, one pass of the suffix loop reads `suf` -/
theorem pr_suffix {x e : Expr} {suf : List Tok} {c : Nat} (hx : PR x) (hr : 8 ≤ rank x)
    (ht : toks e = toks x ++ suf) (hn : need e = need x + c + 1)
    (hs : ∀ n rest, c ≤ n → refLoop (n + 1) x (suf ++ rest) = refLoop n e rest) : PR e := by
  intro _ k n rest hle
  obtain ⟨_ | n2, hk, hp⟩ := hx hr (c + 1 + k) n (suf ++ rest) (by omega)
  · omega
  rw [hs n2 rest (by omega)] at hp
  exact ⟨n2, by omega, by rw [ht, List.append_assoc]; exact hp⟩

/-- `*x`, `&x`, `<-x`: the prefix token, then a reference, and the suffix loop stops at once -/
theorem rf_prefix {x e : Expr} {s : Sp} (hx : RF x) (hr : 7 ≤ rank x) (ht : toks e = .sp s :: toks x)
    (hn : need e = need x + 2)
    (ha : ∀ {n rest r}, parseReference n rest = some (x, r) → parseAtom (n + 1) (.sp s :: rest) = some (e, r)) :
    RF e := by
  intro _ n rest hle hs
  obtain _ | _ | n2 := n
  · omega
  · omega
  rw [ht, List.cons_append, parseReference_of (ha (hx hr n2 rest (by omega) hs)), refLoop_stop _ _ _ hs]

theorem un_unary {op : UnOp} {x : Expr} (hx : UN x) (hr : 6 ≤ rank x) : UN (.unary op x) := by
  intro _ n rest hn hs
  simp only [need] at hn
  obtain _ | n1 := n
  · cases hn
  exact parseUnary_op_of op (hx hr n1 rest (by omega) hs)

theorem bn_binary {op : BinOp} {x y : Expr} (hx : BN x) (hy : BN y) (hrx : op.prec ≤ rank x)
    (hry : op.prec + 1 ≤ rank y) : BN (.binary op x y) := by
  intro m k n rest hm hn hs ho
  simp only [need, rank] at hn hm ho
  obtain ⟨_ | n2, hk, hp⟩ := hx m (need y + 5 + k) n (.sp op.tok :: (toks y ++ rest)) (Nat.le_trans hm hrx)
    (by omega) (noSuffix_op _ _) (opLt_mono (opLt_op op _) (Nat.succ_le_succ hrx))
  · omega
  rw [binLoop_op_of hm (full_of_bn hy (n := n2) hry (by omega) hs ho)] at hp
  exact ⟨n2, by omega, by simpa [toks] using hp⟩

def ALoop (args : Args) : Prop :=
  ∀ a r, args = .cons a r → ∀ n rest, needAL args ≤ n →
    argLoop n (toksArgs true args ++ .sp .rparen :: rest) = some (args, .sp .rparen :: rest)

theorem parseArgs_of_aloop {args : Args} (h : ALoop args) (n : Nat) (rest : List Tok) (hn : needAL args + 1 ≤ n) :
    parseArgs n (toksArgs true args ++ .sp .rparen :: rest) = some (args, .sp .rparen :: rest) := by
  obtain _ | n1 := n
  · cases hn
  cases args with
  | nil => simpa [toksArgs] using parseArgs_nil n1 rest
  | cons a r =>
    have := h a r rfl n1 rest (by omega)
    obtain ⟨tl, htl⟩ := toks_head a
    simp only [toksArgs, if_true, htl, List.cons_append] at this ⊢
    rw [parseArgs_other _ _ _ (firstTok_ne_rparen a)]
    exact this

theorem aloop_last {a : Expr} (ha : BN a) : ALoop (.cons a .nil) := by
  intro _ _ _ n rest hn
  simp only [needAL] at hn
  obtain _ | n1 := n
  · cases hn
  simpa [toksArgs] using argLoop_last (full_of_bn_closed ha (n := n1) rest (.inl rfl) (by omega))

theorem aloop_more {a b : Expr} {r : Args} (ha : BN a) (ih : ALoop (.cons b r)) :
    ALoop (.cons a (.cons b r)) := by
  intro _ _ _ n rest hn
  simp only [needAL] at hn
  obtain _ | n1 := n
  · cases hn
  have h2 := ih b r rfl n1 rest (by simp only [needAL]; omega)
  obtain ⟨tl, htl⟩ := toks_head b
  have hb := full_of_bn_closed ha (n := n1) (toksArgs true (.cons b r) ++ .sp .rparen :: rest)
    (.inr (.inr rfl)) (by omega)
  simp only [toksArgs, if_true, htl, List.cons_append, List.append_assoc] at h2 hb
  simpa [toksArgs, htl] using argLoop_more hb (firstTok_ne_rparen b) h2

mutual
theorem good : ∀ e : Expr, WF e → Good e
  | .ident s, hw => good_of_pr hw (Nat.le_refl 8) (pr_atom (c := 0) rfl fun n rest _ => parseAtom_id n s rest)
  | .lit s, hw => good_of_pr hw (Nat.le_refl 8) (pr_atom (c := 0) rfl fun n rest _ => parseAtom_num n s rest)
  | .paren x, hw => good_of_pr hw (Nat.le_refl 8) <| pr_atom (c := need x + 4) rfl fun n rest hn => by
      simpa [toks] using parseAtom_lparen_of (full_of_bn_closed (good x hw).bn rest (.inl rfl) hn)
  | .binary op x y, hw => good_of_bn (Nat.lt_succ_of_le op.prec_le)
      (bn_binary (good x hw.2.2.1).bn (good y hw.2.2.2).bn hw.1 hw.2.1)
  | .unary op x, hw => good_of_un (Nat.le_refl 6) (Nat.le_refl 7) (un_unary (good x hw.2).un hw.1)
  | .star x, hw =>
    good_of_rf hw (Nat.le_refl 7) (Nat.le_refl 8) (rf_prefix (good x hw.2).rf hw.1 rfl rfl parseAtom_star_of)
  | .addr x, hw =>
    good_of_rf hw (Nat.le_refl 7) (Nat.le_refl 8) (rf_prefix (good x hw.2).rf hw.1 rfl rfl parseAtom_amp_of)
  | .recv x, hw =>
    good_of_rf hw (Nat.le_refl 7) (Nat.le_refl 8) (rf_prefix (good x hw.2).rf hw.1 rfl rfl parseAtom_recv_of)
  | .sel x name, hw => good_of_pr hw (Nat.le_refl 8) <|
      pr_suffix (c := 0) (good x hw.2).pr hw.1 rfl rfl fun n rest _ => refLoop_dot n x name rest
  | .index x i, hw => good_of_pr hw (Nat.le_refl 8) <|
      pr_suffix (c := need i + 4) (good x hw.2.1).pr hw.1 rfl rfl fun n rest hn => by
        simpa using refLoop_lbrack_of (full_of_bn_closed (good i hw.2.2).bn rest (.inr (.inl rfl)) hn)
  | .call f args, hw => good_of_pr hw (Nat.le_refl 8) <|
      pr_suffix (c := needAL args + 1) (good f hw.2.1).pr hw.1 rfl rfl fun n rest hn => by
        simpa using refLoop_lparen_of (parseArgs_of_aloop (goodArgs args hw.2.2) n rest hn)

theorem goodArgs : ∀ args : Args, WFArgs args → ALoop args
  | .nil, _ => nofun
  | .cons a .nil, hw => aloop_last (good a hw.1).bn
  | .cons a (.cons b r), hw => aloop_more (good a hw.1).bn (goodArgs (.cons b r) hw.2)
end

end EgoVerif.C05
