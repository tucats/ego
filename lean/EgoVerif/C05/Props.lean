import EgoVerif.C05.ParseMain
import EgoVerif.C05.WFB
/-
C05 — property theorems.  Fragment: Ident, BasicLit(int), ParenExpr, BinaryExpr (the 18 operators of
`binaryPrecedence`), UnaryExpr (- !), StarExpr, AddrExpr, RecvExpr, SelectorExpr, IndexExpr, CallExpr.
`WF e` is the shape of parser output (operands bind at least as tightly as their position needs);
`C05_parse_wf_statement` (every parser result is WF) is stated, not proved — it is tied by the `wf`
correspondence lines on every AST the real parser returns.
-/
namespace EgoVerif.C05

theorem lenArgs_le (args : Args) : (toksArgs false args).length ≤ (toksArgs true args).length + 1 := by
  cases args <;> simp [toksArgs]

mutual
theorem need_bound : ∀ e : Expr, need e + 1 ≤ 4 * (toks e).length
  | .ident _ | .lit _ => by simp [need, toks]
  | .paren x | .unary _ x | .star x | .addr x | .recv x | .sel x _ => by
    have := need_bound x
    simp only [need, toks, List.length_cons, List.length_append]; omega
  | .binary _ x y | .index x y => by
    have := need_bound x; have := need_bound y
    simp only [need, toks, List.length_cons, List.length_append]; omega
  | .call f args => by
    have := need_bound f; have := needAL_bound args; have := lenArgs_le args
    simp only [need, toks, List.length_cons, List.length_append]; omega
theorem needAL_bound : ∀ args : Args, needAL args ≤ 4 * (toksArgs false args).length
  | .nil => Nat.zero_le _
  | .cons a rest => by
    have := need_bound a; have := needAL_bound rest
    simp only [needAL, toksArgs, Bool.false_eq_true, if_false, List.length_cons, List.length_append]; omega
end

theorem need_le_fuel (e : Expr) : need e + 4 ≤ fuelFor (toks e) := by
  have := need_bound e; unfold fuelFor; omega

/-- the parser model reads the intended tokens of a well-formed expression back as that expression -/
theorem C05_parse_toks (e : Expr) (h : WF e) : parseExpr (toks e) = some e := by
  have := full_of_bn (good e h).bn (m := 0) (n := fuelFor (toks e)) (rest := []) (Nat.zero_le _)
    (need_le_fuel e) trivial trivial
  simp only [List.append_nil] at this
  simp [parseExpr, this]

/-- MAIN: printing a well-formed expression, tokenizing the text (crush step) and parsing it gives the
expression back — for ALL expressions of the fragment.  So the formatted text has the same tokens
(parentheses are `paren` nodes and are preserved) and the same structure. -/
theorem C05_expr_roundtrip (e : Expr) (h : WF e) : parseExpr (lexTokens (printExpr e)) = some e := by
  rw [C05_lex_print e h, C05_parse_toks e h]

/-- formatting is idempotent on well-formed expressions: format ∘ parse ∘ lex is the identity on formatted text -/
theorem C05_idempotent (e : Expr) (h : WF e) :
    (parseExpr (lexTokens (printExpr e))).map printExpr = some (printExpr e) := by
  rw [C05_expr_roundtrip e h]; rfl

/-- the parser only builds well-formed trees (stated; tied by correspondence, see header) -/
def C05_parse_wf_statement : Prop := ∀ ts e, parseExpr ts = some e → WF e

/-- the `wf` answer of the driver is exactly `WF` -/
theorem C05_wf_executable (e : Expr) : wfB e = true ↔ WF e := wfB_iff e

/-- the code BEFORE the fix: `- -5` is printed `--5`, which lexes as the decrement token and does not parse -/
theorem C05_unfixed_counterexample :
    WF (.unary .neg (.unary .neg (.lit "5"))) ∧
    lexTokens (ppOld false (.unary .neg (.unary .neg (.lit "5")))) = [.sp .dec, .num "5"] ∧
    parseExpr (lexTokens (ppOld false (.unary .neg (.unary .neg (.lit "5"))))) = none := by
  refine ⟨by simp [WF, rank], by decide, by decide⟩

/-- likewise `& &x` is printed `&&x` (the compiler accepts `& &x`) -/
theorem C05_unfixed_addr_counterexample :
    WF (.addr (.addr (.ident "x"))) ∧
    lexTokens (ppOld false (.addr (.addr (.ident "x")))) = [.sp .andand, .id "x"] ∧
    parseExpr (lexTokens (ppOld false (.addr (.addr (.ident "x"))))) = none := by
  refine ⟨by simp [WF, rank], by decide, by decide⟩

/- outside these two shapes the old printer and the fixed one agree piece for piece (`_partial`):
an expression without `-` directly under `-` and without `&` directly under `&`. -/
mutual
def plain : Expr → Bool
  | .ident _ => true
  | .lit _ => true
  | .paren x => plain x
  | .binary _ x y => plain x && plain y
  | .unary op x => !(op == .neg && x.isNeg) && plain x
  | .star x => plain x
  | .addr x => !x.isAddr && plain x
  | .recv x => plain x
  | .sel x _ => plain x
  | .index x i => plain x && plain i
  | .call f args => plain f && plainArgs args
def plainArgs : Args → Bool
  | .nil => true
  | .cons a rest => plain a && plainArgs rest
end

mutual
theorem ppOld_eq : ∀ (e : Expr) (g : Bool), plain e = true → ppOld g e = pp g e
  | .ident _, _, _ | .lit _, _, _ => rfl
  | .paren x, g, h | .star x, g, h | .recv x, g, h => by
    simp only [plain] at h; simp only [ppOld, pp, ppOld_eq x true h]
  | .binary _ x y, g, h => by
    simp [plain] at h; simp only [ppOld, pp, ppOld_eq x g h.1, ppOld_eq y false h.2]
  | .unary _ x, g, h | .addr x, g, h => by
    simp only [plain, Bool.and_eq_true] at h
    simp only [ppOld, pp, h.1, ppOld_eq x true h.2]
  | .sel x _, g, h => by simp only [plain] at h; simp only [ppOld, pp, ppOld_eq x g h]
  | .index x i, g, h => by
    simp [plain] at h; simp only [ppOld, pp, ppOld_eq x g h.1, ppOld_eq i true h.2]
  | .call f args, g, h => by
    simp [plain] at h; simp only [ppOld, pp, ppOld_eq f g h.1, ppArgsOld_eq args true h.2]
theorem ppArgsOld_eq : ∀ (as : Args) (first : Bool), plainArgs as = true → ppArgsOld first as = ppArgs first as
  | .nil, _, _ => rfl
  | .cons a rest, first, h => by
    simp [plainArgs] at h
    simp [ppArgsOld, ppArgs, ppOld_eq a true h.1, ppOld_eq a false h.1, ppArgsOld_eq rest false h.2]
end

/-- the UNFIXED printer already round-trips every well-formed expression that has no `- -` and no `& &` -/
theorem C05_unfixed_partial (e : Expr) (h : WF e) (hp : plain e = true) :
    parseExpr (lexTokens (ppOld false e)) = some e := by
  rw [ppOld_eq e false hp]; exact C05_expr_roundtrip e h

/- non-vacuity: hypotheses are met by non-trivial instances -/
example : WF (.binary .add (.ident "a") (.binary .mul (.unary .neg (.unary .neg (.lit "5"))) (.paren (.binary .sub (.ident "b") (.ident "c"))))) := by
  simp [WF, rank, BinOp.prec]
example : WF (.call (.sel (.index (.ident "a") (.lit "1")) "f") (.cons (.addr (.addr (.ident "x"))) (.cons (.lit "2") .nil))) := by
  simp [WF, WFArgs, rank]
example : plain (.binary .lt (.ident "a") (.unary .neg (.ident "b"))) = true := by decide
example : ¬ WF (.binary .mul (.binary .add (.ident "a") (.ident "b")) (.ident "c")) := by
  simp [WF, rank, BinOp.prec]

end EgoVerif.C05
