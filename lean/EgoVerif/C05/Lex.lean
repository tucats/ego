import EgoVerif.C05.Parser
/-
C05 — what the round trip is stated over: `rank` and `WF` (the shape of parser output), `toks` (the
tokens the printer means), and the facts about single tokens that both halves of the proof use:
which token an expression of a given rank can start with, and after which tokens no crush happens.
-/
namespace EgoVerif.C05

/-- binding strength of the outermost constructor: binary = its precedence (1‥5), prefix "-" "!" = 6,
prefix atoms "*" "&" "<-" = 7, everything the suffix loop can extend = 8 -/
def rank : Expr → Nat
  | .binary op _ _ => op.prec
  | .unary _ _ => 6
  | .star _ => 7
  | .addr _ => 7
  | .recv _ => 7
  | _ => 8

theorem BinOp.prec_le (op : BinOp) : op.prec ≤ 5 := by cases op <;> decide

mutual
/-- the shape of every AST the parser builds (`C05_parse_wf_statement`): operands bind at least as tightly as
their position requires — otherwise the printed text (which adds no parentheses) reads differently -/
def WF : Expr → Prop
  | .ident _ => True
  | .lit _ => True
  | .paren x => WF x
  | .binary op x y => op.prec ≤ rank x ∧ op.prec + 1 ≤ rank y ∧ WF x ∧ WF y
  | .unary _ x => 6 ≤ rank x ∧ WF x
  | .star x => 7 ≤ rank x ∧ WF x
  | .addr x => 7 ≤ rank x ∧ WF x
  | .recv x => 7 ≤ rank x ∧ WF x
  | .sel x _ => 8 ≤ rank x ∧ WF x
  | .index x i => 8 ≤ rank x ∧ WF x ∧ WF i
  | .call f args => 8 ≤ rank f ∧ WF f ∧ WFArgs args
def WFArgs : Args → Prop
  | .nil => True
  | .cons a rest => WF a ∧ WFArgs rest
end

mutual
def toks : Expr → List Tok
  | .ident s => [.id s]
  | .lit s => [.num s]
  | .paren x => .sp .lparen :: (toks x ++ [.sp .rparen])
  | .binary op x y => toks x ++ (.sp op.tok :: toks y)
  | .unary op x => .sp op.tok :: toks x
  | .star x => .sp .star :: toks x
  | .addr x => .sp .amp :: toks x
  | .recv x => .sp .recv :: toks x
  | .sel x name => toks x ++ [.sp .dot, .id name]
  | .index x i => toks x ++ (.sp .lbrack :: (toks i ++ [.sp .rbrack]))
  | .call f args => toks f ++ (.sp .lparen :: (toksArgs true args ++ [.sp .rparen]))
def toksArgs (first : Bool) : Args → List Tok
  | .nil => []
  | .cons a rest => (if first then toks a else .sp .comma :: toks a) ++ toksArgs false rest
end

def firstTok : Expr → Tok
  | .ident s => .id s
  | .lit s => .num s
  | .paren _ => .sp .lparen
  | .binary _ x _ => firstTok x
  | .unary op _ => .sp op.tok
  | .star _ => .sp .star
  | .addr _ => .sp .amp
  | .recv _ => .sp .recv
  | .sel x _ => firstTok x
  | .index x _ => firstTok x
  | .call f _ => firstTok f

theorem toks_head : ∀ e : Expr, ∃ tl, toks e = firstTok e :: tl
  | .ident _ | .lit _ => ⟨[], rfl⟩
  | .paren _ | .unary _ _ | .star _ | .addr _ | .recv _ => ⟨_, rfl⟩
  | .binary _ x _ | .sel x _ | .index x _ | .call x _ => by
    obtain ⟨tl, h⟩ := toks_head x
    simp [toks, firstTok, h]

/-- the tightest position (in the sense of `rank`) at which a token can open an expression: a name, a
literal or "(" opens a primary expression, `* & <-` a prefix atom, `- !` a unary operand; no other
token opens an expression -/
def startRank : Tok → Nat
  | .id _ | .num _ | .sp .lparen => 8
  | .sp .star | .sp .amp | .sp .recv => 7
  | .sp .minus | .sp .bang => 6
  | _ => 0

theorem startRank_firstTok : ∀ e : Expr, 6 ≤ startRank (firstTok e)
  | .ident _ | .lit _ | .paren _ | .star _ | .addr _ | .recv _ => by simp [firstTok, startRank]
  | .unary .neg _ | .unary .not _ => by simp [firstTok, startRank, UnOp.tok]
  | .binary _ x _ | .sel x _ | .index x _ | .call x _ => startRank_firstTok x

theorem rank_le_startRank : ∀ e : Expr, WF e → rank e ≤ startRank (firstTok e)
  | .ident _, _ | .lit _, _ | .paren _, _ | .star _, _ | .addr _, _ | .recv _, _ => by
    simp [firstTok, startRank, rank]
  | .unary .neg _, _ | .unary .not _, _ => by simp [firstTok, startRank, rank, UnOp.tok]
  | .binary _ x _, hw => Nat.le_trans hw.1 (rank_le_startRank x hw.2.2.1)
  | .sel x _, hw => Nat.le_trans hw.1 (rank_le_startRank x hw.2)
  | .index x _, hw => Nat.le_trans hw.1 (rank_le_startRank x hw.2.1)
  | .call f _, hw => Nat.le_trans hw.1 (rank_le_startRank f hw.2.1)

/-- a token after which no crush can happen -/
def quietTok (t : Tok) : Prop := ∀ a, t = .sp a → ∀ b g, crushLookup a b g = none

def headQuiet : List Tok → Prop
  | [] => True
  | t :: _ => quietTok t

/-- what `lexStep` needs to simply push the new token -/
def safeAcc (acc : List Tok) (g : Bool) (tk : Tok) : Prop :=
  ∀ a rest b, acc = .sp a :: rest → tk = .sp b → crushLookup a b g = none

theorem lexStep_push (acc : List Tok) (p : Piece) (h : safeAcc acc p.glued p.tok) :
    lexStep acc p = p.tok :: acc := by
  unfold lexStep
  split
  · rename_i a rest b hb
    have := h a rest b rfl hb
    simp [this]
  · rfl

theorem safeAcc_of_headQuiet {acc : List Tok} (h : headQuiet acc) (g : Bool) (tk : Tok) :
    safeAcc acc g tk := by
  intro a rest b hacc _
  subst hacc
  exact h a rfl b g

theorem lexStep_hq {acc : List Tok} (hq : headQuiet acc) (g : Bool) (tk : Tok) :
    lexStep acc ⟨g, tk⟩ = tk :: acc :=
  lexStep_push _ _ (safeAcc_of_headQuiet hq _ _)

/-- the special tokens that are the first half of no `crushedTokens` entry -/
def quietSp : Sp → Bool
  | .plus | .minus | .star | .slash | .lbrace | .lt | .gt | .assign | .bang | .colon | .amp | .bar => false
  | _ => true

theorem quiet_sp {a : Sp} (h : quietSp a = true) : quietTok (.sp a) := by
  intro a' ha b g
  cases ha
  -- every row of the table has a first token outside `quietSp`
  unfold crushLookup
  split <;> first | rfl | cases h

theorem quiet_id (s : String) : quietTok (.id s) := by intro a h; cases h
theorem quiet_num (s : String) : quietTok (.num s) := by intro a h; cases h

/-- the printed tokens of an expression end in a name, a literal, ")" or "]" -/
theorem headQuiet_after : ∀ (e : Expr) (acc : List Tok), headQuiet ((toks e).reverse ++ acc)
  | .ident s, _ => quiet_id s
  | .lit s, _ => quiet_num s
  | .sel _ name, _ => by simpa [toks, headQuiet] using quiet_id name
  | .paren _, _ | .call _ _, _ => by simpa [toks, headQuiet] using quiet_sp (a := .rparen) rfl
  | .index _ _, _ => by simpa [toks, headQuiet] using quiet_sp (a := .rbrack) rfl
  | .unary _ x, _ | .star x, _ | .addr x, _ | .recv x, _ => by
    rw [toks, List.reverse_cons, List.append_assoc]
    exact headQuiet_after x _
  | .binary op x y, acc => by simpa [toks] using headQuiet_after y (.sp op.tok :: ((toks x).reverse ++ acc))

end EgoVerif.C05
