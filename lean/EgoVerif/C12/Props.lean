import EgoVerif.C12.Model
/-!
C12 — theorems.  `C12_noninterference_partial`: for EVERY program, start state, `printSafe` flag
combination, command stream without `exit`, and step count, the observable projection of
the diagnosed run equals the plain run from the projected state.  Proof: a one-step simulation
lemma (`C12_step_proj`: hooks write only `Diag` fields and trace chunks) + induction on the step count.
-/
namespace EgoVerif.C12

theorem projOut_append (a b : List Chunk) : projOut (a ++ b) = projOut a ++ projOut b := by
  simp [projOut]

@[simp] theorem projOut_trace (a : List Chunk) : projOut (a ++ [.trace]) = projOut a := by
  simp [projOut]

@[simp] theorem projOut_prog (a : List Chunk) (s : String) :
    projOut (a ++ [.prog s]) = projOut a ++ [.prog s] := by
  simp [projOut]

@[simp] theorem projOut_traceIf (b : Bool) (a : List Chunk) : projOut (traceIf b a) = projOut a := by
  cases b <;> simp [traceIf]

@[simp] theorem traceIf_false (a : List Chunk) : traceIf false a = a := rfl

@[simp] theorem projOut_idem (a : List Chunk) : projOut (projOut a) = projOut a := by
  simp [projOut]

/-- the only instruction whose core effect depends on a diagnostic flag is Print when tracing with
    uncaptured output -/
def printSafe (fl : Flags) (prog : List Op) : Prop :=
  (!fl.captured && fl.tracing) = true → hasPrint prog = false

theorem print_untraced {fl : Flags} {prog : List Op} (h : printSafe fl prog) {i : Nat} {op : Op}
    (hop : prog[i]? = some op) (hp : op = .print) : (!fl.captured && fl.tracing) = false := by
  cases hf : (!fl.captured && fl.tracing) with
  | false => rfl
  | true =>
    have := h hf
    simp [hasPrint] at this
    exact absurd hp (this _ (List.mem_of_getElem? hop))

def projC (c : Core) : Core := { c with out := projOut c.out }

theorem handleCatch_projC (c : Core) (e : Err) : projC (handleCatch c e) = handleCatch (projC c) e := by
  unfold handleCatch projC
  cases findTry c.tryStack with
  | none => simp
  | some p =>
    obtain ⟨addr, below⟩ := p
    cases unwind c.stack <;> simp

/-- the error the plain run sees where the diagnosed run sees `e`: the same one, except that the
debugger's own signal is never raised there -/
def plainErr : Option Err → Option Err
  | some .signal => none
  | e => e

/-- what one instruction does under diagnostics, `r`, against what it does in the plain run, `r'` -/
def Sim (r r' : State × Option Err) : Prop :=
  projC r.1.core = r'.1.core ∧ r'.2 = plainErr r.2

theorem arith_sim (f : Int → Int → Option Int) (c : Core) :
    projC (arith f c).1 = (arith f (projC c)).1 ∧
      (arith f (projC c)).2 = plainErr (arith f c).2 := by
  obtain ⟨pc, stack, syms, out, ts, line, status⟩ := c
  match stack with
  | [] | [_] => simp [arith, projC, plainErr]
  | .int y :: .int x :: rest => cases h : f x y <;> simp [arith, projC, plainErr, h]
  | .mark :: _ :: rest | .int _ :: .mark :: rest => simp [arith, projC, plainErr]

theorem atLine_sim (fl : Flags) (l : Nat) (s : State) (d' : Diag) :
    Sim (atLine fl l s) (atLine fl.plain l ⟨projC s.core, d'⟩) := by
  obtain ⟨c, d⟩ := s
  by_cases h : l ≠ 0 ∧ fl.debugging = true <;> simp [Sim, plainErr, atLine, Flags.plain, h, projC]

theorem exec_sim (fl : Flags) (op : Op) (hpr : op = .print → (!fl.captured && fl.tracing) = false)
    (s : State) (d' : Diag) : Sim (exec fl op s) (exec fl.plain op ⟨projC s.core, d'⟩) := by
  obtain ⟨⟨pc, stack, syms, out, ts, line, status⟩, d⟩ := s
  cases op with
  | atLine l => exact atLine_sim fl l _ d'
  | add => exact arith_sim (fun x y => some (x + y)) _
  | sub => exact arith_sim (fun x y => some (x - y)) _
  | div => exact arith_sim (fun x y => if y = 0 then none else some (Int.tdiv x y)) _
  | store x => rcases stack with _ | ⟨_ | _, _⟩ <;> simp [Sim, plainErr, exec, projC]
  | load x =>
    simp only [Sim, plainErr, exec, projC]
    cases lookup x syms <;> simp
  | print => rcases stack with _ | ⟨_ | _, _⟩ <;> simp [Sim, plainErr, exec, projC, hpr rfl, Flags.plain]
  | tryPop => cases ts <;> simp [Sim, plainErr, exec, projC]
  | _ => simp [Sim, plainErr, exec, projC]

theorem debuggerStop_core (cmds : Nat → Cmd) (hc : ∀ i, cmds i ≠ .exit) (s : State) :
    (debuggerStop cmds s).core = s.core := by
  unfold debuggerStop
  split
  · have := hc s.diag.cmdIdx
    cases h : cmds s.diag.cmdIdx <;> simp_all
  · rfl

/-- with the fix the debugger's signal is never caught, the stop at the prompt leaves the core
alone, and every other error is caught the same way on both sides -/
theorem afterExec_sim (cmds cmds' : Nat → Cmd) (hc : ∀ i, cmds i ≠ .exit) {r r' : State × Option Err}
    (h : Sim r r') : projC (afterExec fixed cmds r).core = (afterExec fixed cmds' r').core := by
  obtain ⟨s, e⟩ := r
  obtain ⟨s', e'⟩ := r'
  obtain ⟨h1, h2⟩ := h
  cases h2
  cases e with
  | none => exact h1
  | some e =>
    cases e
    case signal => simpa [afterExec, fixed, debuggerStop_core cmds hc] using h1
    all_goals exact (handleCatch_projC _ _).trans (congrArg (handleCatch · _) h1)

/-- one step: every hook writes only `Diag` fields and TRACE chunks -/
theorem C12_step_proj (fl : Flags) (cmds cmds' : Nat → Cmd) (hc : ∀ i, cmds i ≠ .exit) (prog : List Op)
    (hp : printSafe fl prog) (s : State) (d' : Diag) :
    proj (step fixed fl cmds prog s) = (step fixed fl.plain cmds' prog ⟨proj s, d'⟩).core := by
  unfold step
  cases hst : s.core.status with
  | some st => simp [proj, hst]
  | none =>
    simp only [show (proj s).status = none from hst, show (proj s).pc = s.core.pc from rfl]
    cases hop : prog[s.core.pc]? with
    | none => simp [proj]
    | some op =>
      have ha : projC (advance fl s.core) = advance fl.plain (proj s) := by simp [advance, projC, proj, Flags.plain]
      simp only [dispatch]
      split
      · exact ha
      · rw [← ha]; rfl
      · exact ha ▸ afterExec_sim cmds cmds' hc (exec_sim fl op (print_untraced hp hop) _ d')

/-- MAIN THEOREM (excluded class explicit: `printSafe`).  For every program, start state, flag
    combination, command stream that never says `exit`, and number of loop iterations. -/
theorem C12_noninterference_partial (fl : Flags) (cmds cmds' : Nat → Cmd) (hc : ∀ i, cmds i ≠ .exit)
    (prog : List Op) (hp : printSafe fl prog) (s : State) (d' : Diag) (n : Nat) :
    proj (run fixed fl cmds prog s n) = (run fixed fl.plain cmds' prog ⟨proj s, d'⟩ n).core := by
  induction n generalizing s d' with
  | zero => rfl
  | succ n ih =>
    simp only [run]
    have h1 := C12_step_proj fl cmds cmds' hc prog hp s d'
    have := ih (step fixed fl cmds prog s) (step fixed fl.plain cmds' prog ⟨proj s, d'⟩).diag
    rw [this, h1]

/-- Full strength whenever the Print formatting aid cannot fire: profiling, debugging with any
    `continue`/`step` stream, and tracing with captured output — for ALL programs. -/
theorem C12_noninterference (fl : Flags) (hf : fl.tracing = true → fl.captured = true)
    (cmds cmds' : Nat → Cmd) (hc : ∀ i, cmds i ≠ .exit) (prog : List Op) (s : State) (d' : Diag) (n : Nat) :
    proj (run fixed fl cmds prog s n) = (run fixed fl.plain cmds' prog ⟨proj s, d'⟩ n).core := by
  apply C12_noninterference_partial fl cmds cmds' hc prog _ s d' n
  intro h
  cases ht : fl.tracing <;> simp_all

/-- the outcome (final error class) in particular -/
theorem C12_same_outcome (fl : Flags) (hf : fl.tracing = true → fl.captured = true)
    (cmds : Nat → Cmd) (hc : ∀ i, cmds i ≠ .exit) (prog : List Op) (n : Nat) :
    (run fixed fl cmds prog (initState fl) n).core.status
      = (run fixed fl.plain cmds prog (initState fl.plain) n).core.status := by
  have := C12_noninterference fl hf cmds cmds hc prog (initState fl) (initState fl.plain).diag n
  exact (congrArg Core.status this :)

theorem run_plain_trace_free (fl : Flags) (cmds : Nat → Cmd) (prog : List Op) (s : State) (n : Nat) :
    proj (run fixed fl.plain cmds prog ⟨proj s, s.diag⟩ n) = (run fixed fl.plain cmds prog ⟨proj s, s.diag⟩ n).core := by
  -- the plain run raises no signal, so it never reads `cmds`: its core is the projection of the plain run
  -- under a stream without `exit`, and a projection is its own projection
  have h : proj (run fixed fl.plain (fun _ => .cont) prog ⟨proj s, s.diag⟩ n)
      = (run fixed fl.plain cmds prog ⟨proj s, s.diag⟩ n).core := by
    have := C12_noninterference_partial fl.plain (fun _ => .cont) cmds (fun _ => Cmd.noConfusion) prog
      (by intro h; simp [Flags.plain] at h) ⟨proj s, s.diag⟩ s.diag n
    rwa [show proj ⟨proj s, s.diag⟩ = proj s by simp [proj]] at this
  rw [proj, ← h]
  simp [proj]

/-- the plain run never writes a TRACE chunk: its output is already its own projection -/
theorem C12_plain_step_trace_free (fl : Flags) (cmds : Nat → Cmd) (hc : ∀ i, cmds i ≠ .exit) (prog : List Op)
    (s : State) (n : Nat) :
    proj (run fixed fl.plain cmds prog ⟨proj s, s.diag⟩ n) = (run fixed fl.plain cmds prog ⟨proj s, s.diag⟩ n).core :=
  run_plain_trace_free fl cmds prog s n

/-! ### the code BEFORE fixes/C12.patch violates the property -/

def always (c : Cmd) : Nat → Cmd := fun _ => c
def dbg : Flags := { tracing := false, profiling := false, debugging := true, captured := true }
def trc : Flags := { tracing := true, profiling := false, debugging := false, captured := false }

/-- `try { <line 1> stop } catch { print 7 }`: under the debugger the unpatched handleCatch catches the
    debugger's own signal and runs the catch block -/
def witnessTry : List Op := [.try_ 4, .pushMark, .atLine 1, .stop, .push 7, .print]

theorem C12_unfixed_counterexample :
    (proj (run unfixed dbg (always .cont) witnessTry (initState dbg) 10)).out.length = 1
    ∧ (run unfixed dbg.plain (always .cont) witnessTry (initState dbg.plain) 10).core.out.length = 0 := by
  decide

/-- with the patch the same witness agrees (instance of the main theorem, checked by evaluation too) -/
example : (proj (run fixed dbg (always .cont) witnessTry (initState dbg) 10)).out.length = 0 := by decide

/-- known finding `trace-print-newline`: tracing with uncaptured output makes Print add a newline -/
theorem C12_trace_print_counterexample :
    (proj (run fixed trc (always .cont) [.push 1, .print] (initState trc) 5)).out.length = 2
    ∧ (run fixed trc.plain (always .cont) [.push 1, .print] (initState trc.plain) 5).core.out.length = 1 := by
  decide

/-! ### non-vacuity: the hypotheses are met by non-trivial instances -/
example : ∀ i, always Cmd.cont i ≠ .exit := by intro i; simp [always]
example : printSafe dbg witnessTry := by intro h; simp [dbg] at h
example : printSafe trc [.push 1, .atLine 3, .store 0] := by intro _; decide
example : dbg.tracing = true → dbg.captured = true := by decide
/-- the debugger really is consulted (one prompt, one command consumed) and tracing really writes -/
example : (run fixed dbg (always .cont) witnessTry (initState dbg) 10).diag.prompts = 1 := by decide
example : (run fixed { trc with captured := true } (always .cont) witnessTry
    (initState trc) 10).core.out.length = 5 := by decide

/-- the declared write-set of the hook code, as extracted on the tree the model was written against -/
def declaredWrites : List (Field × How) :=
  [(.output, .call "Write"), (.lastLine, .assign), (.profileSlot, .assign), (.profileStart, .assign),
   (.bcProfile, .assign), (.singleStep, .assign), (.stepOver, .assign), (.captureBuffer, .call "Reset"),
   (.sessionLine, .assign)]
theorem C12_declared_writes_allowed : writesAllowed declaredWrites = true := by decide
/-- a hook that starts writing the stack / pc / symbols is rejected -/
example : writesAllowed [(.programCounter, .assign)] = false := by decide
example : writesAllowed [(.symbols, .call "SetAlways")] = false := by decide
example : writesAllowed [(.stack, .assign)] = false := by decide

end EgoVerif.C12
