import EgoVerif.C32.Model
/-
Properties of `FindRoute` (with fixes/C32.patch).  The route table is a Go map, visited by `for … range m.routes`
in an arbitrary order; the model takes it as a list in visiting order, so "the answer never depends on
registration or iteration order" is: `findRoute` is invariant under EVERY permutation of the list
(`C32_perm_invariant`).  "Most specific" is `C32_fewest_vars`.
-/
namespace EgoVerif.C32

theorem strLe_iff (a b : Str) : strLe a b = true ↔ a ≤ b := by
  induction a generalizing b with
  | nil => simp [strLe]
  | cons x xs ih =>
    cases b with
    | nil => simp [strLe]
    | cons y ys =>
      rw [strLe, List.cons_le_cons_iff, ← ih]
      rcases Nat.lt_trichotomy x y with h | rfl | h
      · simp [h]
      · simp
      · simp [Nat.lt_asymm h, Nat.ne_of_gt h, h]

theorem strLe_refl (a : Str) : strLe a a = true := (strLe_iff a a).2 (List.le_refl a)

theorem methodLe_iff {a b : Str} :
    methodLe a b = true ↔ b = anyMethod ∨ a ≠ anyMethod ∧ a ≤ b := by
  simp [methodLe, strLe_iff]

theorem methodLe_total (a b : Str) : methodLe a b = true ∨ methodLe b a = true := by
  rw [methodLe_iff, methodLe_iff]
  by_cases hb : b = anyMethod
  · exact .inl (.inl hb)
  · by_cases ha : a = anyMethod
    · exact .inr (.inl ha)
    · exact (List.le_total a b).imp (fun h => .inr ⟨ha, h⟩) fun h => .inr ⟨hb, h⟩

theorem methodLe_antisymm (a b : Str) (h1 : methodLe a b = true) (h2 : methodLe b a = true) : a = b := by
  rcases methodLe_iff.1 h1 with rfl | ⟨ha, s1⟩ <;> rcases methodLe_iff.1 h2 with rfl | ⟨hb, s2⟩
  · rfl
  · exact absurd rfl hb
  · exact absurd rfl ha
  · exact List.le_antisymm s1 s2

theorem methodLe_trans (a b c : Str) (h1 : methodLe a b = true) (h2 : methodLe b c = true) :
    methodLe a c = true := by
  rcases methodLe_iff.1 h2 with hc | ⟨hb, s2⟩
  · exact methodLe_iff.2 (.inl hc)
  · rcases methodLe_iff.1 h1 with rfl | ⟨ha, s1⟩
    · exact absurd rfl hb
    · exact methodLe_iff.2 (.inr ⟨ha, List.le_trans s1 s2⟩)

theorem routeLe_iff {a b : Route} :
    routeLe a b = true ↔ a.endpoint = b.endpoint ∧ methodLe a.method b.method = true ∨
      a.endpoint ≠ b.endpoint ∧ a.endpoint ≤ b.endpoint := by
  unfold routeLe
  split <;> simp_all [strLe_iff]

theorem routeLe_total (a b : Route) : (routeLe a b || routeLe b a) = true := by
  rw [Bool.or_eq_true, routeLe_iff, routeLe_iff]
  by_cases h : a.endpoint = b.endpoint
  · exact (methodLe_total a.method b.method).imp (fun m => .inl ⟨h, m⟩) fun m => .inl ⟨h.symm, m⟩
  · exact (List.le_total a.endpoint b.endpoint).imp (fun m => .inr ⟨h, m⟩) fun m => .inr ⟨Ne.symm h, m⟩

theorem routeLe_antisymm (a b : Route) (h1 : routeLe a b = true) (h2 : routeLe b a = true) : a = b := by
  obtain ⟨ae, am⟩ := a
  obtain ⟨be, bm⟩ := b
  rcases routeLe_iff.1 h1 with ⟨e, m1⟩ | ⟨n, s1⟩ <;> rcases routeLe_iff.1 h2 with ⟨e', m2⟩ | ⟨n', s2⟩
  · rw [show ae = be from e, methodLe_antisymm am bm m1 m2]
  · exact absurd e.symm n'
  · exact absurd e'.symm n
  · exact absurd (List.le_antisymm s1 s2) n

theorem routeLe_trans (a b c : Route) (h1 : routeLe a b = true) (h2 : routeLe b c = true) :
    routeLe a c = true := by
  rw [routeLe_iff] at *
  rcases h1 with ⟨e1, m1⟩ | ⟨n1, s1⟩ <;> rcases h2 with ⟨e2, m2⟩ | ⟨n2, s2⟩
  · exact .inl ⟨e1.trans e2, methodLe_trans _ _ _ m1 m2⟩
  · exact .inr ⟨e1 ▸ n2, e1 ▸ s2⟩
  · exact .inr ⟨e2 ▸ n1, e2 ▸ s1⟩
  · exact .inr ⟨fun e => n1 (List.le_antisymm s1 (e ▸ s2)), List.le_trans s1 s2⟩

theorem insertSorted_eq_merge (a : Route) (l : List Route) : insertSorted a l = [a].merge l routeLe := by
  induction l with
  | nil => rw [insertSorted, List.merge_right]
  | cons b rest ih => rw [insertSorted, List.cons_merge_cons, List.nil_merge, ih]

theorem sortC_perm (l : List Route) : (sortC l).Perm l := by
  induction l with
  | nil => exact .refl _
  | cons a rest ih =>
    rw [sortC, insertSorted_eq_merge]
    exact (List.merge_perm_append routeLe).trans (ih.cons a)

theorem sortC_pairwise (l : List Route) : (sortC l).Pairwise (fun x y => routeLe x y = true) := by
  induction l with
  | nil => exact .nil
  | cons a rest ih =>
    rw [sortC, insertSorted_eq_merge]
    exact List.pairwise_merge routeLe_trans routeLe_total [a] _ (List.pairwise_singleton _ _) ih

/-- **Whatever algorithm `sort.Slice` uses**: a list that is a permutation of the candidates and
is ordered by the patch's `less` IS `sortC` of the candidates.  (This is what makes modelling
Go's pdqsort by an insertion sort sound.) -/
theorem C32_sort_unique (l l' : List Route) (hp : l'.Perm l)
    (hs : l'.Pairwise (fun x y => routeLe x y = true)) : l' = sortC l :=
  List.Perm.eq_of_pairwise (fun a b _ _ h1 h2 => routeLe_antisymm a b h1 h2) hs (sortC_pairwise l)
    (hp.trans (sortC_perm l).symm)

theorem sortC_congr {l₁ l₂ : List Route} (h : l₁.Perm l₂) : sortC l₁ = sortC l₂ :=
  C32_sort_unique l₂ (sortC l₁) ((sortC_perm l₁).trans h) (sortC_pairwise l₁)

theorem findRoute_eq (routes : List Route) (method path : Str) :
    findRoute routes method path =
      choose (upper method) (normalize path) (sortC (candidates routes (upper method) (normalize path))) := rfl

/-- **C32 (determinism, full strength).** For every route table, in whatever order the map is
visited or the routes were registered, `FindRoute` gives the same answer: it is a function of
the routes as a multiset (a Go map holds each selector once), the method and the path only. -/
theorem C32_perm_invariant (routes₁ routes₂ : List Route) (method path : Str)
    (h : routes₁.Perm routes₂) : findRoute routes₁ method path = findRoute routes₂ method path := by
  rw [findRoute_eq, findRoute_eq, candidates, candidates, sortC_congr (h.filter _)]

theorem varLoop_inl (l : List Route) (s : VarScan) (c : Route) (h : varLoop l s = .inl c) :
    c ∈ l ∧ noVars c.endpoint = true := by
  induction l generalizing s with
  | nil => cases h
  | cons x rest ih =>
    rw [varLoop] at h
    split at h
    · next hx =>
      cases h
      exact ⟨List.mem_cons_self, hx⟩
    · exact (ih _ h).imp_left (List.mem_cons_of_mem _)

/-- invariant of the fewest-variables scan over the set `S` of candidates seen so far -/
def ScanInv (s : VarScan) (S : Route → Prop) : Prop :=
  (∀ x, S x → s.minCount ≤ varCount x.endpoint ∧ varCount x.endpoint ≤ s.maxCount) ∧
  (∀ f, s.fewest = some f → S f ∧ varCount f.endpoint = s.minCount) ∧
  ((∃ x, S x) → s.fewest.isNone = false)

theorem scanStep_eq (s : VarScan) (c : Route) :
    scanStep s c =
      if s.fewest.isNone || varCount c.endpoint < s.minCount
      then ⟨varCount c.endpoint, max s.maxCount (varCount c.endpoint), some c⟩
      else ⟨s.minCount, max s.maxCount (varCount c.endpoint), s.fewest⟩ := by
  -- the second `if` of `scanStep` is `maxCount := max maxCount n`, whatever the first one did
  have hmax (t : VarScan) :
      (if varCount c.endpoint > t.maxCount then { t with maxCount := varCount c.endpoint } else t)
        = { t with maxCount := max t.maxCount (varCount c.endpoint) } := by
    split
    · next h => rw [Nat.max_eq_right (Nat.le_of_lt h)]
    · next h => rw [Nat.max_eq_left (Nat.not_lt.1 h)]
  unfold scanStep
  dsimp only
  rw [hmax]
  split <;> rfl

theorem scanStep_inv (s : VarScan) (c : Route) (S : Route → Prop) (inv : ScanInv s S) :
    ScanInv (scanStep s c) (fun x => S x ∨ x = c) := by
  obtain ⟨i1, i2, i3⟩ := inv
  rw [scanStep_eq]
  split
  · next h =>
    -- `c` is the new minimum: either nothing was seen before, or `c` has fewer variables than all of it
    refine ⟨fun x hx => ?_, fun f hf => ?_, fun _ => rfl⟩
    · rcases hx with hx | rfl
      · have := i1 x hx
        simp only [i3 ⟨x, hx⟩, Bool.false_or, decide_eq_true_eq] at h
        dsimp only
        omega
      · dsimp only
        omega
    · cases hf
      exact ⟨.inr rfl, rfl⟩
  · next h =>
    simp only [Bool.or_eq_true, decide_eq_true_eq, not_or, Nat.not_lt] at h
    refine ⟨fun x hx => ?_, fun f hf => ?_, fun _ => ?_⟩
    · rcases hx with hx | rfl
      · have := i1 x hx
        dsimp only
        omega
      · dsimp only
        omega
    · exact ⟨.inl (i2 f hf).1, (i2 f hf).2⟩
    · exact Bool.eq_false_iff.2 h.1

theorem varLoop_inr (l : List Route) (s s' : VarScan) (S : Route → Prop)
    (h : varLoop l s = .inr s') (inv : ScanInv s S) : ScanInv s' (fun x => S x ∨ x ∈ l) := by
  induction l generalizing s S with
  | nil =>
    cases h
    simpa using inv
  | cons c rest ih =>
    rw [varLoop] at h
    split at h
    · cases h
    · have e : (fun x => S x ∨ x ∈ c :: rest) = fun x => (S x ∨ x = c) ∨ x ∈ rest :=
        funext fun x => by rw [List.mem_cons, or_assoc]
      rw [e]
      exact ih _ _ h (scanStep_inv s c S inv)

theorem scanInv_init (m M : Nat) : ScanInv ⟨m, M, none⟩ (fun _ => False) :=
  ⟨fun _ h => h.elim, fun _ h => by simp at h, fun ⟨_, h⟩ => h.elim⟩

theorem longest_mem (b : Route) (l : List Route) : longest b l ∈ b :: l := by
  induction l generalizing b with
  | nil => exact List.mem_cons_self
  | cons c rest ih =>
    rw [longest]
    split
    · exact List.mem_cons_of_mem _ (ih c)
    · rcases List.mem_cons.1 (ih b) with e | m
      · rw [e]
        exact List.mem_cons_self
      · exact List.mem_cons_of_mem _ (List.mem_cons_of_mem _ m)

theorem contains_false_varCount (e : Str) (h : contains lbraces e = false) : varCount e = 0 := by
  induction e with
  | nil => rfl
  | cons a rest ih =>
    simp only [contains, Bool.or_eq_false_iff] at h
    cases rest with
    | nil => rfl
    | cons b rest2 =>
      rw [varCount]
      split
      · next hab => simp [lbraces, List.isPrefixOf, hab.1, hab.2] at h
      · exact ih h.2

theorem noVars_varCount (e : Str) (h : noVars e = true) : varCount e = 0 := by
  simp only [noVars, Bool.and_eq_true, Bool.not_eq_true'] at h
  exact contains_false_varCount e h.1

theorem choose_spec (method path : Str) (cands : List Route) :
    match choose method path cands with
    | .notFound => cands = []
    | .methodNotAllowed => ∃ r, cands = [r]
    | .ok r => r ∈ cands ∧ (varCount path = 0 → ∀ c ∈ cands, varCount r.endpoint ≤ varCount c.endpoint)
    | .nilRoute => False := by
  match cands with
  | [] => rfl
  | [r] =>
    by_cases hm : (r.method == anyMethod || eqFold r.method method) = true
    · simp only [choose, hm]
      exact ⟨List.mem_singleton_self r, fun _ c hc => List.mem_singleton.1 hc ▸ Nat.le_refl _⟩
    · simp only [choose, hm]
      exact ⟨r, rfl⟩
  | c0 :: c1 :: rest =>
    simp only [choose]
    cases hex : (c0 :: c1 :: rest).find? (fun c => c.endpoint == path) with
    | some c =>
      -- an endpoint equal to the path has as few variables as the path: none
      refine ⟨List.mem_of_find?_eq_some hex, fun hp x _ => ?_⟩
      have hc := List.find?_some hex
      rw [eq_of_beq hc, hp]
      exact Nat.zero_le _
    | none =>
      dsimp only
      cases hv : varLoop (c0 :: c1 :: rest) ⟨100, 0, none⟩ with
      | inl c =>
        have := varLoop_inl _ _ _ hv
        exact ⟨this.1, fun _ x _ => noVars_varCount _ this.2 ▸ Nat.zero_le _⟩
      | inr s =>
        obtain ⟨i1, i2, i3⟩ := varLoop_inr _ _ _ _ hv (scanInv_init 100 0)
        simp only [false_or] at i1 i2 i3
        by_cases hmm : s.maxCount > s.minCount
        · -- the counts differ: the scan's witness of the minimum; it exists because the list is not empty
          simp only [hmm, if_true]
          cases hf : s.fewest with
          | none => cases hf ▸ i3 ⟨c0, List.mem_cons_self⟩
          | some f =>
            obtain ⟨hfm, hfc⟩ := i2 f hf
            exact ⟨hfm, fun _ x hx => hfc ▸ (i1 x hx).1⟩
        · -- all candidates have the same number of variables, so any member will do
          simp only [hmm, if_false]
          have hall : ∀ x ∈ c0 :: c1 :: rest, ∀ y ∈ c0 :: c1 :: rest,
              varCount x.endpoint ≤ varCount y.endpoint := fun x hx y hy => by
            have := i1 x hx
            have := i1 y hy
            omega
          cases hpc : (c0 :: c1 :: rest).find? (fun c => slashCount path == routeParts c.endpoint) with
          | some c => exact ⟨List.mem_of_find?_eq_some hpc, fun _ x hx => hall c (List.mem_of_find?_eq_some hpc) x hx⟩
          | none => exact ⟨longest_mem c0 (c1 :: rest), fun _ x hx => hall _ (longest_mem c0 (c1 :: rest)) x hx⟩

theorem mem_sorted_candidates {routes : List Route} {method path : Str} {r : Route} :
    r ∈ sortC (candidates routes method path) ↔ r ∈ routes ∧ isCandidate method path r = true := by
  rw [(sortC_perm _).mem_iff]
  simp [candidates, List.mem_filter]

theorem varCount_snoc (s : Str) (c : Nat) (hc : c ≠ 123) : varCount (s ++ [c]) = varCount s := by
  fun_induction varCount s with
  | case1 => simp [varCount]
  | case2 a =>
    simp only [List.cons_append, List.nil_append, varCount]
    split
    · next h => exact absurd h.2 hc
    · rfl
  | case3 a b rest h ih =>
    simp only [List.cons_append, varCount, h, and_self, if_true, ih]
  | case4 a b rest h ih =>
    simp only [List.cons_append, varCount, h, if_false]
    simpa using ih

theorem trimSlash_spec (s : Str) : trimSlash s = s ∨ trimSlash s ++ [slash] = s := by
  induction s with
  | nil => exact .inl rfl
  | cons c rest ih =>
    cases rest with
    | nil =>
      by_cases hc : c = slash
      · exact .inr (by simp [trimSlash, hc])
      · exact .inl (by simp [trimSlash, hc])
    | cons d rest2 =>
      rw [trimSlash]
      exact ih.imp (congrArg (c :: ·)) (congrArg (c :: ·))

theorem varCount_normalize (s : Str) : varCount (normalize s) = varCount s := by
  unfold normalize
  split
  · -- the slash is either put behind `s` or taken off and put back
    rcases trimSlash_spec s with h | h
    · rw [h, varCount_snoc _ slash (by decide)]
    · rw [h]
  · rfl

theorem findRoute_spec (routes : List Route) (method path : Str) :
    match findRoute routes method path with
    | .notFound => ∀ r ∈ routes, isCandidate (upper method) (normalize path) r = false
    | .methodNotAllowed => True
    | .ok r => (r ∈ routes ∧ isCandidate (upper method) (normalize path) r = true) ∧
        (varCount (normalize path) = 0 → ∀ c ∈ routes, isCandidate (upper method) (normalize path) c = true →
          varCount r.endpoint ≤ varCount c.endpoint)
    | .nilRoute => False := by
  have h := choose_spec (upper method) (normalize path) (sortC (candidates routes (upper method) (normalize path)))
  rw [findRoute_eq]
  generalize choose _ _ _ = res at h
  cases res with
  | notFound =>
    intro r hr
    cases hc : isCandidate (upper method) (normalize path) r with
    | false => rfl
    | true => cases h ▸ mem_sorted_candidates.2 ⟨hr, hc⟩
  | methodNotAllowed => trivial
  | ok r =>
    exact ⟨mem_sorted_candidates.1 h.1, fun hp c hc hcc => h.2 hp c (mem_sorted_candidates.2 ⟨hc, hcc⟩)⟩
  | nilRoute => exact h

/-- **C32 (most specific).** When the request path contains no `{{`, the chosen route is a
matching route of the table with the FEWEST path variables among all matching routes. -/
theorem C32_fewest_vars (routes : List Route) (method path : Str) (r : Route)
    (hp : varCount path = 0)
    (h : findRoute routes method path = .ok r) :
    (r ∈ routes ∧ isCandidate (upper method) (normalize path) r = true) ∧
    ∀ c ∈ routes, isCandidate (upper method) (normalize path) c = true →
      varCount r.endpoint ≤ varCount c.endpoint := by
  have := findRoute_spec routes method path
  rw [h] at this
  exact ⟨this.1, this.2 ((varCount_normalize path).trans hp)⟩

/-- The chosen route always is a route of the table that the candidate loop admits (no hypothesis on the path).
A route with endpoint `/` is admitted whatever its method. -/
theorem C32_answer_is_candidate (routes : List Route) (method path : Str) (r : Route)
    (h : findRoute routes method path = .ok r) :
    r ∈ routes ∧ isCandidate (upper method) (normalize path) r = true := by
  have := findRoute_spec routes method path
  rw [h] at this
  exact this.1

/-- 404 exactly when the candidate loop admits no route of the table. -/
theorem C32_not_found_iff (routes : List Route) (method path : Str) :
    findRoute routes method path = .notFound ↔
      ∀ r ∈ routes, isCandidate (upper method) (normalize path) r = false := by
  constructor
  · intro h
    have := findRoute_spec routes method path
    rw [h] at this
    exact this
  · intro h
    have : candidates routes (upper method) (normalize path) = [] :=
      List.filter_eq_nil_iff.2 fun r hr => by simp [h r hr]
    rw [findRoute_eq, this]
    rfl

/-- With the patch `fewestVariables` is never nil when it is used (before the patch the
sentinel `minCount := 100` left it nil when every candidate had 100 or more variables). -/
theorem C32_never_nil (routes : List Route) (method path : Str) :
    findRoute routes method path ≠ .nilRoute := by
  intro h
  have := findRoute_spec routes method path
  rw [h] at this
  exact this

/-- The patch only removes the dependence on the order: its answer is the answer the function
without the sort gives when the map happens to be visited in sorted order.  So every answer of
the patched code is an answer the unpatched code could already give. -/
theorem C32_patch_conservative (routes : List Route) (method path : Str) :
    findRoute routes method path = findRouteRaw (sortC routes) method path := by
  rw [findRoute_eq, findRouteRaw, candidates, candidates,
    C32_sort_unique (routes.filter (isCandidate (upper method) (normalize path)))
        ((sortC routes).filter (isCandidate (upper method) (normalize path)))
      ((sortC_perm routes).filter _) ((sortC_pairwise routes).filter _)]

def wGET : Str := [71, 69, 84]
/-- `/a/{{x}}/c` -/
def wAxc : Route := ⟨[47, 97, 47, 123, 123, 120, 125, 125, 47, 99], wGET⟩
/-- `/a/b/{{y}}` -/
def wAby : Route := ⟨[47, 97, 47, 98, 47, 123, 123, 121, 125, 125], wGET⟩
/-- `/a/{{x}}/{{y}}` -/
def wAxy : Route := ⟨[47, 97, 47, 123, 123, 120, 125, 125, 47, 123, 123, 121, 125, 125], wGET⟩
/-- `/a/b/c` -/
def wPath : Str := [47, 97, 47, 98, 47, 99]

/-- Without the sort, two visiting orders of the same three routes give two different routes for
`GET /a/b/c` (observed on the real code: 174 / 26 over 200 fresh routers). -/
theorem C32_raw_counterexample :
    [wAxc, wAby, wAxy].Perm [wAby, wAxc, wAxy] ∧
    findRouteRaw [wAxc, wAby, wAxy] wGET wPath = .ok wAxc ∧
    findRouteRaw [wAby, wAxc, wAxy] wGET wPath = .ok wAby :=
  ⟨List.Perm.swap _ _ _, by decide, by decide⟩

/-- … and the patched function gives one answer for both (instance of `C32_perm_invariant`). -/
example : findRoute [wAxc, wAby, wAxy] wGET wPath = .ok wAby ∧
    findRoute [wAby, wAxc, wAxy] wGET wPath = .ok wAby := ⟨by decide, by decide⟩

/-! ### non-vacuity -/

-- `C32_fewest_vars`: its hypotheses hold for the witness, and three candidates compete
example : varCount wPath = 0 ∧ findRoute [wAxy, wAxc, wAby] wGET wPath = .ok wAby ∧
    (candidates [wAxy, wAxc, wAby] (upper wGET) (normalize wPath)).length = 3 := by decide

-- `C32_fewest_vars` really needs the hypothesis on the path: the exact-match rule comes first.
-- Routes `/` and `/{{x}}/`, request path `/{{x}}` : the 1-variable route is chosen over `/`.
example : findRoute [⟨[47], wGET⟩, ⟨[47, 123, 123, 120, 125, 125, 47], wGET⟩] wGET [47, 123, 123, 120, 125, 125]
    = .ok ⟨[47, 123, 123, 120, 125, 125, 47], wGET⟩ := by decide

-- `C32_not_found_iff`, both directions are inhabited
example : findRoute [wAxc] wGET [47, 122] = .notFound := by decide
example : findRoute [⟨[47], [80, 79, 83, 84]⟩] wGET [47, 122] = .methodNotAllowed := by decide

-- the specific method is preferred to ANY on the same endpoint, whatever the order
example : findRoute [⟨[47, 116], anyMethod⟩, ⟨[47, 116], wGET⟩] wGET [47, 116] = .ok ⟨[47, 116], wGET⟩ ∧
    findRoute [⟨[47, 116], wGET⟩, ⟨[47, 116], anyMethod⟩] wGET [47, 116] = .ok ⟨[47, 116], wGET⟩ := by decide

end EgoVerif.C32
