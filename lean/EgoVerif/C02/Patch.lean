import EgoVerif.C02.Run
/-
C02 — `ByteCode.Patch` (optimizer.go) with its fix-up of branch destinations, the branch-target guard of
`ByteCode.optimize`, and the theorem that a guarded patch by an equivalent straight-line replacement preserves
the run.  The patched program is related to the original by `Around`: outside the window the two dispatch alike
up to the translation of addresses, so `splice_sim` applies in both directions.
-/
namespace EgoVerif.C02

def fixup (s d n : Nat) (i : Instr) : Instr :=
  if i.op.isBranch then
    match target i with
    | some t => if t > s then { i with arg := .val (vInt ((t : Int) - d + n)) } else i
    | none => i
  else i

def patch (prog : List Instr) (s d : Nat) (ins : List Instr) : List Instr :=
  (prog.take s ++ ins ++ prog.drop (s + d)).map (fixup s d ins.length)

def guardI (s d : Nat) (i : Instr) : Bool :=
  !i.op.isBranch || (match target i with
    | some t => !(s ≤ t && t < s + d)
    | none => true)

def guardOK (prog : List Instr) (s d : Nat) : Bool := prog.all (guardI s d)

/-- `a` is an address of the original program that is not inside the window `[s, s+d)` (its first address
    excepted), and `b` is where a patch that puts `n` instructions in the window's place moves it -/
def Around (s d n a b : Nat) : Prop := (a ≤ s ∧ b = a) ∨ (s + d ≤ a ∧ b + d = a + n)

theorem Around.succ {s d n a b : Nat} (hd : 0 < d) (hab : Around s d n a b) (ha : a < s ∨ s + d ≤ a) :
    Around s d n (a + 1) (b + 1) := by
  rcases hab with ⟨h, rfl⟩ | ⟨h, hb⟩
  · exact Or.inl ⟨by omega, rfl⟩
  · exact Or.inr ⟨Nat.le_succ_of_le h, by omega⟩

theorem isBranch_of_not_control {o : Opc} (h : o.isControl = false) : o.isBranch = false := by
  cases o <;> first | rfl | cases h

theorem fixup_plain (s d n : Nat) (i : Instr) (h : i.op.isControl = false) : fixup s d n i = i := by
  simp only [fixup, isBranch_of_not_control h, Bool.false_eq_true, ↓reduceIte]

theorem fixup_op (s d n : Nat) (i : Instr) : (fixup s d n i).op = i.op := by
  unfold fixup
  split
  · split
    · split <;> rfl
    · rfl
  · rfl

theorem jump_fixup (s d n : Nat) (i : Instr) (hg : guardI s d i = true) (hb : i.op.isBranch = true) (st : MState) :
    Next.Rel (Around s d n) (jump i st) (jump (fixup s d n i) st) := by
  unfold jump fixup
  rw [if_pos hb]
  cases ht : target i with
  | none => dsimp only; rw [ht]; exact .halt _
  | some t =>
    have hgt : t < s ∨ s + d ≤ t := by
      simp [guardI, hb, ht] at hg
      omega
    dsimp only
    by_cases hts : t > s
    · have h1 : s + d ≤ t := by omega
      have h2 : (t : Int) - d + n = ((t - d + n : Nat) : Int) := by omega
      have : target { i with arg := .val (vInt ((t : Int) - d + n)) } = some (t - d + n) := by
        show (if 0 ≤ (t : Int) - d + n then some ((t : Int) - d + n).toNat else none) = _
        rw [h2, if_pos (Int.natCast_nonneg _), Int.toNat_natCast]
      rw [if_pos hts, this]
      exact .goto (Or.inr ⟨h1, by omega⟩) st
    · rw [if_neg hts, ht]
      exact .goto (Or.inl ⟨by omega, rfl⟩) st

theorem next_fixup (P : Prim) (s d n : Nat) (hd : 0 < d) (i : Instr) (a b : Nat) (st : MState)
    (hg : guardI s d i = true) (hab : Around s d n a b) (ha : a < s ∨ s + d ≤ a) :
    Next.Rel (Around s d n) (next P i a st) (next P (fixup s d n i) b st) := by
  have hs := hab.succ hd ha
  by_cases hc : i.op.isControl = false
  · rw [fixup_plain s d n i hc, next_plain P i _ st hc, next_plain P i _ st hc]
    cases step1 P i st with
    | error e => exact .halt _
    | ok st' => exact .goto hs st'
  · have hj := jump_fixup s d n i hg
    unfold next
    rw [fixup_op]
    cases hio : i.op with
    | stop => exact .halt _
    | branch => exact hj (by rw [hio]; rfl) st
    | branchTrue => exact branchIf_rel true st (hj (by rw [hio]; rfl)) hs
    | branchFalse => exact branchIf_rel false st (hj (by rw [hio]; rfl)) hs
    | _ => exact absurd (by rw [hio]; rfl) hc

theorem window_segAt (Q : List Instr) (s d : Nat) : SegAt Q s ((Q.drop s).take d) := List.take_prefix d _

section
variable (Q : List Instr) (s d : Nat) (ins : List Instr) (hlen : s + d ≤ Q.length)
include hlen

theorem patch_at (hd : 0 < d) (a b : Nat) (hab : Around s d ins.length a b) (ha : a < s ∨ s + d ≤ a) :
    (patch Q s d ins)[b]? = (Q[a]?).map (fixup s d ins.length) := by
  have hs : (Q.take s).length = s := by rw [List.length_take]; omega
  unfold patch
  rw [List.getElem?_map]
  congr 1
  rcases hab with ⟨_, rfl⟩ | ⟨h, hb⟩
  · have h : b < s := by omega
    rw [List.append_assoc, List.getElem?_append_left (hs.symm ▸ h), List.getElem?_take_of_lt h]
  · obtain ⟨j, rfl⟩ := Nat.exists_eq_add_of_le h
    have : b = (Q.take s ++ ins).length + j := by rw [List.length_append, hs]; omega
    rw [this, List.getElem?_append_right (Nat.le_add_right _ _), Nat.add_sub_cancel_left, List.getElem?_drop]

theorem ins_segAt (hI : ∀ i ∈ ins, i.op.isControl = false) : SegAt (patch Q s d ins) s ins := by
  have hs : (Q.take s).length = s := by rw [List.length_take]; omega
  have hm : ins.map (fixup s d ins.length) = ins :=
    (List.map_congr_left fun i hi => fixup_plain _ _ _ i (hI i hi)).trans (List.map_id' ins)
  unfold SegAt patch
  rw [← List.map_drop, List.append_assoc, List.drop_left' hs, List.map_append, hm]
  exact List.prefix_append ..

theorem stepAt_patch (P : Prim) (hd : 0 < d) (hg : guardOK Q s d = true) (a b : Nat) (st : MState)
    (hab : Around s d ins.length a b) (hn : ¬(a = s ∧ b = s)) :
    Next.Rel (Around s d ins.length) (stepAt P Q a st) (stepAt P (patch Q s d ins) b st) := by
  have ha : a < s ∨ s + d ≤ a := by
    unfold Around at hab
    omega
  unfold stepAt
  rw [patch_at Q s d ins hlen hd a b hab ha]
  cases hi : Q[a]? with
  | none => exact .halt _
  | some i => exact next_fixup P s d _ hd i a b st (List.all_eq_true.mp hg i (List.mem_of_getElem? hi)) hab ha
end

/-- **Patch preserves the run.**  If the window [start, start+del) of `prog` is straight-line code that is
    equivalent (same outcome from every state) to the straight-line `insert`, and no branch of the program
    targets an address of the window, then the patched program terminates with exactly the same result
    (final state or error class) from every initial state — and fails to terminate exactly when the original does. -/
theorem C02_patch_preserves (P : Prim) (prog : List Instr) (start del : Nat) (insert : List Instr)
    (hdel : 0 < del) (hlen : start + del ≤ prog.length)
    (hW : ∀ i ∈ (prog.drop start).take del, i.op.isControl = false) (hI : ∀ i ∈ insert, i.op.isControl = false)
    (heq : ∀ st, exec P ((prog.drop start).take del) st = exec P insert st)
    (hg : guardOK prog start del = true) (st : MState) (r : R) :
    Terminates P prog st r ↔ Terminates P (patch prog start del insert) st r := by
  have hlenW : ((prog.drop start).take del).length = del := by
    rw [List.length_take, List.length_drop]; omega
  have hend : Around start del insert.length (start + del) (start + insert.length) :=
    Or.inr ⟨Nat.le_refl _, Nat.add_right_comm ..⟩
  have h0 : Around start del insert.length 0 0 := Or.inl ⟨Nat.zero_le _, rfl⟩
  have hW' := window_segAt prog start del
  have hI' := ins_segAt prog start del insert hlen hI
  have hstep := stepAt_patch prog start del insert hlen P hdel hg
  constructor
  · rintro ⟨f, hf⟩
    exact splice_sim P prog _ (Around start del insert.length) start start _ insert hW' hI' hW hI heq
      (by rw [hlenW]; exact hend) (Or.inl (by omega)) hstep f 0 0 st r h0 hf
  · rintro ⟨f, hf⟩
    exact splice_sim P _ prog (fun b a => Around start del insert.length a b) start start insert _ hI' hW' hI hW
      (fun st => (heq st).symm) (by rw [hlenW]; exact hend) (Or.inr (by omega))
      (fun b a st hab hn => (hstep a b st hab (fun h => hn ⟨h.2, h.1⟩)).flip) f 0 0 st r h0 hf

/-- pattern and replacement of every proved rule are straight-line code (no rule mentions a control opcode), as
    `C02_patch_preserves` asks of the window and of the insertion -/
theorem C02_rules_straight_line :
    provedRules.all (fun r => (r.pattern ++ r.replacement).all (fun i => !i.op.isControl)) = true := by decide

end EgoVerif.C02
