import EgoVerif.C02.Rules
/-
C02 — soundness of each canonical rule shape, stated on the instantiated instruction lists.
`P` is an arbitrary `Prim`: no lemma looks inside arithmetic, comparison or coercion.
-/
namespace EgoVerif.C02
variable (P : Prim)

@[simp] theorem exec_nil (st : MState) : exec P [] st = .ok st := rfl
theorem exec_cons (i : Instr) (r : List Instr) (st : MState) :
  exec P (i :: r) st = (match step1 P i st with | .error e => .error e | .ok st' => exec P r st') := rfl
theorem exec_one (i : Instr) (st : MState) : exec P [i] st = step1 P i st := by
  simp only [exec_cons]; cases step1 P i st <;> rfl

theorem ofVal_nil : Opd.ofVal (.plain .nil) = .none := if_pos rfl
theorem ofVal_ne {v : Val} (h : v ≠ .plain .nil) : Opd.ofVal v = .val v := if_neg h
theorem ofVal_mLet : Opd.ofVal mLet = .val mLet := ofVal_ne (by decide)
theorem ofVal_int (n : Int) : Opd.ofVal (vInt n) = .val (vInt n) := ofVal_ne nofun
theorem ofVal_str (s : String) : Opd.ofVal (vStr s) = .val (vStr s) := ofVal_ne nofun

theorem ofVal_congr {α : Type} (f : Opd → α) (h : f .none = f (.val (.plain .nil))) (v : Val) :
    f (Opd.ofVal v) = f (.val v) := by
  unfold Opd.ofVal
  split
  · subst v
    exact h
  · rfl

theorem nameOfArg_ofVal (v : Val) : nameOfArg (Opd.ofVal v) = v.asName := ofVal_congr nameOfArg rfl v

theorem ofVal_of_name {n : Val} (h : n.asName.isEmpty = false) : Opd.ofVal n = .val n :=
  ofVal_ne fun hn => by subst hn; exact absurd h (by decide)

theorem stepPush_ofVal (v : Val) (st : MState) : stepPush (Opd.ofVal v) st = .ok (push st v) :=
  ofVal_congr (stepPush · st) rfl v

theorem exec_push (v : Val) (rest : List Instr) (st : MState) :
    exec P (⟨.push, Opd.ofVal v⟩ :: rest) st = exec P rest (push st v) := by
  rw [exec_cons]; simp only [step1]; rw [stepPush_ofVal]

theorem exec_push_then {v : Val} {i j : Instr} {st : MState} (h : step1 P i (push st v) = step1 P j st) :
    exec P [⟨.push, Opd.ofVal v⟩, i] st = exec P [j] st := by
  rw [exec_push, exec_one, exec_one, h]

theorem step1_cmp {oc : Opc} {op : CmpOp} (h : cmpOf oc = some op) (a : Opd) (st : MState) :
    step1 P ⟨oc, a⟩ st = stepCmp P op a st := by
  cases oc <;> cases h <;> rfl

theorem step1_arith {oc : Opc} {op : ArOp} (h : arOf oc = some op) (a : Opd) (st : MState) :
    step1 P ⟨oc, a⟩ st = stepArith P op st := by
  cases oc <;> cases h <;> rfl

theorem isMarker_plain (b : Base) : (Val.plain b).isMarker = false := rfl

theorem stepArith_push (op : ArOp) (a b : Val) (st : MState) (ha : a.isMarker = false) (hb : b.isMarker = false) :
    stepArith P op (push (push st a) b) = (P.arith st.mode op a b).map fun r => push st (.plain r) := by
  simp only [stepArith, pop, push, ha, hb, Bool.or_self, Bool.false_eq_true, ↓reduceIte]
  cases P.arith st.mode op a b <;> rfl

theorem stepDropToMarker_let (st : MState) (S : List Val) (h : st.fp ≤ S.length) :
    stepDropToMarker (.val mLet) { st with stack := mLet :: S } = .ok { st with stack := S } := by
  have : ¬ (S.length + 1 ≤ st.fp) := by omega
  simp [stepDropToMarker, mLet, dropTo, this]

def createScopes (name : String) (value : Val) (scs : List Scope) : Except Err (List Scope) :=
  if isConstant scs name then .error .readOnly
  else match createSym scs name with
    | .error e => .error e
    | .ok scs' => if isPrefixed name then setConstant scs' name value else setSym scs' name value

theorem createCore_eq (name : String) (v : Val) (st : MState) :
    createCore name v st = (createScopes name v st.scopes).map fun scs => { st with scopes := scs } := by
  unfold createCore createScopes
  split
  · rfl
  · cases createSym st.scopes name with
    | error e => rfl
    | ok scs =>
      dsimp only
      cases (if isPrefixed name = true then setConstant scs name v else setSym scs name v) <;> rfl

/-! ### "Assignment optimized away" -/
theorem sound_letNoop (st : MState) (h : st.fp ≤ st.stack.length) :
    exec P [⟨.push, Opd.ofVal mLet⟩, ⟨.dropToMarker, Opd.ofVal mLet⟩] st = exec P [] st := by
  rw [exec_push, exec_one, ofVal_mLet]
  exact stepDropToMarker_let st st.stack h

/-! ### "Write constant to null variable" -/
theorem sound_pushDrop (st : MState) (v : Val) :
    exec P [⟨.push, Opd.ofVal v⟩, ⟨.drop, Opd.ofVal (vInt 1)⟩] st = exec P [] st := by
  rw [exec_push, exec_one, ofVal_int]
  rfl

/-! ### "Store to null variable": sound unless a StackMarker is on top -/
def topNotMarker (st : MState) : Prop := ∀ v rest, st.stack = v :: rest → v.isMarker = false

theorem sound_storeDiscard (st : MState) (h : topNotMarker st) :
    exec P [⟨.store, Opd.ofVal (vStr "_")⟩] st = exec P [⟨.drop, .none⟩] st := by
  rw [exec_one, exec_one, ofVal_str]
  cases hs : st.stack with
  | nil => simp [step1, stepStore, stepDrop, pop, hs, countOf, popN]
  | cons v rest =>
    have hp : isPrefixed "_" = false := by decide
    simp [step1, stepStore, stepDrop, vStr, pop, hs, countOf, popN, storeCore, nameOfArg, Val.asName, hp, h v rest hs]

/-! ### comparison with a constant -/
theorem stepCmp_push (op : CmpOp) (v : Val) (st : MState) :
    stepCmp P op .none (push st v) = stepCmp P op (.one v) st := rfl

theorem sound_cmpConst (oc : Opc) (op : CmpOp) (hop : cmpOf oc = some op) (v : Val) (st : MState) :
    exec P [⟨.push, Opd.ofVal v⟩, ⟨oc, .none⟩] st = exec P [⟨oc, .one v⟩] st :=
  exec_push_then P (by rw [step1_cmp P hop, step1_cmp P hop, stepCmp_push])

/-! ### "Sequential AtLine opcodes" -/
theorem stepAtLine_line (o : Opd) (st : MState) (n : Int) :
    stepAtLine o { st with line := n } = stepAtLine o st := rfl

theorem sound_atLine (a b : Val) (st : MState) (ha : a.asInt?.isSome) :
    exec P [⟨.atLine, Opd.ofVal a⟩, ⟨.atLine, Opd.ofVal b⟩] st = exec P [⟨.atLine, Opd.ofVal b⟩] st := by
  obtain ⟨n, hn⟩ := Option.isSome_iff_exists.mp ha
  have ha' : Opd.ofVal a = .val a := ofVal_ne fun h => by subst h; cases hn
  have h1 : step1 P ⟨.atLine, .val a⟩ st = .ok { st with line := n } := by simp [step1, stepAtLine, hn]
  rw [ha', exec_cons, h1]
  dsimp only
  rw [exec_one, exec_one]
  exact stepAtLine_line _ st n

/-! ### "Collapse constant Push and CreateAndStore" -/

theorem stepCreateAndStore_push (n v : Val) (st : MState) :
    stepCreateAndStore (Opd.ofVal n) (push st v)
      = if v.isMarker then .error .functionReturnedVoid else createCore n.asName v.unwrap st :=
  ofVal_congr (stepCreateAndStore · (push st v)) rfl n

theorem sound_pushCreateAndStore (v n : Val) (st : MState) (hv : v.isMarker = false) :
    exec P [⟨.push, Opd.ofVal v⟩, ⟨.createAndStore, Opd.ofVal n⟩] st = exec P [⟨.createAndStore, .two n v⟩] st :=
  exec_push_then P ((stepCreateAndStore_push n v st).trans (by rw [hv]; rfl))

/-! ### "Push and Storeindex": sound unless the pushed index is nil -/
theorem sound_pushStoreIndex (v : Val) (st : MState) (hv : v ≠ .plain .nil) :
    exec P [⟨.push, Opd.ofVal v⟩, ⟨.storeIndex, .none⟩] st = exec P [⟨.storeIndex, Opd.ofVal v⟩] st :=
  exec_push_then P (by rw [ofVal_ne hv]; rfl)

/-! ### "Constant storeAlways": sound unless the pushed value is a marker or a wrapped constant -/
theorem sound_pushStoreAlways (v n : Val) (st : MState) (hm : v.isMarker = false) (hc : v.isConst = false) :
    exec P [⟨.push, Opd.ofVal v⟩, ⟨.storeAlways, Opd.ofVal n⟩] st = exec P [⟨.storeAlways, .two n v⟩] st := by
  have hu : v.unwrap = v := by cases v <;> first | rfl | cases hc
  refine exec_push_then P ((ofVal_congr (step1 P ⟨.storeAlways, ·⟩ (push st v)) rfl n).trans ?_)
  simp [step1, stepStoreAlways, push, pop, hm, nameOfArg, hu]

/-! ### constant folds: sound when the optimizer's constant is what the instruction computes -/
theorem sound_fold (oc : Opc) (op : ArOp) (hop : arOf oc = some op) (a b : Val) (r : Base) (st : MState)
    (hm : a.isMarker = false ∧ b.isMarker = false) (hr : P.arith st.mode op a b = .ok r) :
    exec P [⟨.push, Opd.ofVal a⟩, ⟨.push, Opd.ofVal b⟩, ⟨oc, .none⟩] st = exec P [⟨.push, Opd.ofVal (.plain r)⟩] st := by
  rw [exec_push, exec_push, exec_push, exec_one, step1_arith P hop, stepArith_push P op a b st hm.1 hm.2, hr]
  rfl

/-! ### "Sequential PopScope" -/
theorem popScopeN_add (a b : Nat) (st : MState) :
    popScopeN (a + b) st = (match popScopeN a st with | .error e => .error e | .ok s => popScopeN b s) := by
  induction a generalizing st with
  | zero => rw [Nat.zero_add]; rfl
  | succ n ih =>
    rw [Nat.add_right_comm]
    simp only [popScopeN]
    cases popScope1 st with
    | error e => rfl
    | ok s => exact ih s

/-- a count operand as the compiler emits it: nil (one level) or a non-negative int -/
def countOperand (v : Val) : Prop := v = .plain .nil ∨ ∃ n : Int, 0 ≤ n ∧ v = vInt n

theorem countOf_ofVal {v : Val} (h : countOperand v) : countOf (Opd.ofVal v) = .ok (cntOf v).toNat := by
  rcases h with rfl | ⟨n, _, rfl⟩
  · rfl
  · rw [ofVal_int]; rfl

theorem cntOf_nonneg {v : Val} (h : countOperand v) : 0 ≤ cntOf v := by
  rcases h with rfl | ⟨n, hn, rfl⟩
  · decide
  · exact hn

/-- `k` is what the optimizer's scratch register holds after the two counts have been added to it -/
theorem sound_popScope2 (c1 c2 : Val) (k : Int) (st : MState) (h1 : countOperand c1) (h2 : countOperand c2)
    (hk : k = cntOf c1 + cntOf c2) :
    exec P [⟨.popScope, Opd.ofVal c1⟩, ⟨.popScope, Opd.ofVal c2⟩] st = exec P [⟨.popScope, Opd.ofVal (vInt k)⟩] st := by
  have hn : countOf (.val (vInt k)) = .ok ((cntOf c1).toNat + (cntOf c2).toNat) :=
    hk ▸ congrArg Except.ok (Int.toNat_add (cntOf_nonneg h1) (cntOf_nonneg h2))
  rw [exec_cons, exec_one]
  simp only [step1, stepPopScope, countOf_ofVal h1, ofVal_int, hn, popScopeN_add]
  cases popScopeN (cntOf c1).toNat st with
  | error e => rfl
  | ok s => simp only [exec_one, step1, stepPopScope, countOf_ofVal h2]

/-! ### "Load followed by SetThis": sound for a Go-string name -/
theorem unwrap_unwrap (v : Val) : v.unwrap.unwrap = v.unwrap := by cases v <;> rfl

theorem sound_loadThis (n : Val) (st : MState) (hn : ∃ s, n = vStr s) :
    exec P [⟨.load, Opd.ofVal n⟩, ⟨.setThis, .none⟩] st = exec P [⟨.loadThis, Opd.ofVal n⟩] st := by
  obtain ⟨s, rfl⟩ := hn
  rw [exec_cons, exec_one, ofVal_str]
  simp only [step1, stepLoad, stepLoadThis, nameOfArg, vStr, Val.asName]
  by_cases he : s.isEmpty
  · simp [he]
  · simp only [he]
    cases hg : getSym st.scopes s with
    | none => simp
    | some sym =>
      simp [exec_one, step1, stepSetThis, push, pop, unwrap_unwrap]

/-! ### "Create and store": sound for a plain name when a non-marker value is on the stack -/

/-- a plain identifier: not empty, no read-only prefix (in particular not the discard name "_") -/
def plainName (n : String) : Prop := n.isEmpty = false ∧ hasPrefix n = false ∧ n ≠ "_"

theorem plainName_notPrefixed {n : String} (h : plainName n) : isPrefixed n = false := by
  simp [isPrefixed, h.2.1]

theorem find_put (sc : Scope) (n : String) (v : Val) (ro : Bool) :
    Scope.find? (Scope.put sc n v ro) n = some ⟨n, v, ro⟩ := by
  induction sc with
  | nil => simp [Scope.put, Scope.find?]
  | cons s rest ih =>
    unfold Scope.put
    split
    · simp [Scope.find?]
    · rename_i h
      exact (List.find?_cons_of_neg (p := fun s : Sym => s.name == n) h).trans ih

theorem checkCore_undef (m : Mode) (v : Val) : checkCore P m (some (.plain .undef)) v = .ok v.unwrap := by
  simp only [checkCore]
  split <;> rfl

theorem storeCore_plain (name : String) (hn : plainName name) (v : Val) (hv : v.isMarker = false) (st : MState) :
    storeCore P name v st
      = (match checkType P st name v with
        | .error e => .error e
        | .ok w => match setSym st.scopes name w with
          | .error e => .error e
          | .ok scs => .ok { st with scopes := scs }) := by
  simp only [storeCore, plainName_notPrefixed hn, beq_false_of_ne hn.2.2, hv, hn.2.1,
    Bool.false_and, Bool.false_eq_true, ↓reduceIte]
  rfl

theorem getSym_createSym {scs scs' : List Scope} {name : String} (h : createSym scs name = .ok scs') :
    getSym scs' name = some ⟨name, .plain .undef, false⟩ := by
  unfold createSym at h
  split at h
  · cases h
  · split at h
    · cases h
    · split at h
      · cases h
      · cases h
        simp only [getSym, find_put]

theorem sound_createStore (n : Val) (st : MState) (v : Val) (rest : List Val)
    (hn : plainName n.asName) (hs : st.stack = v :: rest) (hv : v.isMarker = false) :
    exec P [⟨.symbolCreate, Opd.ofVal n⟩, ⟨.store, Opd.ofVal n⟩] st = exec P [⟨.createAndStore, Opd.ofVal n⟩] st := by
  rw [exec_cons, exec_one, ofVal_of_name hn.1]
  simp only [step1, stepSymbolCreate, stepCreateAndStore, nameOfArg, pop, hs, hv, Bool.false_eq_true, ↓reduceIte,
    createCore_eq, createScopes, plainName_notPrefixed hn]
  by_cases hk : isConstant st.scopes n.asName = true
  · simp only [hk, ↓reduceIte]
    rfl
  · simp only [hk, Bool.false_eq_true, ↓reduceIte]
    cases hc : createSym st.scopes n.asName with
    | error e => rfl
    | ok scs =>
      -- Store finds the fresh name undefined, so its type boundary lets the value through unchanged
      simp only [exec_one, step1, stepStore, pop, nameOfArg]
      rw [storeCore_plain P _ hn v hv, checkType, getSym_createSym hc]
      simp only [Option.map, checkCore_undef]
      cases setSym scs n.asName v.unwrap <;> rfl

/-! ### "Constant increment" -/

/-- Load x; Push k; Add; Store x  once x is known to hold the plain value `b` -/
def unfusedCore (P : Prim) (st : MState) (name : String) (b : Base) (k : Val) : R :=
  match (match P.arith st.mode .add (.plain b) k with
      | .error e => (Except.error e : Except Err Val)
      | .ok r => checkType P st name (.plain r)) with
  | .error e => .error e
  | .ok v =>
    match setSym st.scopes name v with
    | .error e => .error e
    | .ok scs => .ok { st with scopes := scs }

/-- Increment [x, k]  once x is known to hold the plain value `b` -/
def fusedCore (P : Prim) (st : MState) (name : String) (b : Base) (k : Val) : R :=
  match (if b = .nil then (Except.error .invalidType : Except Err Val)
      else match P.incr st.mode b k with
        | .error e => .error e
        | .ok r => checkType P st name (.plain r)) with
  | .error e => .error e
  | .ok v =>
    match setSym st.scopes name v with
    | .error e => .error e
    | .ok scs => .ok { st with scopes := scs }

/-- The arithmetic fact the "Constant increment" rule rests on: incrementByteCode computes what
    Add followed by the Store boundary computes.  For the integer kinds and constant steps this is
    `C03_fused_eq_unfused` (property C03); `Concrete.lean` proves it for the driver's primitives. -/
def IncrLaw (P : Prim) : Prop :=
  ∀ (st : MState) (name : String) (b : Base) (k : Val),
    (∃ sym, getSym st.scopes name = some sym ∧ sym.val = .plain b) → k.isMarker = false →
    k.unwrap ≠ .plain .nil →
    (match P.arith st.mode .add (.plain b) k with
      | .error e => (Except.error e : Except Err Val)
      | .ok r => checkType P st name (.plain r))
    = (if b = .nil then (Except.error .invalidType : Except Err Val)
       else match P.incr st.mode b k with
         | .error e => .error e
         | .ok r => checkType P st name (.plain r))

theorem checkType_stack (st : MState) (X : List Val) (name : String) (v : Val) :
    checkType P { st with stack := X } name v = checkType P st name v := rfl

theorem pattern_increment (n k : Val) (st : MState) (hn : plainName n.asName) (hk : k.isMarker = false)
    (sym : Sym) (b : Base) (hg : getSym st.scopes n.asName = some sym) (hbv : sym.val.unwrap = .plain b) :
    exec P [⟨.load, Opd.ofVal n⟩, ⟨.push, Opd.ofVal k⟩, ⟨.add, .none⟩, ⟨.store, Opd.ofVal n⟩] st
      = unfusedCore P st n.asName b k := by
  rw [exec_cons, ofVal_of_name hn.1]
  simp only [step1, stepLoad, nameOfArg, hn.1, Bool.false_eq_true, ↓reduceIte, hg, hbv]
  rw [exec_push, exec_cons]
  simp only [step1]
  rw [stepArith_push P .add (.plain b) k st rfl hk]
  unfold unfusedCore
  cases P.arith st.mode .add (.plain b) k with
  | error e => rfl
  | ok r =>
    simp only [Except.map, exec_one, step1, stepStore, pop, push, nameOfArg]
    rw [storeCore_plain P _ hn _ rfl, checkType_stack]

theorem replacement_increment (n k : Val) (st : MState)
    (sym : Sym) (b : Base) (hg : getSym st.scopes n.asName = some sym) (hbv : sym.val.unwrap = .plain b) :
    exec P [⟨.increment, .two n k⟩] st = fusedCore P st n.asName b k := by
  rw [exec_one]
  simp only [step1, stepIncrement, hg, hbv]
  unfold fusedCore
  cases b <;> dsimp only <;> cases P.incr st.mode _ k <;> rfl

theorem sound_increment (hP : IncrLaw P) (n k : Val) (st : MState)
    (hn : plainName n.asName) (hk : k.isMarker = false) (hk2 : k.unwrap ≠ .plain .nil)
    (hb : ∀ sym, getSym st.scopes n.asName = some sym → ∃ b, sym.val = .plain b) :
    exec P [⟨.load, Opd.ofVal n⟩, ⟨.push, Opd.ofVal k⟩, ⟨.add, .none⟩, ⟨.store, Opd.ofVal n⟩] st
      = exec P [⟨.increment, .two n k⟩] st := by
  cases hg : getSym st.scopes n.asName with
  | none =>
    rw [exec_cons, exec_one, ofVal_of_name hn.1]
    simp [step1, stepLoad, nameOfArg, hn.1, hg, stepIncrement]
  | some sym =>
    obtain ⟨b, hb0⟩ := hb sym hg
    have hbv : sym.val.unwrap = .plain b := by rw [hb0]; rfl
    rw [pattern_increment P n k st hn hk sym b hg hbv, replacement_increment P n k st sym b hg hbv,
      unfusedCore, fusedCore, hP st n.asName b k ⟨sym, hg, hb0⟩ hk hk2]

/-! ### "Unnecessary stack marker for constant store" -/
theorem sound_letConstStore (c n : Val) (st : MState) (h : st.fp ≤ st.stack.length) :
    exec P [⟨.push, Opd.ofVal mLet⟩, ⟨.push, Opd.ofVal c⟩, ⟨.createAndStore, Opd.ofVal n⟩,
            ⟨.dropToMarker, Opd.ofVal mLet⟩] st
      = exec P [⟨.push, Opd.ofVal c⟩, ⟨.createAndStore, Opd.ofVal n⟩] st := by
  rw [exec_push, exec_push, exec_push, exec_cons, exec_one, ofVal_mLet]
  simp only [step1, stepCreateAndStore_push]
  by_cases hm : c.isMarker = true
  · rw [if_pos hm, if_pos hm]
  · -- CreateAndStore changes the scopes only, so the marker pushed first is still the one DropToMarker finds
    rw [if_neg hm, if_neg hm, createCore_eq, createCore_eq]
    dsimp only [push]
    cases createScopes n.asName c.unwrap st.scopes with
    | error e => rfl
    | ok scs => exact stepDropToMarker_let { st with scopes := scs } st.stack h

/-! ### "Create null variable": the deleted instruction only ever adds the name "_" -/
def eraseDiscard (st : MState) : MState :=
  { st with scopes := st.scopes.map (fun sc => sc.filter (fun s => s.name != "_")) }

theorem filter_put_discard (sc : Scope) (v : Val) (ro : Bool) :
    (Scope.put sc "_" v ro).filter (fun s => s.name != "_") = sc.filter (fun s => s.name != "_") := by
  induction sc with
  | nil => simp [Scope.put]
  | cons s rest ih =>
    unfold Scope.put
    split
    · rename_i h
      simp [bne, h]
    · simp only [List.filter_cons, ih]

theorem sound_optCreateDiscard (st : MState) (hs : st.scopes ≠ []) (hg : getSym st.scopes "_" = none) :
    ∃ st', exec P [⟨.symbolOptCreate, Opd.ofVal (vStr "_")⟩] st = .ok st' ∧ eraseDiscard st' = eraseDiscard st := by
  rw [exec_one, ofVal_str]
  cases hsc : st.scopes with
  | nil => exact absurd hsc hs
  | cons sc more =>
    have hf : Scope.find? sc "_" = none := by
      simp only [hsc, getSym] at hg
      cases hh : Scope.find? sc "_" with
      | none => rfl
      | some s => simp [hh] at hg
    have he : ("_" : String).isEmpty = false := by decide
    refine ⟨{ st with scopes := Scope.put sc "_" (.plain .undef) false :: more }, ?_, ?_⟩
    · rw [hsc] at hg
      simp [step1, stepSymbolOptCreate, nameOfArg, vStr, Val.asName, isConstant, hg, hsc, hf, createSym, he]
    · simp [eraseDiscard, hsc, filter_put_discard]

end EgoVerif.C02
