import EgoVerif.C02.Table
/-
C02 — the concrete primitives used by the driver (Go `int` with 64-bit wrap-around, strings, bools), the model
of the optimizer's fast constant arithmetic (`tryConstantArithmetic`, optimizer.go) on them, and the proofs that
they satisfy the hypotheses of the abstract rule theorems.  Mixed-type operands are outside this value model
(the general integer-kind arithmetic is property C03's model).
-/
namespace EgoVerif.C02

/-- Go `int` overflow: two's complement, 64 bits -/
def wrap64 (n : Int) : Int := Int.bmod n (2 ^ 64)

/-- add/sub/mul/divByteCode on two ints or two strings (data.Normalize is the identity on same-typed operands) -/
def cArith (_m : Mode) (op : ArOp) (a b : Val) : Except Err Base :=
  match a.unwrap, b.unwrap with
  | .plain (.int x), .plain (.int y) =>
    match op with
    | .add => .ok (.int (wrap64 (x + y)))
    | .sub => .ok (.int (wrap64 (x - y)))
    | .mul => .ok (.int (wrap64 (x * y)))
    | .div => if y = 0 then .error .divideByZero else .ok (.int (wrap64 (Int.tdiv x y)))
  | .plain (.str x), .plain (.str y) =>
    match op with
    | .add => .ok (.str (x ++ y))
    | _ => .error (.other 9)             -- string subtraction / repetition: outside the value model
  | .plain .nil, _ => .error .invalidType
  | _, .plain .nil => .error .invalidType
  | _, _ => .error (.other 9)

def cmpInt (op : CmpOp) (x y : Int) : Bool :=
  match op with
  | .lt => x < y | .le => x ≤ y | .gt => x > y | .ge => x ≥ y | .eq => x == y | .ne => x != y

def cmpStr (op : CmpOp) (x y : String) : Bool :=
  match op with
  | .lt => x < y | .le => x ≤ y | .gt => x > y | .ge => x ≥ y | .eq => x == y | .ne => x != y

/-- the comparison handlers on two ints, two strings or two bools -/
def cCmp (_m : Mode) (op : CmpOp) (a b : Val) : Except Err Bool :=
  match a.unwrap, b.unwrap with
  | .plain (.int x), .plain (.int y) => .ok (cmpInt op x y)
  | .plain (.str x), .plain (.str y) => .ok (cmpStr op x y)
  | .plain (.bool x), .plain (.bool y) =>
    match op with
    | .eq => .ok (x == y)
    | .ne => .ok (x != y)
    | _ => .error .invalidType
  | _, _ => .error (.other 9)

/-- incrementByteCode's strict-mode kind test, Normalize and `+`: the same addition as addByteCode on two ints
    or two strings; a nil step is a kind mismatch in strict mode (Add reports it as an invalid type instead) -/
def cIncr (m : Mode) (b : Base) (k : Val) : Except Err Base :=
  match b, k.unwrap with
  | .int x, .plain (.int y) => .ok (.int (wrap64 (x + y)))
  | .str x, .plain (.str y) => .ok (.str (x ++ y))
  | .int _, .plain .nil => if m == .strict && !k.isConst then .error .typeMismatch else .error (.other 9)
  | .str _, .plain .nil => if m == .strict && !k.isConst then .error .typeMismatch else .error (.other 9)
  | _, _ => .error (.other 9)

/-- the driver's primitives; `incr` is incrementByteCode's switch: same Normalize, same `+` -/
def cPrim : Prim where
  arith := cArith
  cmp := cCmp
  -- checkTypeCore on values of different Go types.  Strict mode: a non-constant is rejected, and a constant is adapted
  -- only between two NUMERIC kinds (isNumericKind) — the value model has one numeric kind (int), so two values of
  -- different types are never both numeric and every such store is ErrInvalidVarType, constant or not.
  -- Relaxed mode (data.Coerce) is outside the value model.
  coerce := fun m _ _ _ => if m == .strict then .error .invalidVarType else .error (.other 8)
  incr := cIncr
  storeIdx := fun _ dest _ _ => match dest with
    | .ref _ => none
    | _ => some .invalidType

theorem cArith_add_shape (m : Mode) (b : Base) (k : Val) (r : Base) (h : cArith m .add (.plain b) k = .ok r) :
    (∃ x y, b = .int x ∧ r = .int y) ∨ (∃ x y, b = .str x ∧ r = .str y) := by
  unfold cArith at h
  split at h
  · rename_i hx _
    cases hx
    exact Or.inl ⟨_, _, rfl, (Except.ok.inj h).symm⟩
  · rename_i hx _
    cases hx
    exact Or.inr ⟨_, _, rfl, (Except.ok.inj h).symm⟩
  all_goals cases h

/-- the two handlers share Normalize and `+`, and differ only in how they reject nil -/
theorem cArith_add_eq_cIncr (m : Mode) (b : Base) (k : Val) (hb : b ≠ .nil) (hk : k.unwrap ≠ .plain .nil) :
    cArith m .add (.plain b) k = cIncr m b k := by
  unfold cArith cIncr
  generalize k.unwrap = u at hk
  cases b with
  | nil => exact absurd rfl hb
  | _ => rcases u with (_ | _ | _ | _ | _) | _ | _ | _ <;> first | rfl | exact absurd rfl hk

/-- the concrete primitives satisfy `IncrLaw`, the hypothesis of `sound_increment` -/
theorem C02_incr_law_concrete : IncrLaw cPrim := by
  intro st name b k _ _ hk2
  by_cases hnil : b = .nil
  · subst hnil
    rw [if_pos rfl]
    rfl
  · rw [if_neg hnil]
    rw [show cPrim.arith = cArith from rfl, cArith_add_eq_cIncr st.mode b k hnil hk2]
    rfl

/-- tryConstantArithmetic (optimizer.go), restricted to the driver's values: string concatenation, and
    int add/sub/mul; everything else (in particular integer division) falls back to executeFragment -/
def tryConstArith (op : ArOp) (a b : Val) : Option Base :=
  match a.unwrap, b.unwrap with
  | .plain (.str x), .plain (.str y) => if op = .add then some (.str (x ++ y)) else none
  | .plain (.int x), .plain (.int y) =>
    match op with
    | .add => some (.int (wrap64 (x + y)))
    | .sub => some (.int (wrap64 (x - y)))
    | .mul => some (.int (wrap64 (x * y)))
    | .div => none
  | _, _ => none

/-- **fold soundness**: a constant the optimizer's fast path computes is the constant the instruction computes,
    in every type mode -/
theorem C02_fold_sound (op : ArOp) (a b : Val) (r : Base) (h : tryConstArith op a b = some r) (m : Mode) :
    cArith m op a b = .ok r := by
  unfold tryConstArith at h
  unfold cArith
  split at h
  case h_3 => cases h
  all_goals
    rename_i hx hy
    rw [hx, hy]
    cases op <;> cases h <;> rfl

theorem isMarker_of_unwrap_plain {v : Val} {c : Base} (h : v.unwrap = .plain c) : v.isMarker = false := by
  cases v <;> first | rfl | cases h

/-- the four fold rules on the concrete primitives: whenever the fast path folds, the folded Push is equivalent -/
theorem C02_fold_rule_concrete (oc : Opc) (op : ArOp) (hop : arOf oc = some op) (a b : Val) (r : Base)
    (h : tryConstArith op a b = some r) (st : MState) :
    exec cPrim [⟨.push, Opd.ofVal a⟩, ⟨.push, Opd.ofVal b⟩, ⟨oc, .none⟩] st
      = exec cPrim [⟨.push, Opd.ofVal (.plain r)⟩] st := by
  -- the fast path folds plain or constant-wrapped ints and strings only, never a marker
  have hm : a.isMarker = false ∧ b.isMarker = false := by
    have h' := h
    unfold tryConstArith at h'
    split at h'
    case h_3 => cases h'
    all_goals exact ⟨isMarker_of_unwrap_plain ‹_›, isMarker_of_unwrap_plain ‹_›⟩
  exact sound_fold cPrim oc op hop a b r st hm (C02_fold_sound op a b r h st.mode)

example : tryConstArith .add (.const (.int 2)) (.const (.int 3)) = some (.int 5) := by decide
example : tryConstArith .add (.const (.str "a")) (.const (.str "b")) = some (.str "ab") := by decide

end EgoVerif.C02
