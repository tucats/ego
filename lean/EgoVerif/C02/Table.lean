import EgoVerif.C02.Shapes
/-
C02 — the proved-rule table: every canonical rule with the side condition under which pattern and
replacement are observationally equal, and the proof.  `C02_rule_sound` (Props.lean) quantifies over it.
-/
namespace EgoVerif.C02

/-- a side condition may mention the binding, the value the optimizer computed for a folded fragment, the state -/
abbrev Side := Binding → Val → MState → Prop

/-- observational equality of two outcomes: same error class, or same state — exactly, or (for the one
    rule that deletes `SymbolOptCreate "_"`) up to the presence of the discard name "_" in the tables -/
def ObsEq (exact : Bool) (a b : R) : Prop :=
  if exact then a = b
  else ∃ s t, a = .ok s ∧ b = .ok t ∧ eraseDiscard s = eraseDiscard t

def SoundUnder (P : Prim) (r : Rule) (exact : Bool) (side : Side) : Prop :=
  ∀ σ frag st, admissible r σ = true → side σ frag st →
    ∃ pi ri, r.instPattern σ = some pi ∧ r.instReplacement σ frag = some ri ∧ ObsEq exact (exec P pi st) (exec P ri st)

structure Entry where
  rule : Rule
  exact : Bool
  side : Prim → Side

def sTrue : Prim → Side := fun _ _ _ _ => True
/-- the stack pointer is never below the frame pointer -/
def sFrame : Prim → Side := fun _ _ _ st => st.fp ≤ st.stack.length
def sTopNotMarker : Prim → Side := fun _ _ _ st => topNotMarker st
def sNoDiscard : Prim → Side := fun _ _ _ st => st.scopes ≠ [] ∧ getSym st.scopes "_" = none
def sIncrement (n k : String) : Prim → Side := fun P σ _ st =>
  IncrLaw P ∧ plainName (σ n).asName ∧ (σ k).isMarker = false ∧ (σ k).unwrap ≠ .plain .nil ∧
  ∀ sym, getSym st.scopes (σ n).asName = some sym → ∃ b, sym.val = .plain b
def sAtLine (l1 : String) : Prim → Side := fun _ σ _ _ => (σ l1).asInt?.isSome
def sLoadThis (n : String) : Prim → Side := fun _ σ _ _ => ∃ s, σ n = vStr s
def sPopScope (c1 c2 : String) : Prim → Side := fun _ σ _ _ => countOperand (σ c1) ∧ countOperand (σ c2)
def sCreateStore (n : String) : Prim → Side := fun _ σ _ st =>
  plainName (σ n).asName ∧ ∃ v rest, st.stack = v :: rest ∧ v.isMarker = false
def sStoreIndex (v : String) : Prim → Side := fun _ σ _ _ => σ v ≠ .plain .nil
def sStoreAlways (v : String) : Prim → Side := fun _ σ _ _ => (σ v).isMarker = false ∧ (σ v).isConst = false
def sFold (op : ArOp) (a b : String) : Prim → Side := fun P σ frag st =>
  (σ a).isMarker = false ∧ (σ b).isMarker = false ∧ ∃ r, P.arith st.mode op (σ a) (σ b) = .ok r ∧ frag = .plain r

def table : List Entry := [
  ⟨rLetNoop, true, sFrame⟩,
  ⟨rPushDrop "", true, sTrue⟩,
  ⟨rStoreDiscard, true, sTopNotMarker⟩,
  ⟨rOptCreateDiscard, false, sNoDiscard⟩,
  ⟨rIncrement "name" "increment", true, sIncrement "name" "increment"⟩,
  ⟨rCmpConst .lessThan "value", true, sTrue⟩,
  ⟨rCmpConst .lessThanOrEqual "value", true, sTrue⟩,
  ⟨rCmpConst .greaterThan "value", true, sTrue⟩,
  ⟨rCmpConst .greaterThanOrEqual "value", true, sTrue⟩,
  ⟨rCmpConst .equal "value", true, sTrue⟩,
  ⟨rCmpConst .notEqual "value", true, sTrue⟩,
  ⟨rAtLine "line1" "line2", true, sAtLine "line1"⟩,
  ⟨rLoadThis "name", true, sLoadThis "name"⟩,
  ⟨rPushCreateAndStore "value" "name", true, sTrue⟩,
  ⟨rLetConstStore "constant" "name", true, sFrame⟩,
  ⟨rPopScope2 "count1" "count2" "count", true, sPopScope "count1" "count2"⟩,
  ⟨rCreateStore "symbolName", true, sCreateStore "symbolName"⟩,
  ⟨rPushStoreIndex "value", true, sStoreIndex "value"⟩,
  ⟨rPushStoreAlways "value" "name", true, sStoreAlways "value"⟩,
  ⟨rFold .add "v1" "v2" "sum", true, sFold .add "v1" "v2"⟩,
  ⟨rFold .sub "v1" "v2" "difference", true, sFold .sub "v1" "v2"⟩,
  ⟨rFold .mul "v1" "v2" "product", true, sFold .mul "v1" "v2"⟩,
  ⟨rFold .div "v1" "v2" "dividend", true, sFold .div "v1" "v2"⟩]

theorem table_rules : table.map (·.rule) = provedRules := rfl

variable (P : Prim)

theorem e_letNoop : SoundUnder P rLetNoop true (sFrame P) := by
  intro σ frag st _ hs
  exact ⟨_, _, rfl, rfl, sound_letNoop P st hs⟩

theorem e_pushDrop (n : String) : SoundUnder P (rPushDrop n) true (sTrue P) := by
  intro σ frag st _ _
  exact ⟨_, _, rfl, rfl, sound_pushDrop P st (σ n)⟩

theorem e_storeDiscard : SoundUnder P rStoreDiscard true (sTopNotMarker P) := by
  intro σ frag st _ hs
  exact ⟨_, _, rfl, rfl, sound_storeDiscard P st hs⟩

theorem e_optCreateDiscard : SoundUnder P rOptCreateDiscard false (sNoDiscard P) := by
  intro σ frag st _ hs
  obtain ⟨st', h1, h2⟩ := sound_optCreateDiscard P st hs.1 hs.2
  exact ⟨_, _, rfl, rfl, st', st, h1, rfl, h2⟩

theorem e_increment (n k : String) : SoundUnder P (rIncrement n k) true (sIncrement n k P) := by
  intro σ frag st _ hs
  exact ⟨_, _, rfl, rfl, sound_increment P hs.1 (σ n) (σ k) st hs.2.1 hs.2.2.1 hs.2.2.2.1 hs.2.2.2.2⟩

theorem e_cmpConst (oc : Opc) (op : CmpOp) (h : cmpOf oc = some op) (v : String) :
    SoundUnder P (rCmpConst oc v) true (sTrue P) := by
  intro σ frag st _ _
  exact ⟨_, _, rfl, rfl, sound_cmpConst P oc op h (σ v) st⟩

theorem e_atLine (a b : String) : SoundUnder P (rAtLine a b) true (sAtLine a P) := by
  intro σ frag st _ hs
  exact ⟨_, _, rfl, rfl, sound_atLine P (σ a) (σ b) st hs⟩

theorem e_loadThis (n : String) : SoundUnder P (rLoadThis n) true (sLoadThis n P) := by
  intro σ frag st _ hs
  exact ⟨_, _, rfl, rfl, sound_loadThis P (σ n) st hs⟩

/-- what ExcludeStackMarker guarantees about a matched operand -/
theorem phOK_exclMarker {σ : Binding} {p : Ph} (h : phOK σ p = true) (hp : p.exclMarker = true) :
    (σ p.name).isMarker = false := by
  simp only [phOK, hp, Bool.not_true, Bool.false_or, Bool.and_eq_true, Bool.not_eq_true'] at h
  exact h.2

theorem e_pushCreateAndStore (v n : String) : SoundUnder P (rPushCreateAndStore v n) true (sTrue P) := by
  intro σ frag st ha _
  have hv : phOK σ {name := v, exclMarker := true} = true := (Bool.and_eq_true_iff.mp ha).1
  exact ⟨_, _, rfl, rfl, sound_pushCreateAndStore P (σ v) (σ n) st (phOK_exclMarker hv rfl)⟩

theorem e_letConstStore (c n : String) : SoundUnder P (rLetConstStore c n) true (sFrame P) := by
  intro σ frag st _ hs
  exact ⟨_, _, rfl, rfl, sound_letConstStore P (σ c) (σ n) st hs⟩

theorem e_popScope2 (a b c : String) (hab : a ≠ b) : SoundUnder P (rPopScope2 a b c) true (sPopScope a b P) := by
  intro σ frag st _ hs
  -- the scratch register holds the sum of the two counts, the second name being seen for the first time
  have hreg : regCount σ 1 (rPopScope2 a b c).pattern [] = cntOf (σ a) + cntOf (σ b) := by
    simp [rPopScope2, regCount, hab.symm]
  exact ⟨_, _, rfl, rfl, sound_popScope2 P (σ a) (σ b) _ st hs.1 hs.2 hreg⟩

theorem e_createStore (n : String) : SoundUnder P (rCreateStore n) true (sCreateStore n P) := by
  intro σ frag st _ hs
  obtain ⟨hn, v, rest, hst, hv⟩ := hs
  exact ⟨_, _, rfl, rfl, sound_createStore P (σ n) st v rest hn hst hv⟩

theorem e_pushStoreIndex (v : String) : SoundUnder P (rPushStoreIndex v) true (sStoreIndex v P) := by
  intro σ frag st _ hs
  exact ⟨_, _, rfl, rfl, sound_pushStoreIndex P (σ v) st hs⟩

theorem e_pushStoreAlways (v n : String) : SoundUnder P (rPushStoreAlways v n) true (sStoreAlways v P) := by
  intro σ frag st _ hs
  exact ⟨_, _, rfl, rfl, sound_pushStoreAlways P (σ v) (σ n) st hs.1 hs.2⟩

theorem e_fold (oc : Opc) (op : ArOp) (h : arOf oc = some op) (a b r : String) :
    SoundUnder P (rFold oc a b r) true (sFold op a b P) := by
  intro σ frag st _ hs
  obtain ⟨ha, hb, res, hres, rfl⟩ := hs
  exact ⟨_, _, rfl, rfl, sound_fold P oc op h (σ a) (σ b) res st ⟨ha, hb⟩ hres⟩

end EgoVerif.C02
