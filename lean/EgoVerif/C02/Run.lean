import EgoVerif.C02.Shapes
/-
C02 — whole-program execution with branches (`run`), how a run passes through a straight-line segment, and the
simulation between two programs that differ in one such segment.
-/
namespace EgoVerif.C02

def target (i : Instr) : Option Nat :=
  match i.arg with
  | .val (.plain (.int t)) => if 0 ≤ t then some t.toNat else none
  | _ => none

/-- what one dispatched instruction does to the control state -/
inductive Next where
  | halt (r : R)
  | goto (pc : Nat) (st : MState)

def branchIf (want : Bool) (i : Instr) (pc : Nat) (st : MState) : Next :=
  match pop st with
  | .error e => .halt (.error e)
  | .ok (v, st') =>
    match v.unwrap with
    | .plain (.bool b) =>
      if b == want then
        match target i with
        | some t => .goto t st'
        | none => .halt (.error .invalidOperand)
      else .goto (pc + 1) st'
    | _ => .halt (.error .invalidType)

def next (P : Prim) (i : Instr) (pc : Nat) (st : MState) : Next :=
  match i.op with
  | .stop => .halt (.ok st)
  | .branch =>
    match target i with
    | some t => .goto t st
    | none => .halt (.error .invalidOperand)
  | .branchTrue => branchIf true i pc st
  | .branchFalse => branchIf false i pc st
  | _ =>
    match step1 P i st with
    | .error e => .halt (.error e)
    | .ok st' => .goto (pc + 1) st'

def run (P : Prim) (prog : List Instr) : Nat → Nat → MState → Option R
  | 0, _, _ => none
  | f + 1, pc, st =>
    match prog[pc]? with
    | none => some (.ok st)
    | some i =>
      match next P i pc st with
      | .halt r => some r
      | .goto pc' st' => run P prog f pc' st'

def Opc.isControl : Opc → Bool
  | .branch | .branchTrue | .branchFalse | .stop => true
  | _ => false

def Terminates (P : Prim) (prog : List Instr) (st : MState) (r : R) : Prop := ∃ f, run P prog f 0 st = some r

theorem next_plain (P : Prim) (i : Instr) (pc : Nat) (st : MState) (h : i.op.isControl = false) :
    next P i pc st = (match step1 P i st with | .error e => .halt (.error e) | .ok st' => .goto (pc + 1) st') := by
  unfold next
  cases hop : i.op <;> first | rfl | (rw [hop] at h; cases h)

/-- what `run` dispatches at `pc`; running off the end of the program ends the run normally -/
def stepAt (P : Prim) (prog : List Instr) (pc : Nat) (st : MState) : Next :=
  match prog[pc]? with
  | none => .halt (.ok st)
  | some i => next P i pc st

theorem run_succ (P : Prim) (prog : List Instr) (f pc : Nat) (st : MState) :
    run P prog (f + 1) pc st
      = (match stepAt P prog pc st with | .halt r => some r | .goto pc' st' => run P prog f pc' st') := by
  rw [run, stepAt]
  cases prog[pc]? <;> rfl

theorem run_mono_add (P : Prim) (prog : List Instr) (f k pc : Nat) (st : MState) (r : R)
    (h : run P prog f pc st = some r) : run P prog (f + k) pc st = some r := by
  induction f generalizing pc st with
  | zero => cases h
  | succ n ih =>
    rw [Nat.add_right_comm, run_succ]
    rw [run_succ] at h
    cases hx : stepAt P prog pc st with
    | halt r' => rw [hx] at h; exact h
    | goto pc' st' => rw [hx] at h; exact ih _ _ h

def SegAt (prog : List Instr) (a : Nat) (seg : List Instr) : Prop := seg <+: prog.drop a

theorem SegAt.tail {prog : List Instr} {a : Nat} {i : Instr} {rest : List Instr} (h : SegAt prog a (i :: rest)) :
    prog[a]? = some i ∧ SegAt prog (a + 1) rest := by
  obtain ⟨t, ht⟩ := h
  constructor
  · rw [← Nat.add_zero a, ← List.getElem?_drop, ← ht]
    rfl
  · exact ⟨t, by rw [← List.drop_drop, ← ht]; rfl⟩

theorem run_seg {P : Prim} {prog seg : List Instr} (hc : ∀ i ∈ seg, i.op.isControl = false) :
    ∀ {a : Nat} (f : Nat) (st : MState) (r : R), SegAt prog a seg →
      (run P prog (f + seg.length) a st = some r ↔
        match exec P seg st with
        | .error e => r = .error e
        | .ok st' => run P prog f (a + seg.length) st' = some r) := by
  induction seg with
  | nil => exact fun _ _ _ _ => Iff.rfl
  | cons i rest ih =>
    intro a f st r hs
    rw [List.length_cons, ← Nat.add_assoc, run_succ, exec_cons]
    simp only [stepAt, hs.tail.1, next_plain P i a st (hc i (List.mem_cons_self ..))]
    cases step1 P i st with
    | error e => exact ⟨fun h => (Option.some.inj h).symm, fun h => congrArg some h.symm⟩
    | ok st1 =>
      dsimp only
      rw [ih (fun j hj => hc j (List.mem_cons_of_mem _ hj)) f st1 r hs.tail.2, Nat.add_assoc, Nat.add_comm 1]

/-- two dispatch results that agree up to a relation `ρ` between the addresses at which they continue -/
inductive Next.Rel (ρ : Nat → Nat → Prop) : Next → Next → Prop
  | halt (r : R) : Next.Rel ρ (.halt r) (.halt r)
  | goto {a b : Nat} (h : ρ a b) (st : MState) : Next.Rel ρ (.goto a st) (.goto b st)

theorem Next.Rel.flip {ρ : Nat → Nat → Prop} {x y : Next} (h : Next.Rel ρ x y) :
    Next.Rel (fun b a => ρ a b) y x := by
  cases h with
  | halt r => exact .halt r
  | goto h st => exact .goto (ρ := fun b a => ρ a b) h st

def jump (i : Instr) (st : MState) : Next :=
  match target i with
  | some t => .goto t st
  | none => .halt (.error .invalidOperand)

theorem branchIf_rel {ρ : Nat → Nat → Prop} {i j : Instr} {pc pc' : Nat} (want : Bool) (st : MState)
    (hj : ∀ st', Next.Rel ρ (jump i st') (jump j st')) (hn : ρ (pc + 1) (pc' + 1)) :
    Next.Rel ρ (branchIf want i pc st) (branchIf want j pc' st) := by
  unfold branchIf
  cases pop st with
  | error e => exact .halt _
  | ok p =>
    dsimp only
    cases p.1.unwrap with
    | plain c =>
      cases c with
      | bool b =>
        dsimp only
        cases b == want
        · exact .goto hn _
        · exact hj _
      | _ => exact .halt _
    | _ => exact .halt _

/-- Nothing distinguishes `p` from `q`: the converse is this theorem for the converse of `ρ`. -/
theorem splice_sim (P : Prim) (p q : List Instr) (ρ : Nat → Nat → Prop) (a₀ b₀ : Nat) (u v : List Instr)
    (hu : SegAt p a₀ u) (hv : SegAt q b₀ v)
    (hcu : ∀ i ∈ u, i.op.isControl = false) (hcv : ∀ i ∈ v, i.op.isControl = false)
    (heq : ∀ st, exec P u st = exec P v st)
    (hend : ρ (a₀ + u.length) (b₀ + v.length)) (hne : 0 < u.length ∨ 0 < v.length)
    (hstep : ∀ a b st, ρ a b → ¬(a = a₀ ∧ b = b₀) → Next.Rel ρ (stepAt P p a st) (stepAt P q b st)) :
    ∀ (f a b : Nat) (st : MState) (r : R), ρ a b → run P p f a st = some r → ∃ g, run P q g b st = some r := by
  intro f
  induction f with
  | zero => intro a b st r _ h; cases h
  | succ k ih =>
    intro a b st r hab h
    have single : ∀ a b st, ρ a b → ¬(a = a₀ ∧ b = b₀) → run P p (k + 1) a st = some r →
        ∃ g, run P q g b st = some r := by
      intro a b st hab hn h
      rw [run_succ] at h
      have hr := hstep a b st hab hn
      generalize stepAt P p a st = x at h hr
      generalize hy : stepAt P q b st = y at hr
      cases hr with
      | halt r' => exact ⟨1, by rw [run_succ, hy]; exact h⟩
      | goto hab' st' =>
        obtain ⟨g, hg⟩ := ih _ _ _ _ hab' h
        exact ⟨g + 1, by rw [run_succ, hy]; exact hg⟩
    by_cases hs : a = a₀ ∧ b = b₀
    · obtain ⟨rfl, rfl⟩ := hs
      -- given fuel to spare, `p` leaves `u` and is then away from the pair; `q` gets to the same point through `v`
      have h1 := (run_seg hcu (k + 1) st r hu).mp (run_mono_add P p (k + 1) u.length a st r h)
      rw [heq] at h1
      cases hx : exec P v st with
      | error e => rw [hx] at h1; exact ⟨0 + v.length, (run_seg hcv 0 st r hv).mpr (by rw [hx]; exact h1)⟩
      | ok st' =>
        rw [hx] at h1
        obtain ⟨f, hf⟩ := single _ _ _ hend (by omega) h1
        exact ⟨f + v.length, (run_seg hcv f st r hv).mpr (by rw [hx]; exact hf)⟩
    · exact single a b st hab hs h

end EgoVerif.C02
