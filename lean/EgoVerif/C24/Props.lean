import EgoVerif.C24.Model
/-
C24 — the login rate limiter locks an account as configured (model of the code WITH fixes/C24.patch).
`obsOf cfg u evs` reads off the OBSERVED trace of one user, without a look at the limiter's state, the two
quantities the property speaks about:
  * `streak` — consecutive denied attempts since the user's last successful login
              (refused attempts are not counted: the password was not looked at),
  * `lockT`  — the time of the most recent denied attempt at which the streak was at or above the limit
              (`none` if there is none since the last success, or the limit is 0).
`InvU` ties the limiter's record of a user to that trace along every history; the theorems about histories are
readings of it.
-/
namespace EgoVerif.C24

set_option linter.unusedSectionVars false

variable {U : Type} [DecidableEq U]

structure Obs where
  streak : Nat
  lockT : Option Nat
  deriving Repr, DecidableEq

def obsStep (cfg : Cfg) (o : Obs) (t : Nat) : Outcome → Obs
  | .ok => ⟨0, none⟩
  | .denied => ⟨o.streak + 1, if 0 < cfg.limit ∧ cfg.limit ≤ o.streak + 1 then some t else o.lockT⟩
  | .locked _ => o

/-- events newest first -/
def obsOf (cfg : Cfg) (u : U) : List (Event U) → Obs
  | [] => ⟨0, none⟩
  | e :: rest => if e.u = u then obsStep cfg (obsOf cfg u rest) e.t e.out else obsOf cfg u rest

/-! ### instrumented run: state, events (newest first), and "the pruner forgot failures of u" -/

/-- `forgot u` becomes true when `pruneLoginAttempts` deletes u's record and false again at
u's next successful login (from then on limiter and observed streak agree again). -/
def forgotStep (cfg : Cfg) (u : U) (s : St U) (f : Bool) : Op U → Bool
  | .prune => f || (match s.recs u with | some r => stale cfg s.now r | none => false)
  | .attempt v k => if v = u ∧ (attempt cfg s v k).2.1 = .ok then false else f
  | .advance _ => f

structure G (U : Type) where
  st : St U
  evs : List (Event U)
  forgot : U → Bool

def gstep (cfg : Cfg) (g : G U) (op : Op U) : G U :=
  { st := (stepOp cfg g.st op).1
    evs := match (stepOp cfg g.st op).2 with | some e => e :: g.evs | none => g.evs
    forgot := fun u => forgotStep cfg u g.st (g.forgot u) op }

def grun (cfg : Cfg) (g : G U) (ops : List (Op U)) : G U := ops.foldl (gstep cfg) g

def ginit : G U := ⟨init, [], fun _ => false⟩

/-- the instrumented run of a history from the empty limiter -/
def hist (cfg : Cfg) (ops : List (Op U)) : G U := grun cfg ginit ops

theorem grun_st (cfg : Cfg) (g : G U) (ops : List (Op U)) : (grun cfg g ops).st = srun cfg g.st ops := by
  induction ops generalizing g with
  | nil => rfl
  | cons op ops ih => simp only [grun, srun, List.foldl_cons] at ih ⊢; exact ih (gstep cfg g op)

section
variable (cfg : Cfg) (s s' : St U) (u v : U) (k : Kind)

theorem check_zero_limit (h : cfg.limit = 0) : check cfg s u = 0 := by
  simp [check, h]

theorem check_pos_iff :
    0 < check cfg s u ↔ cfg.limit ≠ 0 ∧ ∃ r, s.recs u = some r ∧ s.now < r.lockedUntil := by
  unfold check
  by_cases hl : cfg.limit = 0
  · simp [hl]
  · cases hr : s.recs u with
    | none => simp [hl]
    | some r =>
      by_cases hlt : s.now < r.lockedUntil <;> simp [hl, hlt]

theorem unlocked_getD (hl : cfg.limit ≠ 0) (hc : ¬ 0 < check cfg s u) :
    ((s.recs u).getD ⟨0, 0, 0⟩).lockedUntil ≤ s.now := by
  cases hr : s.recs u with
  | none => exact Nat.zero_le _
  | some r => exact Nat.le_of_not_lt fun hlt => hc ((check_pos_iff cfg s u).2 ⟨hl, r, hr, hlt⟩)

theorem failRec_unlocked (now : Nat) (old : Option Rec) (h : (old.getD ⟨0, 0, 0⟩).lockedUntil ≤ now) :
    failRec cfg now old = ⟨(old.getD ⟨0, 0, 0⟩).failures + 1, now,
      if cfg.limit ≤ (old.getD ⟨0, 0, 0⟩).failures + 1 then now + cfg.lockout
      else (old.getD ⟨0, 0, 0⟩).lockedUntil⟩ := by
  simp only [failRec, Nat.not_lt.2 h, not_false_eq_true, and_true]; split <;> rfl

theorem recordFailure_now : (recordFailure cfg s u).now = s.now := by
  unfold recordFailure; split <;> rfl

theorem recordFailure_self :
    (recordFailure cfg s u).recs u =
      if cfg.limit = 0 then s.recs u else some (failRec cfg s.now (s.recs u)) := by
  unfold recordFailure; split <;> simp [upd]

theorem stale_iff (now : Nat) (r : Rec) :
    stale cfg now r = true ↔ r.lockedUntil < now ∧ r.lastFailure + 2 * cfg.lockout < now := by
  simp only [stale, Bool.and_eq_true, decide_eq_true_eq]

theorem prune_cases (f : Bool) :
    ((prune cfg s).recs u = s.recs u ∧ forgotStep cfg u s f .prune = f) ∨
    ∃ r, s.recs u = some r ∧ (r.lockedUntil < s.now ∧ r.lastFailure + 2 * cfg.lockout < s.now) ∧
      (prune cfg s).recs u = none ∧ forgotStep cfg u s f .prune = true := by
  simp only [prune, forgotStep]
  cases hr : s.recs u with
  | none => exact .inl ⟨rfl, Bool.or_false f⟩
  | some r =>
    dsimp only
    cases hst : stale cfg s.now r with
    | false => exact .inl ⟨rfl, Bool.or_false f⟩
    | true => exact .inr ⟨r, rfl, (stale_iff cfg s.now r).1 hst, rfl, Bool.or_true f⟩

theorem check_congr (hn : s.now = s'.now) (hr : s.recs u = s'.recs u) :
    check cfg s u = check cfg s' u := by
  simp only [check, hn, hr]

theorem attempt_locked (h : 0 < check cfg s u) :
    attempt cfg s u k = (s, .locked (check cfg s u), false) := by
  simp [attempt, h]

theorem attempt_good (h : ¬ 0 < check cfg s u) :
    attempt cfg s u .good = (recordSuccess s u, .ok, true) := by
  simp [attempt, h]

theorem attempt_fail (hk : k ≠ .good) (h : ¬ 0 < check cfg s u) :
    attempt cfg s u k = (recordFailure cfg s u, .denied, true) := by
  cases k with
  | good => exact absurd rfl hk
  | bad | empty => simp [attempt, h]

theorem attempt_cases :
    (0 < check cfg s u ∧ attempt cfg s u k = (s, .locked (check cfg s u), false)) ∨
    (¬ 0 < check cfg s u ∧ k = .good ∧ attempt cfg s u k = (recordSuccess s u, .ok, true)) ∨
    (¬ 0 < check cfg s u ∧ k ≠ .good ∧ attempt cfg s u k = (recordFailure cfg s u, .denied, true)) := by
  by_cases hc : 0 < check cfg s u
  · exact .inl ⟨hc, attempt_locked cfg s u k hc⟩
  · by_cases hk : k = .good
    · exact .inr (.inl ⟨hc, hk, hk ▸ attempt_good cfg s u hc⟩)
    · exact .inr (.inr ⟨hc, hk, attempt_fail cfg s u k hk hc⟩)

theorem attempt_now : (attempt cfg s u k).1.now = s.now := by
  rcases attempt_cases cfg s u k with ⟨_, h⟩ | ⟨_, _, h⟩ | ⟨_, _, h⟩ <;> rw [h]
  · rfl
  · exact recordFailure_now cfg s u

theorem attempt_other (hv : u ≠ v) :
    (attempt cfg s v k).1.recs u = s.recs u := by
  rcases attempt_cases cfg s v k with ⟨_, h⟩ | ⟨_, _, h⟩ | ⟨_, _, h⟩ <;> rw [h]
  · exact if_neg hv
  · unfold recordFailure; split <;> simp [upd, hv]

theorem attempt_isLocked_iff :
    (attempt cfg s u k).2.1.isLocked = true ↔ 0 < check cfg s u := by
  rcases attempt_cases cfg s u k with ⟨hc, h⟩ | ⟨hc, _, h⟩ | ⟨hc, _, h⟩ <;> rw [h]
  · exact iff_of_true rfl hc
  · exact iff_of_false Bool.false_ne_true hc
  · exact iff_of_false Bool.false_ne_true hc

theorem srun_now_le (ops : List (Op U)) : s.now ≤ (srun cfg s ops).now := by
  induction ops generalizing s with
  | nil => exact Nat.le_refl _
  | cons op ops ih =>
    refine Nat.le_trans ?_ (ih _)
    cases op with
    | attempt u k => exact Nat.le_of_eq (attempt_now cfg s u k).symm
    | advance d => exact Nat.le_add_right _ _
    | prune => exact Nat.le_refl _

theorem stepOp_keeps_locked (r : Rec) (op : Op U) (hl : cfg.limit ≠ 0)
    (hr : s.recs u = some r) (hn : (stepOp cfg s op).1.now < r.lockedUntil) :
    (stepOp cfg s op).1.recs u = some r := by
  cases op with
  | attempt v k =>
    simp only [stepOp] at hn ⊢
    rw [attempt_now] at hn
    by_cases hv : u = v
    · subst hv
      have hc : 0 < check cfg s u := (check_pos_iff cfg s u).2 ⟨hl, r, hr, hn⟩
      rw [attempt_locked cfg s u k hc]; exact hr
    · rw [attempt_other cfg s u v k hv]; exact hr
  | advance d => exact hr
  | prune =>
    rcases prune_cases cfg s u false with ⟨hp, _⟩ | ⟨r', hr', hst, _, _⟩
    · exact hp.trans hr
    · -- a stale record is not locked
      cases hr.symm.trans hr'
      exact absurd hn (Nat.lt_asymm hst.1)

theorem srun_keeps_locked (r : Rec) (ops : List (Op U)) (hl : cfg.limit ≠ 0)
    (hr : s.recs u = some r) (hn : (srun cfg s ops).now < r.lockedUntil) :
    (srun cfg s ops).recs u = some r := by
  induction ops generalizing s with
  | nil => exact hr
  | cons op ops ih =>
    exact ih _ (stepOp_keeps_locked cfg s u r op hl hr (Nat.lt_of_le_of_lt (srun_now_le cfg _ ops) hn)) hn

end

/-- **C24_lock_window.**  From ANY limiter state: if an attempt of `u` at time t₀ is consulted and
denied and leaves the limiter's failure count of `u` at or above the (non-zero) limit, then after
ANY further operations (attempts of anyone with any password, prunes, time steps), as long as the
clock is before t₀ + lockout, an attempt of `u` is refused with a positive Retry-After, the
limiter state is untouched and ValidatePassword is not called. -/
theorem C24_lock_window (cfg : Cfg) (s : St U) (u : U) (k : Kind) (r : Rec) (hpos : 0 < cfg.limit)
    (hout : (attempt cfg s u k).2.1 = .denied)
    (hrec : (attempt cfg s u k).1.recs u = some r) (hlim : cfg.limit ≤ r.failures)
    (ops : List (Op U)) (k' : Kind) :
    (srun cfg (attempt cfg s u k).1 ops).now < s.now + cfg.lockout →
    0 < check cfg (srun cfg (attempt cfg s u k).1 ops) u ∧
    attempt cfg (srun cfg (attempt cfg s u k).1 ops) u k' =
      (srun cfg (attempt cfg s u k).1 ops, .locked (check cfg (srun cfg (attempt cfg s u k).1 ops) u), false) := by
  intro hnow
  have hl : cfg.limit ≠ 0 := Nat.ne_of_gt hpos
  rcases attempt_cases cfg s u k with ⟨_, h⟩ | ⟨_, _, h⟩ | ⟨hc, _, h⟩ <;> rw [h] at hout hrec hnow ⊢
  · cases hout
  · cases hout
  · -- the record left is `failRec` of an unlocked record whose count reached the limit
    have hr := hrec
    rw [recordFailure_self, if_neg hl] at hr
    cases hr
    have e := failRec_unlocked cfg s.now (s.recs u) (unlocked_getD cfg s u hl hc)
    have hlu : (failRec cfg s.now (s.recs u)).lockedUntil = s.now + cfg.lockout := by
      rw [e] at hlim ⊢; exact if_pos hlim
    have hn := hlu ▸ hnow
    have hc := (check_pos_iff cfg _ u).2 ⟨hl, _, srun_keeps_locked cfg _ u _ ops hl hrec hn, hn⟩
    exact ⟨hc, attempt_locked cfg _ u k' hc⟩

theorem gstep_attempt (cfg : Cfg) (g : G U) (v : U) (k : Kind) :
    gstep cfg g (.attempt v k) =
      ⟨(attempt cfg g.st v k).1,
       ⟨g.st.now, v, (attempt cfg g.st v k).2.1, (attempt cfg g.st v k).2.2⟩ :: g.evs,
       fun u => if v = u ∧ (attempt cfg g.st v k).2.1 = .ok then false else g.forgot u⟩ := rfl

/-! ### the invariant tying the limiter's record of u to the observed trace of u -/

structure InvU (cfg : Cfg) (g : G U) (u : U) : Prop where
  lockT_ok : ∀ t, (obsOf cfg u g.evs).lockT = some t →
    t ≤ g.st.now ∧ 0 < cfg.limit ∧ cfg.limit ≤ (obsOf cfg u g.evs).streak
  none_streak : g.st.recs u = none → cfg.limit ≠ 0 → g.forgot u = false → (obsOf cfg u g.evs).streak = 0
  basic : ∀ r, g.st.recs u = some r →
    cfg.limit ≠ 0 ∧ 1 ≤ r.failures ∧ r.failures ≤ (obsOf cfg u g.evs).streak ∧
    r.lastFailure ≤ g.st.now ∧ r.lockedUntil ≤ r.lastFailure + cfg.lockout
  locked : ∀ r, g.st.recs u = some r → g.st.now < r.lockedUntil →
    ∃ t1, (obsOf cfg u g.evs).lockT = some t1 ∧ r.lockedUntil ≤ t1 + cfg.lockout
  exact : ∀ r, g.st.recs u = some r → g.forgot u = false →
    r.failures = (obsOf cfg u g.evs).streak ∧
    ∀ t0, (obsOf cfg u g.evs).lockT = some t0 → r.lockedUntil = t0 + cfg.lockout

section
variable {cfg : Cfg} {g g' : G U} {u : U}

theorem InvU.of_no_record (hrec : g'.st.recs u = none)
    (hlock : ∀ t, (obsOf cfg u g'.evs).lockT = some t →
      t ≤ g'.st.now ∧ 0 < cfg.limit ∧ cfg.limit ≤ (obsOf cfg u g'.evs).streak)
    (hstreak : cfg.limit ≠ 0 → g'.forgot u = false → (obsOf cfg u g'.evs).streak = 0) : InvU cfg g' u where
  lockT_ok := hlock
  none_streak _ := hstreak
  basic r hr := by rw [hrec] at hr; cases hr
  locked r hr := by rw [hrec] at hr; cases hr
  exact r hr := by rw [hrec] at hr; cases hr

theorem InvU.of_same (h : InvU cfg g u) (hrec : g'.st.recs u = g.st.recs u)
    (hobs : obsOf cfg u g'.evs = obsOf cfg u g.evs) (hf : g'.forgot u = g.forgot u)
    (hnow : g.st.now ≤ g'.st.now) : InvU cfg g' u := by
  obtain ⟨h1, h2, h3, h4, h5⟩ := h
  refine ⟨?_, ?_, ?_, ?_, ?_⟩ <;> rw [hobs]
  · intro t ht; exact ⟨Nat.le_trans (h1 t ht).1 hnow, (h1 t ht).2⟩
  · rw [hrec, hf]; exact h2
  · rw [hrec]; intro r hr
    obtain ⟨a, b, c, d, e⟩ := h3 r hr
    exact ⟨a, b, c, Nat.le_trans d hnow, e⟩
  · rw [hrec]; intro r hr hlt; exact h4 r hr (Nat.lt_of_le_of_lt hnow hlt)
  · rw [hrec, hf]; exact h5

/-- a consulted failure of `u` -/
theorem InvU.of_denied (h : InvU cfg g u) (hc : ¬ 0 < check cfg g.st u)
    (hrec : g'.st.recs u = if cfg.limit = 0 then g.st.recs u else some (failRec cfg g.st.now (g.st.recs u)))
    (hobs : obsOf cfg u g'.evs = obsStep cfg (obsOf cfg u g.evs) g.st.now .denied)
    (hf : g'.forgot u = g.forgot u) (hnow : g'.st.now = g.st.now) : InvU cfg g' u := by
  obtain ⟨h1, h2, h3, h4, h5⟩ := h
  generalize obsOf cfg u g.evs = o at *
  -- a lock time in the new trace is the present failure: an older one would mean the streak was at the limit already
  have hK : ∀ t, (obsStep cfg o g.st.now .denied).lockT = some t →
      t = g.st.now ∧ 0 < cfg.limit ∧ cfg.limit ≤ o.streak + 1 := by
    intro t ht
    simp only [obsStep] at ht
    split at ht
    · rename_i hlim; cases ht; exact ⟨rfl, hlim⟩
    · rename_i hlim; exact absurd ⟨(h1 t ht).2.1, Nat.le_succ_of_le (h1 t ht).2.2⟩ hlim
  by_cases hl : cfg.limit = 0
  · -- lockout disabled: the limiter keeps no record at all
    rw [if_pos hl] at hrec
    refine .of_no_record ?_ (fun t ht => ?_) (fun hl' => absurd hl hl')
    · cases hr : g.st.recs u with
      | none => rw [hrec, hr]
      | some r => exact absurd hl (h3 r hr).1
    · rw [hobs] at ht; exact absurd hl (Nat.ne_of_gt (hK t ht).2.1)
  · rw [if_neg hl] at hrec
    -- the old record (or the fresh zero record) is not locked and counts no more than the observed streak
    have hA2 := unlocked_getD cfg g.st u hl hc
    have hA : ((g.st.recs u).getD ⟨0, 0, 0⟩).failures ≤ o.streak ∧
        (g.forgot u = false → ((g.st.recs u).getD ⟨0, 0, 0⟩).failures = o.streak) := by
      cases hold : g.st.recs u with
      | none => exact ⟨Nat.zero_le _, fun hfg => (h2 hold hl hfg).symm⟩
      | some r0 => exact ⟨(h3 r0 hold).2.2.1, fun hfg => (h5 r0 hold hfg).1⟩
    rw [failRec_unlocked cfg _ _ hA2] at hrec
    generalize (g.st.recs u).getD ⟨0, 0, 0⟩ = r0 at hA hA2 hrec
    generalize hlu : ite (cfg.limit ≤ r0.failures + 1) (g.st.now + cfg.lockout) r0.lockedUntil = lu at hrec
    have hLle : lu ≤ g.st.now + cfg.lockout := by
      rw [← hlu]; split
      · exact Nat.le_refl _
      · exact Nat.le_trans hA2 (Nat.le_add_right _ _)
    have hLlt : g.st.now < lu → cfg.limit ≤ r0.failures + 1 := by
      rw [← hlu]; split
      · exact fun _ => ‹_›
      · exact fun h => absurd h (Nat.not_lt.2 hA2)
    refine ⟨?_, ?_, ?_, ?_, ?_⟩ <;> rw [hobs]
    · rw [hnow]; intro t ht
      exact ⟨Nat.le_of_eq (hK t ht).1, (hK t ht).2⟩
    · rw [hrec]; intro a; cases a
    · rw [hrec, hnow]; intro r hr; cases hr
      exact ⟨hl, Nat.succ_pos _, Nat.succ_le_succ hA.1, Nat.le_refl _, hLle⟩
    · rw [hrec, hnow]; intro r hr hlt; cases hr
      exact ⟨g.st.now, if_pos ⟨Nat.pos_of_ne_zero hl, Nat.le_trans (hLlt hlt) (Nat.succ_le_succ hA.1)⟩, hLle⟩
    · rw [hrec, hf]; intro r hr hfg; cases hr
      have e := hA.2 hfg
      refine ⟨congrArg (· + 1) e, fun t0 ht0 => ?_⟩
      rw [(hK t0 ht0).1, ← hlu]; exact if_pos (e ▸ (hK t0 ht0).2.2)

end

theorem inv_step (cfg : Cfg) (g : G U) (u : U) (op : Op U) (h : InvU cfg g u) :
    InvU cfg (gstep cfg g op) u := by
  cases op with
  | attempt v k =>
    rw [gstep_attempt]
    by_cases hv : v = u
    · subst hv
      rcases attempt_cases cfg g.st v k with ⟨_, e⟩ | ⟨_, _, e⟩ | ⟨hc, _, e⟩ <;> rw [e]
      · -- refused: nothing changes, the trace skips refusals
        exact h.of_same rfl (if_pos rfl) (if_neg fun h => nomatch h.2) (Nat.le_refl _)
      · -- success: record deleted, trace restarts
        have hobs : obsOf cfg v (⟨g.st.now, v, .ok, true⟩ :: g.evs) = ⟨0, none⟩ := if_pos rfl
        exact .of_no_record (if_pos rfl) (fun t ht => by rw [hobs] at ht; cases ht) (fun _ _ => by rw [hobs])
      · exact h.of_denied hc (recordFailure_self cfg g.st v) (if_pos rfl) (if_neg fun h => nomatch h.2)
          (recordFailure_now cfg g.st v)
    · exact h.of_same (attempt_other cfg g.st u v k (Ne.symm hv)) (if_neg hv) (if_neg fun h => hv h.1)
        (Nat.le_of_eq (attempt_now cfg g.st v k).symm)
  | advance d => exact h.of_same rfl rfl rfl (Nat.le_add_right _ _)
  | prune =>
    rcases prune_cases cfg g.st u (g.forgot u) with ⟨hr, hf⟩ | ⟨r, _, _, hr, hf⟩
    · exact h.of_same hr rfl hf (Nat.le_refl _)
    · -- the pruner forgets: only the clause about the trace's lock time is left
      exact .of_no_record hr h.lockT_ok (fun _ c => nomatch hf.symm.trans c)

theorem inv_grun (cfg : Cfg) (g : G U) (u : U) (ops : List (Op U)) (h : InvU cfg g u) :
    InvU cfg (grun cfg g ops) u := by
  induction ops generalizing g with
  | nil => exact h
  | cons op ops ih => exact ih _ (inv_step cfg g u op h)

theorem inv_hist (cfg : Cfg) (ops : List (Op U)) (u : U) : InvU cfg (hist cfg ops) u :=
  inv_grun cfg ginit u ops (.of_no_record rfl (fun _ ht => nomatch ht) (fun _ _ => rfl))

theorem hist_append (cfg : Cfg) (ops ops' : List (Op U)) :
    hist cfg (ops ++ ops') = grun cfg (hist cfg ops) ops' :=
  List.foldl_append

/-- **C24_locked_partial.**  For every history in which the pruner has not deleted a record of
`u` since u's last success: if the observed trace says that u's consecutive denied attempts
reached the limit at t₀ (no success since) and the clock is before t₀ + lockout, then an
attempt of `u` — whatever the password — is refused with a positive Retry-After, without calling
ValidatePassword and without touching the limiter. -/
theorem C24_locked_partial (cfg : Cfg) (ops : List (Op U)) (u : U) (k : Kind) (t0 : Nat)
    (hforgot : (hist cfg ops).forgot u = false)
    (hlock : (obsOf cfg u (hist cfg ops).evs).lockT = some t0)
    (hwin : (hist cfg ops).st.now < t0 + cfg.lockout) :
    0 < check cfg (hist cfg ops).st u ∧
    attempt cfg (hist cfg ops).st u k =
      ((hist cfg ops).st, .locked (check cfg (hist cfg ops).st u), false) := by
  have inv := inv_hist cfg ops u
  have h1 := inv.lockT_ok t0 hlock
  have hl : cfg.limit ≠ 0 := Nat.ne_of_gt h1.2.1
  cases hr : (hist cfg ops).st.recs u with
  | none => exact absurd (inv.none_streak hr hl hforgot ▸ h1.2.2) (Nat.not_le.2 h1.2.1)
  | some r =>
    have hc : 0 < check cfg (hist cfg ops).st u :=
      (check_pos_iff cfg _ u).2 ⟨hl, r, hr, (inv.exact r hr hforgot).2 t0 hlock ▸ hwin⟩
    exact ⟨hc, attempt_locked cfg _ u k hc⟩

/-- **C24_no_spurious.**  For EVERY history (prunes included): an attempt of `u` is refused only
if the limit is non-zero and the observed trace shows a denied attempt of `u` at some
t₀ ≤ now < t₀ + lockout at which u's consecutive denied attempts (no success since) had reached
the limit. -/
theorem C24_no_spurious (cfg : Cfg) (ops : List (Op U)) (u : U) (k : Kind)
    (h : (attempt cfg (hist cfg ops).st u k).2.1.isLocked = true) :
    0 < cfg.limit ∧ ∃ t0, (obsOf cfg u (hist cfg ops).evs).lockT = some t0 ∧
      t0 ≤ (hist cfg ops).st.now ∧ (hist cfg ops).st.now < t0 + cfg.lockout ∧
      cfg.limit ≤ (obsOf cfg u (hist cfg ops).evs).streak := by
  have inv := inv_hist cfg ops u
  obtain ⟨_, r, hr, hlt⟩ := (check_pos_iff cfg _ u).1 ((attempt_isLocked_iff cfg _ u k).1 h)
  obtain ⟨t1, ht1, hle⟩ := inv.locked r hr hlt
  obtain ⟨hnow, hpos, hlim⟩ := inv.lockT_ok t1 ht1
  exact ⟨hpos, t1, ht1, hnow, Nat.lt_of_lt_of_le hlt hle, hlim⟩

/-- number of attempts of `u` with a credential that cannot succeed -/
def failCount (u : U) : List (Op U) → Nat
  | [] => 0
  | .attempt v k :: ops => (if v = u ∧ k ≠ .good then 1 else 0) + failCount u ops
  | _ :: ops => failCount u ops

theorem streak_gstep_le (cfg : Cfg) (g : G U) (u : U) (op : Op U) (ops : List (Op U)) :
    (obsOf cfg u (gstep cfg g op).evs).streak + failCount u ops ≤
      (obsOf cfg u g.evs).streak + failCount u (op :: ops) := by
  cases op with
  | attempt v k =>
    rw [gstep_attempt]
    show (if v = u then obsStep cfg _ g.st.now _ else _).streak + _ ≤ _ + ((if v = u ∧ k ≠ .good then 1 else 0) + _)
    by_cases hv : v = u
    · subst hv; rw [if_pos rfl]
      rcases attempt_cases cfg g.st v k with ⟨_, h⟩ | ⟨_, _, h⟩ | ⟨_, hk, h⟩ <;> rw [h]
      · exact Nat.add_le_add_left (Nat.le_add_left _ _) _
      · exact Nat.add_le_add (Nat.zero_le _) (Nat.le_add_left _ _)
      · rw [if_pos ⟨rfl, hk⟩]; exact Nat.le_of_eq (Nat.add_assoc _ _ _)
    · rw [if_neg hv, if_neg fun h => hv h.1]; exact Nat.add_le_add_left (Nat.le_add_left _ _) _
  | advance d => exact Nat.le_refl _
  | prune => exact Nat.le_refl _

theorem streak_grun_le (cfg : Cfg) (g : G U) (u : U) (ops : List (Op U)) :
    (obsOf cfg u (grun cfg g ops).evs).streak ≤ (obsOf cfg u g.evs).streak + failCount u ops := by
  induction ops generalizing g with
  | nil => exact Nat.le_refl _
  | cons op ops ih => exact Nat.le_trans (ih (gstep cfg g op)) (streak_gstep_le cfg g u op ops)

theorem gstep_good (cfg : Cfg) (g : G U) (u : U) (hc : ¬ 0 < check cfg g.st u) :
    (gstep cfg g (.attempt u .good)).st.recs u = none ∧
    obsOf cfg u (gstep cfg g (.attempt u .good)).evs = ⟨0, none⟩ := by
  rw [gstep_attempt, attempt_good cfg g.st u hc]
  exact ⟨if_pos rfl, if_pos rfl⟩

/-- **C24_success_clears.**  For EVERY history: a successful login of `u` deletes u's failure
record, and from then on `u` is not refused before at least `limit` further attempts of `u` with
a bad credential have been made — whatever else happens (other users, prunes, time). -/
theorem C24_success_clears (cfg : Cfg) (ops : List (Op U)) (u : U)
    (hok : (attempt cfg (hist cfg ops).st u .good).2.1 = .ok) (ops' : List (Op U)) (k : Kind) :
    (hist cfg (ops ++ [.attempt u .good])).st.recs u = none ∧
    ((attempt cfg (hist cfg (ops ++ [.attempt u .good] ++ ops')).st u k).2.1.isLocked = true →
      cfg.limit ≤ failCount u ops') := by
  have hc : ¬ 0 < check cfg (hist cfg ops).st u := by
    intro hc; rw [attempt_locked cfg _ u .good hc] at hok; cases hok
  have hg1 : hist cfg (ops ++ [.attempt u .good]) = gstep cfg (hist cfg ops) (.attempt u .good) :=
    hist_append cfg ops _
  obtain ⟨hnone, hobs⟩ := gstep_good cfg (hist cfg ops) u hc
  refine ⟨hg1 ▸ hnone, fun hlk => ?_⟩
  obtain ⟨_, t0, _, _, _, hlim⟩ := C24_no_spurious cfg _ u k hlk
  rw [hist_append, hg1] at hlim
  have := streak_grun_le cfg (gstep cfg (hist cfg ops) (.attempt u .good)) u ops'
  rw [hobs, Nat.zero_add] at this
  exact Nat.le_trans hlim this

/-- **C24_limit_zero_never_locks.**  With the limit set to 0, from ANY limiter state (leftover
records included) no attempt is refused and the password is always consulted. -/
theorem C24_limit_zero_never_locks (cfg : Cfg) (h0 : cfg.limit = 0) (s : St U) (u : U) (k : Kind) :
    (attempt cfg s u k).2.1.isLocked = false ∧ (attempt cfg s u k).2.2 = true := by
  have hc : ¬ 0 < check cfg s u := by rw [check_zero_limit cfg s u h0]; exact Nat.lt_irrefl 0
  rcases attempt_cases cfg s u k with ⟨hc', _⟩ | ⟨_, _, h⟩ | ⟨_, _, h⟩
  · exact absurd hc' hc
  · rw [h]; exact ⟨rfl, rfl⟩
  · rw [h]; exact ⟨rfl, rfl⟩

/-- … hence no event of any history is a refusal when the limit is 0. -/
theorem C24_limit_zero_history (cfg : Cfg) (h0 : cfg.limit = 0) (ops : List (Op U)) :
    ∀ e ∈ (hist cfg ops).evs, e.out.isLocked = false ∧ e.called = true := by
  suffices ∀ g : G U, (∀ e ∈ g.evs, e.out.isLocked = false ∧ e.called = true) →
      ∀ e ∈ (grun cfg g ops).evs, e.out.isLocked = false ∧ e.called = true from this ginit fun _ h => nomatch h
  induction ops with
  | nil => exact fun _ hg => hg
  | cons op ops ih =>
    refine fun g hg => ih (gstep cfg g op) ?_
    cases op with
    | attempt u k => exact List.forall_mem_cons.2 ⟨C24_limit_zero_never_locks cfg h0 g.st u k, hg⟩
    | advance d => exact hg
    | prune => exact hg

/-- **C24_limit_zero_after_reconfig.**  The settings may change in the middle of a history: whatever
history ran under whatever earlier configuration `cfg` (from any state, so lockout records may exist
and be running), once the limit is set to 0 (`cfg'`) no attempt is refused and the password is
consulted — and this stays so after any further history under `cfg'`. -/
theorem C24_limit_zero_after_reconfig (cfg cfg' : Cfg) (h0 : cfg'.limit = 0) (s : St U)
    (ops ops' : List (Op U)) (u : U) (k : Kind) :
    (attempt cfg' (srun cfg' (srun cfg s ops) ops') u k).2.1.isLocked = false ∧
    (attempt cfg' (srun cfg' (srun cfg s ops) ops') u k).2.2 = true :=
  C24_limit_zero_never_locks cfg' h0 _ u k

/-- non-vacuity: user 0 is locked out under limit 2 (an attempt is refused), the limit is then set to 0
while that lockout is running, and the next attempt is answered on the password -/
example : (attempt ⟨2, 10⟩ (srun ⟨2, 10⟩ (init : St Nat) [.attempt 0 .bad, .attempt 0 .bad]) 0 .good).2.1.isLocked = true ∧
    (attempt ⟨0, 10⟩ (srun ⟨0, 10⟩ (srun ⟨2, 10⟩ (init : St Nat) [.attempt 0 .bad, .attempt 0 .bad]) [.advance 1]) 0 .good).2.1
      = .ok := by decide

/-- **C24_prune_never_unlocks.**  `pruneLoginAttempts` never changes the answer of
`CheckRateLimit` for any user, in any state. -/
theorem C24_prune_never_unlocks (cfg : Cfg) (s : St U) (u : U) :
    check cfg (prune cfg s) u = check cfg s u := by
  rcases prune_cases cfg s u false with ⟨hr, _⟩ | ⟨r, hr, hst, hp, _⟩
  · exact check_congr cfg _ _ u rfl hr
  · -- a stale record is not locked: with or without it the answer is 0
    have hlu : ¬ s.now < r.lockedUntil := Nat.lt_asymm hst.1
    simp only [check, hp, hr, hlu, if_false, ite_self]

/-- what the pruner forgets is stale: a record it deletes had its last failure more than
2·lockout ago and is not locked -/
theorem C24_prune_forgets_only_stale (cfg : Cfg) (s : St U) (u : U) (h : (prune cfg s).recs u ≠ s.recs u) :
    ∃ r, s.recs u = some r ∧ r.lastFailure + 2 * cfg.lockout < s.now ∧ r.lockedUntil < s.now := by
  rcases prune_cases cfg s u false with ⟨hr, _⟩ | ⟨r, hr, hst, _, _⟩
  · exact absurd hr h
  · exact ⟨r, hr, hst.2, hst.1⟩

/-! ### users are independent -/

/-- keep time steps, prunes and the attempts of `u`; erase every other user's attempts -/
def mine (u : U) : Op U → Bool
  | .attempt v _ => decide (v = u)
  | _ => true

def erase (u : U) (ops : List (Op U)) : List (Op U) := ops.filter (mine u)

/-- the events of `u` (oldest first) when `ops` runs from `s` -/
def answers (cfg : Cfg) (u : U) : St U → List (Op U) → List (Event U)
  | _, [] => []
  | s, op :: ops =>
    (match (stepOp cfg s op).2 with
      | some e => if e.u = u then [e] else []
      | none => []) ++ answers cfg u (stepOp cfg s op).1 ops

theorem attempt_congr (cfg : Cfg) (s s' : St U) (u : U) (k : Kind)
    (hn : s.now = s'.now) (hr : s.recs u = s'.recs u) :
    (attempt cfg s u k).2 = (attempt cfg s' u k).2 ∧
    (attempt cfg s u k).1.now = (attempt cfg s' u k).1.now ∧
    (attempt cfg s u k).1.recs u = (attempt cfg s' u k).1.recs u := by
  have hcc := check_congr cfg s s' u hn hr
  rcases attempt_cases cfg s u k with ⟨hc, h⟩ | ⟨hc, hk, h⟩ | ⟨hc, hk, h⟩ <;> rw [h]
  · rw [attempt_locked cfg s' u k (hcc ▸ hc), hcc]; exact ⟨rfl, hn, hr⟩
  · subst hk; rw [attempt_good cfg s' u (hcc ▸ hc)]
    exact ⟨rfl, hn, (if_pos rfl).trans (if_pos rfl).symm⟩
  · rw [attempt_fail cfg s' u k hk (hcc ▸ hc)]
    refine ⟨rfl, ?_, ?_⟩
    · rw [recordFailure_now, recordFailure_now, hn]
    · rw [recordFailure_self, recordFailure_self, hn, hr]

theorem answers_erase (cfg : Cfg) (u : U) (s s' : St U) (ops : List (Op U))
    (hn : s.now = s'.now) (hr : s.recs u = s'.recs u) :
    answers cfg u s ops = answers cfg u s' (erase u ops) := by
  induction ops generalizing s s' with
  | nil => rfl
  | cons op ops ih =>
    cases op with
    | attempt v k =>
      by_cases hv : v = u
      · subst hv
        obtain ⟨h2, h3, h4⟩ := attempt_congr cfg s s' v k hn hr
        simp only [erase, List.filter_cons, mine, decide_true, if_true, answers, stepOp]
        rw [← erase, ih _ _ h3 h4, h2, hn]
      · simp only [erase, List.filter_cons, mine, hv, decide_false, Bool.false_eq_true, if_false, answers, stepOp,
          List.nil_append]
        exact ih _ _ ((attempt_now cfg s v k).trans hn) ((attempt_other cfg s u v k (Ne.symm hv)).trans hr)
    | advance d => exact ih _ _ (congrArg (· + d) hn) hr
    | prune =>
      refine ih _ _ hn ?_
      show (prune cfg s).recs u = (prune cfg s').recs u
      simp only [prune, hn, hr]

/-- one step: an attempt of another user leaves u's record and the clock alone -/
theorem C24_independent_step (cfg : Cfg) (s : St U) (u v : U) (k : Kind) (h : u ≠ v) :
    (attempt cfg s v k).1.recs u = s.recs u ∧ (attempt cfg s v k).1.now = s.now ∧
    check cfg (attempt cfg s v k).1 u = check cfg s u :=
  ⟨attempt_other cfg s u v k h, attempt_now cfg s v k,
   check_congr cfg _ _ u (attempt_now cfg s v k) (attempt_other cfg s u v k h)⟩

/-- **C24_independent.**  For EVERY history: the events of `u` (times, outcomes, whether the
password was consulted) are exactly those of the history in which every attempt of every other
user has been erased (time steps and prunes kept). -/
theorem C24_independent (cfg : Cfg) (u : U) (ops : List (Op U)) :
    answers cfg u init ops = answers cfg u init (erase u ops) :=
  answers_erase cfg u init init ops rfl rfl

/-! ### the literal statement is false on the current code: the pruner forgets -/

/-- `C24_locked_partial` without its "the pruner has not forgotten" hypothesis -/
def C24_locked_statement : Prop :=
  ∀ (cfg : Cfg) (ops : List (Op Nat)) (u : Nat) (k : Kind) (t0 : Nat),
    (obsOf cfg u (hist cfg ops).evs).lockT = some t0 →
    (hist cfg ops).st.now < t0 + cfg.lockout →
    (attempt cfg (hist cfg ops).st u k).2.1.isLocked = true

/-- limit 2, lockout 10: a failure at t=0, the pruner runs at t=21 (> 0 + 2·10) and deletes the
record, a second consecutive failure at t=21 — two consecutive failures, limit 2, and the third
attempt at t=21 is not refused. -/
def forgetWitness : List (Op Nat) := [.attempt 0 .bad, .advance 21, .prune, .attempt 0 .bad]

theorem C24_locked_counterexample : ¬ C24_locked_statement := by
  intro h
  have := h ⟨2, 10⟩ forgetWitness 0 .bad 21 (by decide) (by decide)
  revert this; decide

/-- the witness is exactly the excluded class: the pruner forgot a failure of user 0 -/
example : (hist ⟨2, 10⟩ forgetWitness).forgot 0 = true := by decide

/-! ### why fixes/C24.patch: the unpatched guard `time.Now().After(rec.lockedUntil)` -/

/-- `RecordFailure` as it is WITHOUT the patch -/
def failRecOld (cfg : Cfg) (now : Nat) (old : Option Rec) : Rec :=
  let r0 : Rec := old.getD ⟨0, 0, 0⟩
  let f := r0.failures + 1
  if cfg.limit ≤ f ∧ r0.lockedUntil < now then ⟨f, now, now + cfg.lockout⟩ else ⟨f, now, r0.lockedUntil⟩

def recordFailureOld (cfg : Cfg) (s : St U) (u : U) : St U :=
  if cfg.limit = 0 then s
  else { s with recs := upd s.recs u (some (failRecOld cfg s.now (s.recs u))) }

/-- limit 1, lockout 10; user 0 failed at t=5 and was locked until t=15.  At t=15 exactly the check
lets the attempt through (15 is not before 15); the failure is recorded (count 2 ≥ 1) but 15 is
not after 15, so no new lockout starts: the user is not locked although its consecutive failures
just reached the limit.  (With the patched guard `C24_lock_window` excludes this.) -/
theorem C24_old_guard_counterexample :
    ∃ (cfg : Cfg) (s : St Nat) (u : Nat) (r : Rec),
      0 < cfg.limit ∧ 0 < cfg.lockout ∧ check cfg s u = 0 ∧
      (recordFailureOld cfg s u).recs u = some r ∧ cfg.limit ≤ r.failures ∧
      check cfg (recordFailureOld cfg s u) u = 0 :=
  ⟨⟨1, 10⟩, ⟨15, fun x => if x = 0 then some ⟨1, 5, 15⟩ else none⟩, 0, ⟨2, 15, 15⟩, by decide⟩

/-- … and that state is the one the limiter is in after `advance 5; fail; advance 10` -/
example : (srun ⟨1, 10⟩ (init : St Nat) [.advance 5, .attempt 0 .bad, .advance 10]).recs 0 = some ⟨1, 5, 15⟩ ∧
    (srun ⟨1, 10⟩ (init : St Nat) [.advance 5, .attempt 0 .bad, .advance 10]).now = 15 := by decide

/-! ### non-vacuity: each theorem's hypotheses are met by a non-trivial instance -/

-- C24_lock_window: limit 2, second consecutive failure of user 7 at t=3
example : let s := srun ⟨2, 10⟩ (init : St Nat) [.advance 3, .attempt 7 .bad]
    (attempt ⟨2, 10⟩ s 7 .empty).2.1 = .denied ∧
    (attempt ⟨2, 10⟩ s 7 .empty).1.recs 7 = some ⟨2, 3, 13⟩ := by decide

-- … and the conclusion is tight: at t₀ + lockout the user is consulted again
example : let s := srun ⟨2, 10⟩ (init : St Nat) [.advance 3, .attempt 7 .bad, .attempt 7 .bad, .advance 10]
    (attempt ⟨2, 10⟩ s 7 .good).2.1 = .ok := by decide

-- C24_locked_partial / C24_no_spurious: two failures, a right password by the owner, other users, a prune
def lockedWitness : List (Op Nat) :=
  [.attempt 1 .bad, .attempt 2 .bad, .attempt 1 .bad, .advance 9, .prune, .attempt 2 .good, .attempt 1 .good]

example : (hist ⟨2, 10⟩ lockedWitness).forgot 1 = false ∧
    (obsOf ⟨2, 10⟩ 1 (hist ⟨2, 10⟩ lockedWitness).evs).lockT = some 0 ∧
    (hist ⟨2, 10⟩ lockedWitness).st.now < 0 + 10 ∧
    (attempt ⟨2, 10⟩ (hist ⟨2, 10⟩ lockedWitness).st 1 .good).2.1.isLocked = true := by decide

-- C24_success_clears: a success after a failure; and a later refusal needs `limit` new failures
example : (attempt ⟨2, 10⟩ (hist ⟨2, 10⟩ [Op.attempt 1 .bad]).st 1 .good).2.1 = .ok := by decide

example : (attempt ⟨2, 10⟩ (hist ⟨2, 10⟩ ([Op.attempt 1 .bad] ++ [.attempt 1 .good] ++
    [.attempt 1 .bad, .attempt 1 .empty])).st 1 .good).2.1.isLocked = true ∧
    failCount 1 [Op.attempt 1 .bad, .attempt 1 .empty] = 2 := by decide

-- C24_independent: the erased history really is shorter, and user 1's answers include a refusal
example : erase 1 lockedWitness = [.attempt 1 .bad, .attempt 1 .bad, .advance 9, .prune, .attempt 1 .good] := rfl

-- C24_limit_zero_never_locks: seven failures, limit 0
example : (attempt ⟨0, 10⟩ (srun ⟨0, 10⟩ (init : St Nat) (List.replicate 7 (.attempt 1 .bad))) 1 .bad).2.1 = .denied := by
  decide

-- C24_prune_forgets_only_stale: the pruner does delete something
example : (prune ⟨2, 10⟩ (srun ⟨2, 10⟩ (init : St Nat) [.attempt 0 .bad, .advance 21])).recs 0 = none ∧
    (srun ⟨2, 10⟩ (init : St Nat) [.attempt 0 .bad, .advance 21]).recs 0 = some ⟨1, 0, 0⟩ := by decide

end EgoVerif.C24
