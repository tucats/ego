import EgoVerif.C27.Model
/-
The encryption framing, for every byte string, passphrase and primitive `P`: a successful `Decrypt` went through
`gcm.Open` on one of the three frames (what the unpatched tree violates, `C27_short_input_counterexample`); on a
well-formed frame the answer is the AEAD's verdict; under the functional AEAD law (`Laws`) an accepted string is
an honest encryption of the returned text, hence not shorter than nonce + tag.
-/
namespace EgoVerif.C27

/-- Hypotheses on the primitives.  `open_seal`/`open_only_seal`/`seal_len` are true of
AES-GCM *as a function* (deterministic given key and nonce, 16-byte tag); the transport
laws are decode∘encode = id.  Non-vacuity: `toy_laws` below. -/
structure Laws (P : Prim) : Prop where
  open_seal : ∀ k n p, P.gcmOpen k n (P.gcmSeal k n p) = some p
  open_only_seal : ∀ k n c p, P.gcmOpen k n c = some p → c = P.gcmSeal k n p
  seal_len : ∀ k n p, (P.gcmSeal k n p).length = p.length + 16
  b64_dec_enc : ∀ b, P.b64dec (P.b64enc b) = some b
  hex_dec_enc : ∀ b, P.hexdec (P.hexenc b) = some b

inductive Fmt where
  | v3 | v2 | legacy
  deriving DecidableEq, Repr

def ofOpen : Option Bytes → Res
  | some p => .ok p
  | none => .err .auth

/-! ## util/crypto.go -/

def utilFrame : Fmt → Bytes → Bytes → Bytes → Bytes
  | .v3, salt, nonce, c => magic3 ++ (salt ++ (nonce ++ c))
  | .v2, salt, nonce, c => magic2 ++ (salt ++ (nonce ++ c))
  | .legacy, _, nonce, c => nonce ++ c

def utilKey (P : Prim) : Fmt → Bytes → Bytes → Bytes
  | .v3, pass, salt => P.argon2id pass salt
  | .v2, pass, salt => P.pbkdf2 pass salt
  | .legacy, pass, _ => P.md5hex pass

/-- salt and nonce have the sizes the format prescribes (legacy has no salt) -/
def Sized (f : Fmt) (salt nonce : Bytes) : Prop :=
  nonce.length = 12 ∧ (f = .legacy ∨ salt.length = 16)

theorem aes_ok (P : Prim) (key data t : Bytes) (h : aesGCMDecrypt P key data = .ok t) :
    ∃ nonce c, data = nonce ++ c ∧ nonce.length = 12 ∧ P.gcmOpen key nonce c = some t := by
  unfold aesGCMDecrypt at h
  split at h
  · cases h
  · rename_i hlen
    refine ⟨data.take nonceSize, data.drop nonceSize, (List.take_append_drop _ _).symm, ?_, ?_⟩
    · simp [nonceSize] at hlen ⊢; omega
    · split at h
      · rename_i p hp; cases h; exact hp
      · cases h

theorem aes_frame (P : Prim) (key nonce c : Bytes) (hn : nonce.length = 12) :
    aesGCMDecrypt P key (nonce ++ c) = ofOpen (P.gcmOpen key nonce c) := by
  have h1 : ¬ nonceSize > (nonce ++ c).length := by
    rw [List.length_append, hn]; exact Nat.not_lt.2 (Nat.le_add_right _ _)
  rw [aesGCMDecrypt, if_neg h1, nonceSize, ← hn, List.take_left' rfl, List.drop_left' rfl]
  cases P.gcmOpen key nonce c <;> rfl

/-- The hypothesis is the common body of `decryptArgon2id` and `decryptPBKDF2` (16 bytes of salt for the KDF,
then the AES-GCM frame) with the KDF a variable; likewise in `salted_frame`. -/
theorem salted_ok (P : Prim) (kdf : Bytes → Bytes → Bytes) (data pass t : Bytes)
    (h : (if data.length < saltLen then Res.err .short
          else aesGCMDecrypt P (kdf pass (data.take saltLen)) (data.drop saltLen)) = .ok t) :
    ∃ salt nonce c, data = salt ++ (nonce ++ c) ∧ salt.length = 16 ∧ nonce.length = 12 ∧
      P.gcmOpen (kdf pass salt) nonce c = some t := by
  by_cases hlen : data.length < saltLen
  · rw [if_pos hlen] at h; cases h
  · rw [if_neg hlen] at h
    obtain ⟨nonce, c, hd, hn, ho⟩ := aes_ok P _ _ _ h
    refine ⟨data.take saltLen, nonce, c, ?_, ?_, hn, ho⟩
    · rw [← hd]; exact (List.take_append_drop _ _).symm
    · rw [List.length_take]; exact Nat.min_eq_left (Nat.le_of_not_lt hlen)

theorem salted_frame (P : Prim) (kdf : Bytes → Bytes → Bytes) (salt nonce c pass : Bytes)
    (hs : salt.length = 16) (hn : nonce.length = 12) :
    (if (salt ++ (nonce ++ c)).length < saltLen then Res.err .short
     else aesGCMDecrypt P (kdf pass ((salt ++ (nonce ++ c)).take saltLen)) ((salt ++ (nonce ++ c)).drop saltLen)) =
      ofOpen (P.gcmOpen (kdf pass salt) nonce c) := by
  have h1 : ¬ (salt ++ (nonce ++ c)).length < saltLen := by
    rw [List.length_append, hs]; exact Nat.not_lt.2 (Nat.le_add_right _ _)
  rw [if_neg h1, saltLen, ← hs, List.take_left' rfl, List.drop_left' rfl, aes_frame P _ _ _ hn]

theorem take_eq_prefix {d m : Bytes} (h : (d.take m.length == m) = true) : d = m ++ d.drop m.length := by
  have := (List.take_append_drop m.length d).symm
  rw [eq_of_beq h] at this
  exact this

/-- **No success path bypasses the AEAD** (util.Decrypt): a returned text is always the
result of `gcm.Open` on a correctly split frame under the key derived from the caller's
passphrase. -/
theorem C27_util_success_needs_open (P : Prim) (d k t : Bytes) (h : utilDecrypt P d k = .ok t) :
    ∃ f salt nonce c, d = utilFrame f salt nonce c ∧ Sized f salt nonce ∧
      P.gcmOpen (utilKey P f k salt) nonce c = some t := by
  unfold utilDecrypt at h
  by_cases h3 : (d.length > magic3.length && d.take magic3.length == magic3) = true
  · rw [if_pos h3] at h
    obtain ⟨salt, nonce, c, hd, hs, hn, ho⟩ := salted_ok P P.argon2id _ _ _ h
    refine ⟨.v3, salt, nonce, c, ?_, ⟨hn, Or.inr hs⟩, ho⟩
    rw [utilFrame, ← hd]; exact take_eq_prefix (Bool.and_eq_true_iff.1 h3).2
  · rw [if_neg h3] at h
    by_cases h2 : (d.length > magic2.length && d.take magic2.length == magic2) = true
    · rw [if_pos h2] at h
      obtain ⟨salt, nonce, c, hd, hs, hn, ho⟩ := salted_ok P P.pbkdf2 _ _ _ h
      refine ⟨.v2, salt, nonce, c, ?_, ⟨hn, Or.inr hs⟩, ho⟩
      rw [utilFrame, ← hd]; exact take_eq_prefix (Bool.and_eq_true_iff.1 h2).2
    · rw [if_neg h2] at h
      obtain ⟨nonce, c, hd, hn, ho⟩ := aes_ok P _ _ _ h
      exact ⟨.legacy, [], nonce, c, hd, ⟨hn, Or.inl rfl⟩, ho⟩

theorem magic_test_self (m x : Bytes) (hx : 0 < x.length) :
    ((m ++ x).length > m.length && (m ++ x).take m.length == m) = true := by
  rw [List.take_left' rfl, beq_self_eq_true, Bool.and_true, List.length_append, decide_eq_true_eq]
  exact Nat.lt_add_of_pos_right hx

theorem salted_pos {salt : Bytes} (x : Bytes) (hs : salt.length = 16) : 0 < (salt ++ x).length := by
  rw [List.length_append, hs]; exact Nat.lt_of_lt_of_le (by decide) (Nat.le_add_right _ _)

/-- On a v3 frame (whatever salt, nonce, ciphertext an attacker puts there, whatever
passphrase) the answer is exactly AES-GCM's verdict under the Argon2id key. -/
theorem C27_util_v3_verdict (P : Prim) (salt nonce c k : Bytes) (hs : salt.length = 16) (hn : nonce.length = 12) :
    utilDecrypt P (utilFrame .v3 salt nonce c) k = ofOpen (P.gcmOpen (P.argon2id k salt) nonce c) := by
  rw [utilDecrypt, utilFrame, if_pos (magic_test_self magic3 _ (salted_pos _ hs)), List.drop_left' rfl]
  exact salted_frame P P.argon2id _ _ _ _ hs hn

/-- Same for a v2 (PBKDF2) frame. -/
theorem C27_util_v2_verdict (P : Prim) (salt nonce c k : Bytes) (hs : salt.length = 16) (hn : nonce.length = 12) :
    utilDecrypt P (utilFrame .v2 salt nonce c) k = ofOpen (P.gcmOpen (P.pbkdf2 k salt) nonce c) := by
  -- the two magics have the same length and differ, so the v3 test fails on a v2 frame
  have h0 : ¬ ((magic2 ++ (salt ++ (nonce ++ c))).length > magic3.length &&
      (magic2 ++ (salt ++ (nonce ++ c))).take magic3.length == magic3) = true := by
    rw [show magic3.length = magic2.length from rfl, List.take_left' rfl, show (magic2 == magic3) = false from rfl,
      Bool.and_false]
    exact Bool.false_ne_true
  rw [utilDecrypt, utilFrame, if_neg h0, if_pos (magic_test_self magic2 _ (salted_pos _ hs)), List.drop_left' rfl]
  exact salted_frame P P.pbkdf2 _ _ _ _ hs hn

/-- A legacy frame (one that does not start with either magic) gets AES-GCM's verdict under the MD5 key. -/
theorem C27_util_legacy_verdict (P : Prim) (nonce c k : Bytes) (hn : nonce.length = 12)
    (h3 : (nonce ++ c).take 4 ≠ magic3) (h2 : (nonce ++ c).take 4 ≠ magic2) :
    utilDecrypt P (utilFrame .legacy [] nonce c) k = ofOpen (P.gcmOpen (P.md5hex k) nonce c) := by
  have g : ∀ m : Bytes, m.length = 4 → (nonce ++ c).take 4 ≠ m →
      ¬ ((nonce ++ c).length > m.length && (nonce ++ c).take m.length == m) = true := by
    intro m hm hne hh
    rw [hm] at hh
    exact hne (eq_of_beq (Bool.and_eq_true_iff.1 hh).2)
  rw [utilDecrypt, utilFrame, if_neg (g magic3 rfl h3), if_neg (g magic2 rfl h2), legacyDecrypt, aes_frame P _ _ _ hn]

/-- **Round trip** (util): for every plaintext, passphrase, 16-byte salt and 12-byte nonce. -/
theorem C27_util_roundtrip (P : Prim) (L : Laws P) (salt nonce p k : Bytes)
    (hs : salt.length = 16) (hn : nonce.length = 12) :
    utilDecrypt P (utilEncrypt P salt nonce p k) k = .ok p :=
  -- `utilEncrypt` builds a v3 frame
  (C27_util_v3_verdict P salt nonce _ k hs hn).trans (congrArg ofOpen (L.open_seal _ _ _))

/-- **Different key** (util): presenting an honest v3 ciphertext with another passphrase `k'`
yields exactly AES-GCM's verdict on it under the key derived from `k'` — rejection of a wrong
key is the AEAD's (assumed) property, and passphrases the KDF maps to the same key are
interchangeable (cf. known finding `v2-hmac-equivalent-key` for the PBKDF2 format). -/
theorem C27_util_other_key_verdict (P : Prim) (salt nonce p k k' : Bytes)
    (hs : salt.length = 16) (hn : nonce.length = 12) :
    utilDecrypt P (utilEncrypt P salt nonce p k) k' =
      ofOpen (P.gcmOpen (P.argon2id k' salt) nonce (P.gcmSeal (P.argon2id k salt) nonce p)) :=
  C27_util_v3_verdict P salt nonce _ k' hs hn

/-- `d` is an honest encryption (in one of the three formats) of `t` under passphrase `k`. -/
def UtilHonest (P : Prim) (k t d : Bytes) : Prop :=
  ∃ f salt nonce, Sized f salt nonce ∧ d = utilFrame f salt nonce (P.gcmSeal (utilKey P f k salt) nonce t)

/-- **Everything else is rejected** (util): whatever string is accepted with text `t` under
passphrase `k` IS an honest encryption of `t` under `k`.  Producing such a string without the passphrase is
the AEAD forgery problem — computational, ASSUMED (trusted base). -/
theorem C27_util_reject_else (P : Prim) (L : Laws P) (d k t : Bytes) (h : utilDecrypt P d k = .ok t) :
    UtilHonest P k t d := by
  obtain ⟨f, salt, nonce, c, hd, hsz, ho⟩ := C27_util_success_needs_open P d k t h
  exact ⟨f, salt, nonce, hsz, by rw [hd, L.open_only_seal _ _ _ _ ho]⟩

/-- contrapositive form: a string that is not an honest encryption of anything under `k` is an error -/
theorem C27_util_forged_is_error (P : Prim) (L : Laws P) (d k : Bytes)
    (h : ∀ t, ¬ UtilHonest P k t d) : ∃ e, utilDecrypt P d k = .err e := by
  cases hr : utilDecrypt P d k with
  | ok t => exact absurd (C27_util_reject_else P L d k t hr) (h t)
  | err e => exact ⟨e, rfl⟩

theorem utilFrame_length_ge (f : Fmt) (salt nonce c : Bytes) (hn : nonce.length = 12) :
    (utilFrame f salt nonce c).length ≥ c.length + 12 := by
  cases f <;> simp only [utilFrame, List.length_append, hn] <;> omega

/-- **Truncated / short input** (util): an accepted string is at least nonce + tag longer
than the returned text, so every input shorter than 28 bytes is an error — in particular
the empty string and every truncation of a ciphertext into its header. -/
theorem C27_util_min_length (P : Prim) (L : Laws P) (d k t : Bytes) (h : utilDecrypt P d k = .ok t) :
    d.length ≥ t.length + 28 := by
  obtain ⟨f, salt, nonce, hsz, hd⟩ := C27_util_reject_else P L d k t h
  have := utilFrame_length_ge f salt nonce (P.gcmSeal (utilKey P f k salt) nonce t) hsz.1
  rw [L.seal_len] at this
  rw [hd]; omega

theorem C27_util_short_is_error (P : Prim) (L : Laws P) (d k : Bytes) (h : d.length < 28) :
    ∃ e, utilDecrypt P d k = .err e := by
  cases hr : utilDecrypt P d k with
  | ok t => have := C27_util_min_length P L d k t hr; omega
  | err e => exact ⟨e, rfl⟩

/-- The tree without fixes/C27.patch accepts the empty string, and a v3 magic followed by three bytes,
with empty text, for every passphrase and every primitive — although no honest encryption is that short. -/
theorem C27_short_input_counterexample (P : Prim) (k : Bytes) :
    utilDecryptUnpatched P [] k = .ok [] ∧ utilDecryptUnpatched P (magic3 ++ [1, 2, 3]) k = .ok [] := by
  constructor <;> rfl

theorem aes_unpatched (P : Prim) (key data : Bytes) :
    aesGCMDecryptUnpatched P key data =
      (match aesGCMDecrypt P key data with | .err .short => .ok [] | r => r) := by
  unfold aesGCMDecryptUnpatched aesGCMDecrypt
  split
  · rfl
  · cases P.gcmOpen key (List.take nonceSize data) (List.drop nonceSize data) <;> rfl

theorem salted_unpatched (P : Prim) (kdf : Bytes → Bytes → Bytes) (data pass : Bytes) :
    (if data.length < saltLen then Res.ok []
     else aesGCMDecryptUnpatched P (kdf pass (data.take saltLen)) (data.drop saltLen)) =
      (match (if data.length < saltLen then Res.err .short
              else aesGCMDecrypt P (kdf pass (data.take saltLen)) (data.drop saltLen)) with
       | .err .short => .ok [] | r => r) := by
  by_cases hl : data.length < saltLen
  · rw [if_pos hl, if_pos hl]
  · rw [if_neg hl, if_neg hl]; exact aes_unpatched P _ _

/-- The unpatched `Decrypt` differs from the repaired one exactly by answering `ok ""`
where the repaired one answers `err short` (so every theorem above holds for it on the
inputs that pass the length guards). -/
theorem C27_unpatched_partial (P : Prim) (d k : Bytes) :
    utilDecryptUnpatched P d k =
      (match utilDecrypt P d k with | .err .short => .ok [] | r => r) := by
  unfold utilDecryptUnpatched utilDecrypt
  by_cases h3 : (d.length > magic3.length && d.take magic3.length == magic3) = true
  · rw [if_pos h3, if_pos h3]; exact salted_unpatched P P.argon2id _ _
  · rw [if_neg h3, if_neg h3]
    by_cases h2 : (d.length > magic2.length && d.take magic2.length == magic2) = true
    · rw [if_pos h2, if_pos h2]; exact salted_unpatched P P.pbkdf2 _ _
    · rw [if_neg h2, if_neg h2]; exact aes_unpatched P _ _

/-! ## settings/crypto.go -/

def sPrefix : Fmt → Bytes
  | .v3 => pfx3
  | .v2 => pfx2
  | .legacy => []

def sFrame : Fmt → Bytes → Bytes → Bytes → Bytes
  | .v3, salt, nonce, c => salt ++ (nonce ++ c)
  | _, _, nonce, c => nonce ++ c

def sKey (P : Prim) : Fmt → Bytes → Bytes → Bytes
  | .v3, pass, salt => P.argon2id pass salt
  | .v2, pass, _ => P.sha256 pass
  | .legacy, pass, _ => P.md5hex pass

def sSized (f : Fmt) (salt nonce : Bytes) : Prop :=
  nonce.length = 12 ∧ (f ≠ .v3 ∨ salt.length = 16)

theorem b64_ok {r : Option Bytes} {f : Bytes → Res} {t : Bytes}
    (h : (match r with | none => Res.err .b64 | some src => f src) = .ok t) : ∃ src, r = some src ∧ f src = .ok t := by
  cases r with
  | none => cases h
  | some src => exact ⟨src, rfl, h⟩

/-- **No success path bypasses the AEAD** (settings.Decrypt). -/
theorem C27_settings_success_needs_open (P : Prim) (d k t : Bytes) (h : settingsDecrypt P d k = .ok t) :
    ∃ f body salt nonce c, d = sPrefix f ++ body ∧ P.b64dec body = some (sFrame f salt nonce c) ∧
      sSized f salt nonce ∧ P.gcmOpen (sKey P f k salt) nonce c = some t := by
  unfold settingsDecrypt at h
  by_cases hp3 : hasPrefix d pfx3 = true
  · rw [if_pos hp3] at h
    obtain ⟨src, hsrc, h⟩ := b64_ok h
    obtain ⟨salt, nonce, c, hd, hs, hn, ho⟩ := salted_ok P P.argon2id _ _ _ h
    exact ⟨.v3, d.drop pfx3.length, salt, nonce, c, take_eq_prefix hp3, by rw [hsrc, hd]; rfl, ⟨hn, Or.inr hs⟩, ho⟩
  · rw [if_neg hp3] at h
    by_cases hp2 : hasPrefix d pfx2 = true
    · rw [if_pos hp2] at h
      obtain ⟨src, hsrc, h⟩ := b64_ok h
      obtain ⟨nonce, c, hd, hn, ho⟩ := aes_ok P _ _ _ h
      exact ⟨.v2, d.drop pfx2.length, [], nonce, c, take_eq_prefix hp2, by rw [hsrc, hd]; rfl,
        ⟨hn, Or.inl (by decide)⟩, ho⟩
    · rw [if_neg hp2] at h
      obtain ⟨src, hsrc, h⟩ := b64_ok h
      obtain ⟨nonce, c, hd, hn, ho⟩ := aes_ok P _ _ _ h
      exact ⟨.legacy, d, [], nonce, c, rfl, by rw [hsrc, hd]; rfl, ⟨hn, Or.inl (by decide)⟩, ho⟩

theorem hasPrefix_self (p b : Bytes) : hasPrefix (p ++ b) p = true := by
  rw [hasPrefix, List.take_left' rfl]; exact beq_self_eq_true p

theorem hasPrefix_pfx2_pfx3 (b : Bytes) : hasPrefix (pfx2 ++ b) pfx3 = false := by
  rw [hasPrefix, show pfx3.length = pfx2.length from rfl, List.take_left' rfl]; rfl

/-- On `"v3:" ++ body` the answer depends only on what `body` base64-decodes to, and on a
decoded v3 frame it is AES-GCM's verdict under the Argon2id key. -/
theorem C27_settings_v3_verdict (P : Prim) (body salt nonce c k : Bytes)
    (hb : P.b64dec body = some (salt ++ (nonce ++ c))) (hs : salt.length = 16) (hn : nonce.length = 12) :
    settingsDecrypt P (pfx3 ++ body) k = ofOpen (P.gcmOpen (P.argon2id k salt) nonce c) := by
  rw [settingsDecrypt, if_pos (hasPrefix_self _ _), List.drop_left' rfl, hb]
  exact salted_frame P P.argon2id _ _ _ _ hs hn

/-- **Round trip** (settings). -/
theorem C27_settings_roundtrip (P : Prim) (L : Laws P) (salt nonce p k : Bytes)
    (hs : salt.length = 16) (hn : nonce.length = 12) :
    settingsDecrypt P (settingsEncrypt P salt nonce p k) k = .ok p :=
  (C27_settings_v3_verdict P _ salt nonce _ k (L.b64_dec_enc _) hs hn).trans (congrArg ofOpen (L.open_seal _ _ _))

/-- `d` is a transport encoding of an honest encryption of `t` under `k` (settings formats) -/
def SettingsHonest (P : Prim) (k t d : Bytes) : Prop :=
  ∃ f body salt nonce, sSized f salt nonce ∧ d = sPrefix f ++ body ∧
    P.b64dec body = some (sFrame f salt nonce (P.gcmSeal (sKey P f k salt) nonce t))

/-- **Everything else is rejected** (settings): an accepted string base64-decodes to an
honest encryption of the returned text under the caller's passphrase. -/
theorem C27_settings_reject_else (P : Prim) (L : Laws P) (d k t : Bytes) (h : settingsDecrypt P d k = .ok t) :
    SettingsHonest P k t d := by
  obtain ⟨f, body, salt, nonce, c, hd, hb, hsz, ho⟩ := C27_settings_success_needs_open P d k t h
  exact ⟨f, body, salt, nonce, hsz, hd, by rw [hb, L.open_only_seal _ _ _ _ ho]⟩

/-- The verdict depends on the ciphertext string only through its base64 decoding: two
strings with the same prefix whose bodies decode alike get the same answer.  (Go's
`base64.StdEncoding.DecodeString` ignores CR/LF and non-zero trailing bits, so such
aliases exist — known finding `settings-base64-alias`; by this theorem they can only
yield the ORIGINAL text.) -/
theorem C27_settings_alias_same_verdict (P : Prim) (f : Fmt) (b1 b2 k : Bytes)
    (h : P.b64dec b1 = P.b64dec b2)
    (h1 : f = .legacy → hasPrefix b1 pfx3 = false ∧ hasPrefix b1 pfx2 = false)
    (h2 : f = .legacy → hasPrefix b2 pfx3 = false ∧ hasPrefix b2 pfx2 = false) :
    settingsDecrypt P (sPrefix f ++ b1) k = settingsDecrypt P (sPrefix f ++ b2) k := by
  cases f
  · rw [sPrefix, settingsDecrypt, settingsDecrypt, if_pos (hasPrefix_self _ _), if_pos (hasPrefix_self _ _),
      List.drop_left' rfl, List.drop_left' rfl, h]
  · rw [sPrefix, settingsDecrypt, settingsDecrypt, if_neg (ne_true_of_eq_false (hasPrefix_pfx2_pfx3 _)),
      if_neg (ne_true_of_eq_false (hasPrefix_pfx2_pfx3 _)), if_pos (hasPrefix_self _ _), if_pos (hasPrefix_self _ _),
      List.drop_left' rfl, List.drop_left' rfl, h]
  · obtain ⟨a1, a2⟩ := h1 rfl
    obtain ⟨c1, c2⟩ := h2 rfl
    rw [sPrefix, List.nil_append, List.nil_append, settingsDecrypt, settingsDecrypt, if_neg (ne_true_of_eq_false a1),
      if_neg (ne_true_of_eq_false a2), if_neg (ne_true_of_eq_false c1), if_neg (ne_true_of_eq_false c2), h]

theorem sFrame_length_ge (f : Fmt) (salt nonce c : Bytes) (hn : nonce.length = 12) :
    (sFrame f salt nonce c).length ≥ c.length + 12 := by
  cases f <;> simp only [sFrame, List.length_append, hn] <;> omega

theorem C27_settings_min_length (P : Prim) (L : Laws P) (d k t : Bytes) (h : settingsDecrypt P d k = .ok t) :
    ∃ body raw, P.b64dec body = some raw ∧ raw.length ≥ t.length + 28 ∧ body.length ≤ d.length := by
  obtain ⟨f, body, salt, nonce, hsz, hd, hb⟩ := C27_settings_reject_else P L d k t h
  have := sFrame_length_ge f salt nonce (P.gcmSeal (sKey P f k salt) nonce t) hsz.1
  rw [L.seal_len] at this
  exact ⟨body, _, hb, by omega, by rw [hd, List.length_append]; exact Nat.le_add_left _ _⟩

/-! ## tokens/unwrap.go -/

theorem token_ok {P : Prim} {ok : Bytes → Bool} {s k j : Bytes} (h : tokenUnwrap P ok s k = .ok j) :
    ∃ b, P.hexdec s = some b ∧ utilDecrypt P b k = .ok j ∧ j ≠ [] ∧ ok j = true := by
  unfold tokenUnwrap at h
  split at h
  · cases h
  · rename_i b hb
    split at h
    · cases h
    · rename_i j' hj
      split at h
      · cases h
      · rename_i hne
        split at h
        · rename_i hok
          cases h
          exact ⟨b, hb, hj, fun hnil => hne (by simp [hnil]), hok⟩
        · cases h

/-- **No success path bypasses the AEAD** (tokens.Unwrap): an accepted token string
hex-decodes to bytes that `util.Decrypt` accepted with a non-empty payload. -/
theorem C27_token_success_needs_open (P : Prim) (ok : Bytes → Bool) (s k j : Bytes)
    (h : tokenUnwrap P ok s k = .ok j) :
    ∃ b f salt nonce c, P.hexdec s = some b ∧ b = utilFrame f salt nonce c ∧ Sized f salt nonce ∧
      P.gcmOpen (utilKey P f k salt) nonce c = some j ∧ j ≠ [] ∧ ok j = true := by
  obtain ⟨b, hb, hj, hne, hok⟩ := token_ok h
  obtain ⟨f, salt, nonce, c, hd, hsz, ho⟩ := C27_util_success_needs_open P b k j hj
  exact ⟨b, f, salt, nonce, c, hb, hd, hsz, ho, hne, hok⟩

/-- **Round trip** (tokens): `Unwrap (New json) = json` for every non-empty acceptable payload. -/
theorem C27_token_roundtrip (P : Prim) (L : Laws P) (ok : Bytes → Bool) (salt nonce json k : Bytes)
    (hs : salt.length = 16) (hn : nonce.length = 12) (hne : json ≠ []) (hok : ok json = true) :
    tokenUnwrap P ok (tokenNew P salt nonce json k) k = .ok json := by
  unfold tokenUnwrap tokenNew
  rw [L.hex_dec_enc]
  simp only [C27_util_roundtrip P L salt nonce json k hs hn]
  have : ¬ (json.length == 0) = true := by
    cases json with
    | nil => exact absurd rfl hne
    | cons a l => simp
  rw [if_neg this, if_pos hok]

/-- **Everything else is rejected** (tokens): an accepted token string hex-decodes to an
honest encryption of its payload under the server's token key. -/
theorem C27_token_reject_else (P : Prim) (L : Laws P) (ok : Bytes → Bool) (s k j : Bytes)
    (h : tokenUnwrap P ok s k = .ok j) :
    ∃ b, P.hexdec s = some b ∧ UtilHonest P k j b ∧ b.length ≥ j.length + 28 := by
  obtain ⟨b, hb, hj, _, _⟩ := token_ok h
  exact ⟨b, hb, C27_util_reject_else P L b k j hj, C27_util_min_length P L b k j hj⟩

/-! ## non-vacuity: a primitive satisfying `Laws`, and instances of every hypothesis -/

def toy : Prim where
  argon2id p s := p ++ s
  pbkdf2 p s := s ++ p
  md5hex p := p
  sha256 p := p
  gcmSeal _ _ p := List.replicate 16 0 ++ p
  gcmOpen _ _ c := if c.take 16 = List.replicate 16 0 then some (c.drop 16) else none
  b64enc b := b
  b64dec b := some b
  hexenc b := b
  hexdec b := some b

theorem toy_laws : Laws toy where
  open_seal := by intro k n p; simp [toy]
  open_only_seal := by
    intro k n c p h
    simp only [toy] at h ⊢
    split at h
    · rename_i ht
      cases h
      rw [← ht]; exact (List.take_append_drop 16 c).symm
    · cases h
  seal_len := by intro k n p; simp [toy]
  b64_dec_enc := by intro b; rfl
  hex_dec_enc := by intro b; rfl

def salt0 : Bytes := List.replicate 16 7
def nonce0 : Bytes := List.replicate 12 9

example : utilDecrypt toy (utilEncrypt toy salt0 nonce0 [1, 2, 3] [5]) [5] = .ok [1, 2, 3] := by decide +kernel
example : settingsDecrypt toy (settingsEncrypt toy salt0 nonce0 [1, 2, 3] [5]) [5] = .ok [1, 2, 3] := by decide +kernel
example : tokenUnwrap toy (fun _ => true) (tokenNew toy salt0 nonce0 [1] [5]) [5] = .ok [1] := by decide +kernel
-- the hypothesis of `C27_util_short_is_error` is met by a non-trivial input
example : ∃ e, utilDecrypt toy (magic3 ++ salt0) [5] = .err e := C27_util_short_is_error toy toy_laws _ _ (by decide)
-- legacy verdict: hypotheses satisfiable
example : (nonce0 ++ [1, 2]).take 4 ≠ magic3 ∧ (nonce0 ++ [1, 2]).take 4 ≠ magic2 := by decide
-- a rejected tampering in the toy instance (tag byte flipped)
example : utilDecrypt toy (magic3 ++ (salt0 ++ (nonce0 ++ (1 :: List.replicate 15 0 ++ [1, 2, 3])))) [5] = .err .auth := by decide +kernel

end EgoVerif.C27
